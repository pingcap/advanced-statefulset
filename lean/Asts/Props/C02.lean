import Asts.Proofs.C02_Target
import Asts.Proofs.C02_Round
import Asts.Proofs.C02_Idem
import Asts.Proofs.C02_Policies
import Asts.Proofs.C02_BConverge

/-! # C02 — reconciliation converges to exactly the desired pods and then goes quiet

Model: `syncF` (`Model/Sync.lean`, one whole `sync` + `UpdateStatefulSet`), `settle`, `applySync`, `round` (`Model/World.lean`).
Spec: `wfWorld`, `finalState`, `silentOk` (`Spec/World.lean`). Lemmas: `Asts/Proofs/C02_*.lean` (namespace `Asts.C02p`).

## Part 1 — quiescence (this file, fully proved, for EVERY hashing function, store, pod list; no size bound)

`Final h i` (`finalB` in `Proofs/C02_Defs.lean`, a decidable predicate) says of a world `i`:
* spec: not paused, selector parses, not being deleted, `replicas` present and `≥ 0`, strategy RollingUpdate or OnDelete,
  history limit present and `≥ 0`;
* pods: every pod owned by the set matches the selector, is a member, carries the canonical name of its ordinal, its ordinal
  is desired, it is Running ∧ Ready ∧ not terminating, identity and storage match, and — under RollingUpdate, at or above
  the partition — it is at `status.updateRevision`; every desired ordinal is held by an owned pod and there are exactly
  `|desired|` owned pods; no orphan pod is adoptable (an orphan fails the selector / is no member / is terminating);
* revisions: the newest listed revision (after `SortControllerRevisions`) is named `status.updateRevision` and `EqualRevision`
  to the revision built from the template (this is where the hashing enters); `status.currentRevision` names a listed
  revision; no listed revision is an orphan; the listed owned revisions not named by the status or by a pod are within the
  history limit;
* status: the cached status equals the census of the owned pods after the completion rule (`observedGeneration` may be ahead).

Hypotheses the theorems do NOT need: nothing on `fresh` (the uncached GET is never made), on `view.stCurrentReplicas` (no pod is
created), on pod ids or list order, on pods owned by somebody else. -/
namespace Asts.C02
open Asts Asts.C02p

/-- the quiescent state (see the header for its reading) -/
abbrev Final (h : Hashing) (i : SyncIn) : Prop := Asts.C02p.Final h i

/-- **Quiescence.** In a `Final` world a reconcile issues no write at all (its whole call log is four `list:revs`) and returns
    success — for every hashing function. -/
theorem C02_quiescent (h : Hashing) (i : SyncIn) (hf : Final h i) :
    (syncF h i []).log.filter isWrite = [] ∧ (syncF h i []).outcome = .ok :=
  final_quiet hf

/-- The same with the whole output spelled out: the log, no status write, the store untouched, no pod action. -/
theorem C02_quiescent_output (h : Hashing) (i : SyncIn) (hf : Final h i) :
    syncF h i [] = { log := ["list:revs", "list:revs", "list:revs", "list:revs"], status := none, cc := none, store := i.store,
                     cur := i.stored.currentRev, upd := i.stored.updateRev, claimed := ownPods i, acts := [], actsDone := 0,
                     outcome := .ok } :=
  syncF_final h i hf

/-- `Final` is the state the property promises: `finalState` of `Spec/World.lean` (own pods = the desired ordinals by canonical
    name, each healthy with its identity, at the update revision where RollingUpdate reaches; `status.replicas =
    status.readyReplicas = spec.replicas`). -/
theorem C02_final_is_target (h : Hashing) (i : SyncIn) (hf : Final h i) (out : String) (w : Nat) (revs : List Rev) :
    finalState i { out := out, writes := w, pods := i.pods, revs := revs, status := i.stored } = true :=
  final_finalState hf out w revs

/-- `status.replicas = status.readyReplicas = spec.replicas`, spelled out. -/
theorem C02_final_counts (h : Hashing) (i : SyncIn) (hf : Final h i) :
    i.stored.replicas = replicasOf i.view ∧ i.stored.ready = replicasOf i.view :=
  final_counts hf

/-- `Final` survives the fairness step (caches catch up, pods become ready). -/
theorem C02_final_settle (h : Hashing) (i : SyncIn) (hf : Final h i) : Final h (settle i) :=
  final_settle h i hf

/-- **Stability.** A round (settle; sync; apply the writes) from a `Final` world ends in a `Final` world. -/
theorem C02_final_stable (h : Hashing) (i : SyncIn) (hf : Final h i) : Final h (round h i []).1 :=
  final_round h i hf

/-- The observation of such a round is what the monitor `C02quiet` looks for: silent, successful, in the target state. -/
theorem C02_final_round_observed (h : Hashing) (i : SyncIn) (hf : Final h i) :
    silentOk (round h i []).2 = true ∧ finalState i (round h i []).2 = true :=
  final_round_obs hf

/-- **From then on a reconcile issues no write at all**: after any number of further rounds the world is still `Final`, and
    the next round is silent, successful and in the target state. -/
theorem C02_quiet_forever (h : Hashing) (i : SyncIn) (hf : Final h i) (n : Nat) :
    Final h (roundsN h n i) ∧ silentOk (round h (roundsN h n i) []).2 = true ∧
    finalState (roundsN h n i) (round h (roundsN h n i) []).2 = true :=
  ⟨final_roundsN hf n, final_round_obs (final_roundsN hf n)⟩

/-! ### non-vacuity: three replicas with slot 1 (desired 0,2,3), partition 2, two revisions, a foreign pod -/

def exH : Hashing := { nameOf := fun d c => d ++ "-" ++ toString c, hashNumOf := fun _ _ => none }

def exPod (k : Nat) (o : Int) (rev : String) : CPod :=
  { name := canonicalName "web" o, owner := .self, selMatch := true, member := true,
    pod := { id := k, ord := o, phase := .running, ready := true, terminating := false, rev := rev, idOk := true, stOk := true } }

def exWorld : SyncIn :=
  { setName := "web", paused := false, selectorOk := true,
    view := { replicas := some 3, slots := [1], parallel := true, strat := .rolling, ru := some (some 2), deleting := false,
              generation := 4, stCurrentReplicas := 1 },
    stored := { replicas := 3, ready := 3, current := 1, updated := 2, currentRev := "web-a", updateRev := "web-b", observedGen := 4 },
    collisionCount := none, historyLimit := some 1, template := "B",
    fresh := { gone := false, uidOk := true, deleting := false },
    store := [ { name := "web-a", number := 1, ctime := 0, data := "A", hashNum := none, owner := .self, selMatch := true, marker := false },
               { name := "web-b", number := 2, ctime := 0, data := "B", hashNum := none, owner := .self, selMatch := true, marker := false } ],
    pods := [ exPod 0 0 "web-a", exPod 1 2 "web-b", exPod 2 3 "web-b",
              { name := "other", owner := .other, selMatch := true, member := false,
                pod := { id := 3, ord := -1, phase := .pending, ready := false, terminating := false, rev := "", idOk := true, stOk := true } } ] }

example : Final exH exWorld := by decide +kernel

/-- `Final` is not implied by the target state alone: the same pods with a stale `status.updatedReplicas` are in
    `finalState` but the reconcile writes the status -/
example : Final exH { exWorld with stored := { exWorld.stored with updated := 1 } } = False := by
  simp only [eq_iff_iff, iff_false]; decide +kernel

/-! ## Part 2 — the premises are invariant (progress lemmas (a) and (b); all worlds, no size bound, ANY fault plan)

`settle` is the fairness step; `round h i plan` is `settle; sync (with the fault plan); apply the writes that took effect`.
The state right after a round is not inside `wfWorld` (a pod created in the round has no phase yet), the state after the next
fairness step is. The revision clause of `wfWorld` looks at the next eight probe names only and is NOT inductive (the collision
count can move past them: `wf_probe_clause_not_inductive` below); `RevProbeFree` is its inductive form (no revision that the
listing cannot see sits on ANY later probe name; trivially true when every stored revision is listed). -/

/-- no revision that `ListRevisions` cannot see sits on a name `createControllerRevision` may still probe -/
abbrev RevProbeFree (h : Hashing) (i : SyncIn) : Prop := Asts.C02p.RevProbeFree h i

/-- (a) the fairness step keeps a world inside the premises. -/
theorem C02_settle_wf (h : Hashing) (i : SyncIn) (hw : wfWorld h i = true) : wfWorld h (settle i) = true :=
  wfWorld_settle h i hw

/-- (a) the fairness step is idempotent — when no two pod objects share a name (object names are unique in a namespace;
    the insertion sort of `settle` reverses the order of equal names, see the `example` below). -/
theorem C02_settle_idempotent (i : SyncIn) (hn : (i.pods.map (·.name)).Nodup) : settle (settle i) = settle i :=
  settle_idem i (settle_names_nodup i hn)

/-- (b) **a round keeps a world inside the premises — whatever the fault plan** (this is also the "partial work is
    harmless" half of C09: after a reconcile that was cut short by any failing call, the world, once settled, is again a
    world C02 speaks about). -/
theorem C02_round_wf (h : Hashing) (i : SyncIn) (plan : List Fault) (hw : wfWorld h i = true) (hp : RevProbeFree h i) :
    wfWorld h (settle (round h i plan).1) = true ∧ RevProbeFree h (settle (round h i plan).1) :=
  wf_round h i plan hw hp

/-- `RevProbeFree` holds when every stored revision is visible to the listing. -/
theorem C02_probeFree_of_visible (h : Hashing) (i : SyncIn)
    (hv : ∀ r ∈ i.store, r.owner ≠ .other ∧ (r.selMatch = true ∨ r.marker = true)) : RevProbeFree h i := by
  intro r hr
  left
  obtain ⟨h1, h2⟩ := hv r hr
  unfold visB
  simp only [Bool.and_eq_true, bne_iff_ne, ne_eq, Bool.or_eq_true]
  exact ⟨h1, h2⟩

/-- structure of a sync under any fault plan: every action comes from `updateStatefulSet` on this set's view, invisible
    revisions are never created or renamed, and a written status carries a collision count that did not go down -/
theorem C02_sync_structure (h : Hashing) (i : SyncIn) (plan : List Fault) :
    (∀ a ∈ (syncF h i plan).acts, ∃ cur upd pods f, a ∈ (updateStatefulSet i.view cur upd pods f).1.acts) ∧
    StoreLe i.store (syncF h i plan).store ∧
    ((syncF h i plan).status.isSome = true → ∃ c, (syncF h i plan).cc = some c ∧ i.collisionCount.getD 0 ≤ c) :=
  ⟨(syncF_ok h i plan).acts, (syncF_ok h i plan).store, (syncF_ok h i plan).cc⟩

/-! ### findings recorded as checked examples -/

private def dupPod (k : Nat) (rev : String) : CPod :=
  { name := "web-0", owner := .self, selMatch := true, member := true,
    pod := { id := k, ord := 0, phase := .running, ready := true, terminating := false, rev := rev, idOk := true, stOk := true } }

/-- two pods with one name: `settle` is not idempotent (the hypothesis of `C02_settle_idempotent` is needed) -/
theorem settle_not_idempotent_with_duplicate_names :
    (settle (settle { exWorld with pods := [dupPod 0 "a", dupPod 1 "b"] })).pods ≠
      (settle { exWorld with pods := [dupPod 0 "a", dupPod 1 "b"] }).pods := by decide +kernel

private def cxH : Hashing := { nameOf := fun _ c => "n" ++ toString c, hashNumOf := fun _ _ => none }
private def cxVis (k : Nat) : Rev :=
  { name := "n" ++ toString k, number := k + 1, ctime := 0, data := "X" ++ toString k, hashNum := none, owner := .self,
    selMatch := true, marker := false }
private def cxWorld : SyncIn :=
  { setName := "web", paused := false, selectorOk := true,
    view := { replicas := some 0, slots := [], parallel := true, strat := .rolling, ru := some (some 0), deleting := false,
              generation := 1, stCurrentReplicas := 0 },
    stored := {}, collisionCount := none, historyLimit := some 10, template := "T",
    fresh := { gone := false, uidOk := true, deleting := false },
    store := [cxVis 0, cxVis 1, cxVis 2, cxVis 3, cxVis 4, cxVis 5,
              { name := "n9", number := 1, ctime := 0, data := "Z", hashNum := none, owner := .other, selMatch := true, marker := false }],
    pods := [] }

/-- **the eight-probe clause of `wfWorld` is not inductive**: six listed revisions occupy the probe names 0..5, a foreign
    revision sits on probe name 9; the world is inside the premises, the round creates the revision at collision count 6
    (and converges), and the settled result is outside `wfWorld` because probe name 9 is now among the next eight. -/
theorem wf_probe_clause_not_inductive :
    wfWorld cxH cxWorld = true ∧ wfWorld cxH (settle (round cxH cxWorld []).1) = false := by decide +kernel

private def cyH : Hashing := { nameOf := fun _ _ => "x", hashNumOf := fun _ _ => none }
private def cyWorld : SyncIn :=
  { cxWorld with store := [{ name := "x", number := 1, ctime := 0, data := "Z", hashNum := some 5, owner := .self,
                             selMatch := true, marker := false }] }

/-- **convergence needs a premise on the hashing that `wfWorld` does not state**: with a hash function whose probe names all
    coincide with a listed revision recording other data, the sync of a world inside `wfWorld` ends in error (the model gives
    up after `|store| + 8` probes; the Go loop never ends) and leaves the store, the status and the collision count as they were, with no pod and no pod action — so every later
    round does the same and the run never converges (`C02converges` evaluates to false on it). The real hash (FNV of
    template and collision count) makes the probe names differ. -/
theorem degenerate_hashing_never_converges :
    wfWorld cyH cyWorld = true ∧ (syncF cyH (settle cyWorld) []).outcome = .err ∧
    (settle (round cyH cyWorld []).1).store = (settle cyWorld).store ∧
    (settle (round cyH cyWorld []).1).stored = (settle cyWorld).stored ∧
    (settle (round cyH cyWorld []).1).collisionCount = (settle cyWorld).collisionCount ∧
    (syncF cyH (settle cyWorld) []).acts = [] ∧ cyWorld.pods = [] := by decide +kernel

/-! ## Part 3 — convergence under both pod management policies (progress lemmas (c), (d) and the bound), for "normal" worlds

A world is **normal** (`NormC h i`, decidable reading `normCB`) when: the spec is valid (as in `Final`), the strategy is
OnDelete or the `rollingUpdate` block with a partition `≥ 0` is present (the legacy boundary mode is excluded), every pod
object in the list belongs to the set (owned, member, selector, canonical name, `0 ≤ ordinal`, storage matches,
admitted), ordinals are pairwise distinct, the revisions are quiet (the newest listed revision records the template with a
compatible hash label; no listed revision is an orphan), sizes are within the model's id scheme (`|pods|, replicas ≤ freshId
= 10^6`; `roomB`: extra pods + replicas `≤ freshId`) and the uncached GET finds the set.
Pods may be missing, Failed/Succeeded, unready, terminating, outdated, lacking identity, extra (outside the desired set), in
any number; the revision history may be of any length (truncation is part of the proof). Under OrderedReady (`normOB`) no
Failed/Succeeded pod lies outside the desired set (the exclusion the property itself makes). This is the state a world is
in after its normalising first rounds (adoption, creation of the update revision: Part 5); the legacy boundary mode is
Part 4, worlds with pods the set cannot claim are Part 6.

`muPods` is the measure of DESIGN §6 (pods part): per desired ordinal 1 for a vacancy, 2 for a Failed/Succeeded pod, 3 for a
pod RollingUpdate still has to replace, +1 for a missing identity, +1 while terminating; plus 2 per pod outside the desired
set. `nextW h j = settle (one round from j)`. The proof is policy-independent above an interface (`ActFacts`: what a
reconcile may delete and create; `Event`: a create, a delete of a listed pod, or a useful identity update) that both policies
are shown to satisfy (`par_class`, `mono_class`). -/

/-- the decidable readings put the settled world in the policy's class -/
theorem C02_parallel_class_of_normB (h : Hashing) (i : SyncIn) (hb : normB h i = true) : ParK h (settle i) := parK_of_normB hb
theorem C02_ordered_class_of_normOB (h : Hashing) (i : SyncIn) (hb : normOB h i = true) : MonoK h (settle i) := monoK_of_normOB hb

/-- both policies are policy classes: closed under rounds, the reconcile ends `.ok` with calls satisfying `ActFacts`, and an
    `Event` happens whenever the pods still need work -/
theorem C02_policy_class_parallel (h : Hashing) : PolicyClass h (ParK h) := par_class h
theorem C02_policy_class_ordered (h : Hashing) : PolicyClass h (MonoK h) := mono_class h

/-- **(c) one round** from a normal, settled world, given the policy interface: the sync succeeds, the next settled world
    is again normal and settled, the store only loses unused history beyond the limit, and the pods are, up to order and
    ids, `rawNext` — the pods no delete hit (identity repaired where an update was issued) plus one new Running/Ready pod
    per create. -/
theorem C02_round (h : Hashing) (j : SyncIn) (hs : NSC h j) (hp : Pol hs.norm) :
    (syncF h j []).outcome = .ok ∧ NSC h (nextW h j) ∧ KeyPerm (nextW h j).pods (rawNext hs.norm) ∧
    (nextW h j).store = j.store.filter hs.norm.keep :=
  ⟨(applySync_normC h j hs.norm hp.ok).2, nextW_ns hs hp, nextW_pods hs hp, nextW_store hs hp⟩

/-- (c) Parallel, spelled out: every desired ordinal that was vacant or held a Failed/Succeeded pod gets a create, every pod
    outside the desired set and every Failed/Succeeded pod in range is deleted, and a live pod in range is deleted only
    when it is the one pod the update walk takes down (`delHits_iff`, `parA_create_iff` for the exact statements). -/
theorem C02_round_parallel_calls (h : Hashing) (j : SyncIn) (hs : NSC h j) (hpar : j.view.parallel = true)
    (hpart : PartOk j.view) :
    hs.norm.recon.1.acts = actsOf j.view hs.norm.curRev.name hs.norm.updRev.name (bOf j) (EOf j) j.pods ∧
    ActFacts j.view hs.norm.curRev.name hs.norm.updRev.name (bOf j) (EOf j) j.pods
      (actsOf j.view hs.norm.curRev.name hs.norm.updRev.name (bOf j) (EOf j) j.pods) :=
  ⟨par_recon_acts hs hpar, par_facts hs hpart⟩

/-- (c) OrderedReady, spelled out: the reconcile issues `monoActsOf` — identity updates up to the first desired ordinal
    that needs a pod, which it fills (after deleting a Failed/Succeeded occupant) and stops; if none needs one, it deletes
    the highest pod outside the desired set; if there is none either, the update walk takes one outdated pod down. -/
theorem C02_round_ordered_calls (h : Hashing) (j : SyncIn) (hk : MonoK0 h j) :
    hk.1.norm.recon.2 = .ok ∧
    hk.1.norm.recon.1.acts = monoActsOf j.view hk.1.norm.curRev.name hk.1.norm.updRev.name (bOf j) (EOf j) j.pods :=
  recon_mono hk

/-- **(d) the measure**: it never goes up, and it goes down whenever an `Event` happens — which both policies guarantee
    while the pods still need work (`PolicyClass.progress`). -/
theorem C02_measure_step (h : Hashing) (j : SyncIn) (hs : NSC h j) (hp : Pol hs.norm) (hpart : PartOk j.view)
    (hf : ActFacts j.view hs.norm.curRev.name hs.norm.updRev.name (bOf j) (EOf j) j.pods hs.norm.recon.1.acts) :
    muPods (nextW h j) ≤ muPods j ∧
    (Event (bOf j) (EOf j) j.pods hs.norm.recon.1.acts → muPods (nextW h j) < muPods j) :=
  mu_stepC hs hp hpart hf

/-- **stage 2**: when the pods need no work, two more rounds end in `Final`: one writes the status if it differs (possibly
    completing the rolling update), one deletes the history this left unused. -/
theorem C02_pods_done_final (h : Hashing) (j : SyncIn) (hs : NSC h j) (hz : muPods j = 0) : Final h (nextW h (nextW h j)) :=
  done_final2 hs hz

/-- **Convergence, Parallel policy, normal worlds.** After at most `muPods (settle i) + 3` rounds the world is `Final` —
    hence (Part 1) in the promised state, and every later reconcile writes nothing. No bound on replicas, slots, pods or
    revisions beyond the model's id scheme; any history limit.

    `_partial`: assumes the world is normal (`normB`); no premise on the hashing, on the names of stored revisions or on
    the set's name. The general theorem is `C02_converges` (Part 6); the legacy boundary mode is
    `C02_rounds_legacy_partial` (Part 4). -/
theorem C02_rounds_parallel_partial (h : Hashing) (i : SyncIn) (hb : normB h i = true) :
    ∃ n ≤ muPods (settle i) + 3, Final h (roundsN h n i) :=
  converge_of_class (par_class h) (parK_of_normB hb)

/-- **Convergence, OrderedReady policy, normal worlds** (one ordinal per round; same measure, same bound).
    `_partial`: assumes the world is normal (`normOB`), as for Parallel; the general theorem is `C02_converges`. -/
theorem C02_rounds_ordered_partial (h : Hashing) (i : SyncIn) (hb : normOB h i = true) :
    ∃ n ≤ muPods (settle i) + 3, Final h (roundsN h n i) :=
  converge_of_class (mono_class h) (monoK_of_normOB hb)

/-- the hypotheses may be checked on the settled world (pods created in the previous round then count as admitted): this
    is how the `world` engine's worlds qualify from their second round on -/
theorem C02_rounds_parallel_settled_partial (h : Hashing) (i : SyncIn) (hb : normB h (settle i) = true) :
    ∃ n ≤ muPods (settle i) + 3, Final h (roundsN h n i) :=
  converge_of_class (par_class h) (parK_of_normB_settled hb)

theorem C02_rounds_ordered_settled_partial (h : Hashing) (i : SyncIn) (hb : normOB h (settle i) = true) :
    ∃ n ≤ muPods (settle i) + 3, Final h (roundsN h n i) :=
  converge_of_class (mono_class h) (monoK_of_normOB_settled hb)

/-- the number of rounds is within what the monitor `C02converges` allows (`roundBound` of `Spec/World.lean`) -/
theorem C02_bound_within_monitor (i : SyncIn) : muPods (settle i) + 3 ≤ roundBound i := mu_le_roundBound i

/-- the policy-independent form: any world whose settled form lies in a policy class converges -/
theorem C02_rounds_of_class (h : Hashing) (K : SyncIn → Prop) (hK : PolicyClass h K) (i : SyncIn) (hk : K (settle i)) :
    ∃ n ≤ muPods (settle i) + 3, Final h (roundsN h n i) :=
  converge_of_class hK hk

/-! ### non-vacuity: normal worlds that need every kind of work

replicas 3 with slot 1 (desired 0,2,3), partition 0: ordinal 0 outdated and without identity, ordinal 2 Failed, ordinal 3
vacant, extra pods at 1 (a slot) and 7, a terminating pod at 9; history limit 0 with an unused old revision. -/

private def nPod (k : Nat) (o : Int) (ph : Phase) (rd tm : Bool) (rev : String) (idOk : Bool) : CPod :=
  { name := canonicalName "web" o, owner := .self, selMatch := true, member := true,
    pod := { id := k, ord := o, phase := ph, ready := rd, terminating := tm, rev := rev, idOk := idOk, stOk := true } }

def exNormal (par : Bool) : SyncIn :=
  { exWorld with
    view := { replicas := some 3, slots := [1], parallel := par, strat := .rolling, ru := some (some 0), deleting := false,
              generation := 5, stCurrentReplicas := 0 },
    historyLimit := some 0,
    store := [ { name := "web-0", number := 0, ctime := 0, data := "Z", hashNum := none, owner := .self, selMatch := true, marker := false },
               { name := "web-a", number := 1, ctime := 0, data := "A", hashNum := none, owner := .self, selMatch := true, marker := false },
               { name := "web-b", number := 2, ctime := 0, data := "B", hashNum := none, owner := .self, selMatch := true, marker := false } ],
    pods := [ nPod 0 0 .running false false "web-a" false, nPod 1 2 .failed false false "web-a" true,
              nPod 2 1 .pending false false "web-a" true, nPod 3 7 .running false false "web-b" true,
              nPod 4 9 .running true true "web-a" true ] }

example : normB exH (exNormal true) = true := by decide +kernel
example : normOB exH (exNormal false) = true := by decide +kernel
example : muPods (settle (exNormal true)) = 11 := by decide +kernel
example : Final exH (exNormal true) = False := by simp only [eq_iff_iff, iff_false]; decide +kernel

/-! ## Part 4 — the legacy boundary mode (strategy RollingUpdate, no `rollingUpdate` block)

Without the block the boundary between the revisions of NEW pods is `status.currentReplicas` (`newPodRev`: below it a new pod
gets the current revision, at or above it the update revision), and the update walk runs over every ordinal (partition 0).
A replacement pod may therefore come up at the OLD revision and be replaced again; the measure of Part 3 is not monotone here.

`muL` (legacy measure, `Proofs/C02_Defs.lean`): per desired ordinal — a vacancy weighs 1 when the pod created there will be at
the update revision AND every other desired ordinal holds a live pod (`onlyNeedy`), else 4; a Failed/Succeeded pod 5; a live pod
3 if outdated, +1 for a missing identity; plus 2 per pod outside the desired set. The key fact (`walk_bound_list` +
counter tracking `recon_par_cur_le` / `recon_mono_cur_le`): when the update walk deletes the pod at ordinal `t` and the current
revision differs from the update revision, the status it leaves has `currentReplicas ≤ t` — every pod at an ordinal above `t`
is at the update revision and was not counted — so the pod created at `t` in the next round is at the update revision
(`next_good_rev`) and the vacancy the walk leaves weighs 1, not 4. `LPol` is the interface a policy satisfies in this mode
(walk-free calls `A` obeying `ActFacts`, plus at most one walk deletion with the bound), `LEvent` the progress event,
`muL_step` the policy-independent descent; `lpar_pol`/`lpar_progress`/`lpar_next` and `lmono_*` instantiate it. -/

/-- normal in the legacy boundary mode (either policy), decidable reading -/
abbrev normLB (h : Hashing) (i : SyncIn) : Bool := Asts.C02p.normLB h i

/-- **the walk's bound**: the counted pods at the current revision, minus the walk's own decrement, fit below the walk's
    target (ordinals `≥ 0`, strictly ascending; partition 0) -/
theorem C02_legacy_walk_bound (v : SetView) (cur upd : String) (R : List (Int × Pod)) (hpart : partOf v = 0)
    (hs : (R.map (·.1)).Pairwise (· < ·)) (h0 : ∀ x ∈ R, 0 ≤ x.1) {t : Int} {q : Pod}
    (ht : walkTarget v upd R = some (t, q)) (hne : cur ≠ upd) :
    Asts.L1c.cnt (Asts.L1c.liveAt cur) (R.map (·.2)) - tgtDelta cur (some (t, q)) ≤ t :=
  walk_bound_list v cur upd R hpart hs h0 ht hne

/-- **the legacy measure**: it never goes up, and it goes down whenever a legacy event happens (a create, a delete of a
    listed pod, a useful identity update, or the walk's deletion) -/
theorem C02_legacy_measure_step (h : Hashing) (j : SyncIn) (hs : NSC h j) (A : List Action) (tg : Option (Int × Pod))
    (hl : LPol hs A tg) : muL (nextW h j) ≤ muL j ∧ (LEvent j A tg → muL (nextW h j) < muL j) :=
  muL_step hl

/-- the legacy measure dominates the measure of Part 3: when it is 0 the pods need no work (stage 2 of Part 3 applies) -/
theorem C02_legacy_measure_dominates (h : Hashing) (j : SyncIn) (hs : NSC h j) : muPods j ≤ muL j := muPods_le_muL hs

/-- **Convergence in the legacy boundary mode, both policies, normal worlds.**
    `_partial`: assumes the world is normal (`normLB`); the general theorem is `C02_converges`. -/
theorem C02_rounds_legacy_partial (h : Hashing) (i : SyncIn) (hb : normLB h i = true) :
    ∃ n ≤ muL (settle i) + 3, Final h (roundsN h n i) := by
  rcases lclass_of_normLB hb with ⟨_, hk⟩ | ⟨_, hk⟩
  · exact (lpar_class h).descent.converge_settle hk
  · exact (lmono_class h).descent.converge_settle hk

theorem C02_rounds_legacy_settled_partial (h : Hashing) (i : SyncIn) (hb : normLB h (settle i) = true) :
    ∃ n ≤ muL (settle i) + 3, Final h (roundsN h n i) := by
  rcases lclass_of_normLB_settled hb with ⟨_, hk⟩ | ⟨_, hk⟩
  · exact (lpar_class h).descent.converge_settle hk
  · exact (lmono_class h).descent.converge_settle hk

/-- within the monitor's bound -/
theorem C02_legacy_bound_within_monitor (i : SyncIn) : muL (settle i) + 3 ≤ roundBound i := muL_le_roundBound i

/-- the same outdated world as `exNormal`, without the `rollingUpdate` block, `status.currentRevision = web-a` with three
    replicas counted: replacements below the boundary come up at the OLD revision first -/
def exLegacy (par : Bool) : SyncIn :=
  { exNormal par with
    view := { (exNormal par).view with ru := none, stCurrentReplicas := 3 },
    stored := { (exNormal par).stored with currentRev := "web-a", current := 3 } }

example : normLB exH (exLegacy true) = true := by decide +kernel
example : normLB exH (exLegacy false) = true := by decide +kernel
example : Final exH (exLegacy true) = False := by simp only [eq_iff_iff, iff_false]; decide +kernel

/-! ## Part 5 — the normalising first rounds, and the general theorem

A world inside `preNB` (`Proofs/C02_BDefs.lean`) differs from a normal one in that
* pod objects may be **orphans** (member of the set by name, selector matches, controlled by nobody);
* listed revisions may be orphans (adopted in the first sync, marker-carrying ones label-synced first);
* the **update revision may not exist yet** (created on the first free probe name, after walking past names held by
  revisions recording something else — the collision count moves and is persisted with the status), or exist as an older
  revision (renumbered to `nextRevision`);
* any update strategy, both policies, the legacy boundary mode included.

The argument: the first sync does to the world exactly what the sync of the **prepared world** `prepW h j` does — the same
world with the revision stages already run (`prepStore`, `prepCC`) and every pod owned — up to who owns the pods
(`prep_sim`: `ownS (applySync j (syncF j)) = applySync (prepW j) (syncF (prepW j))`). The prepared world is normal
(`prepW_norm`), so Parts 3/4 apply to it. Owners: the claim stage adopts every orphan (`claim_nilM`, `claimLogM_norm`); the
Update call of `UpdateStatefulPod` writes back the cached copy, so a pod adopted AND identity-repaired in the same sync is an
orphan again afterwards (`applyActs`), but then its identity is in order (`applyActs_ownP`), identity updates only go to pods
lacking identity (`par_update_src`, `mono_update_src`), hence the next sync adopts it for good (`applyActs_noOrphan`): from
the second round on no pod is an orphan (`stg_owners`). The normalising work costs no extra round: the bound is the measure
of the prepared world + 3. All of this is proved once, for worlds that may also hold pod objects that are no members of the
set (Part 6); a world inside `preNB` is one inside `preNMB` without such objects (`preNMB_of_preNB`), and its members-only
world is the world itself (`mOf_of_members`).

The premises on the hashing (`hashOkB`, `labelsOkB`) are explicit; the two theorems below show what they exclude is real.

Suffixes of the decidable readings: `B` Bool; `C` the clauses common to the policies and boundary modes (`normCB`, `preCB`);
`O` OrderedReady (`normOB`); `L` legacy boundary mode (`normLB`); `M` pod objects that are no members allowed (Part 6:
`preMB`, `preNMB`, `extraMB`, `roomMB`). -/

/-- the world with the revision work done and every pod owned -/
abbrev prepW (h : Hashing) (j : SyncIn) : SyncIn := Asts.C02p.prepW h j
/-- the class of the general theorem, decidable reading -/
abbrev preNB (h : Hashing) (i : SyncIn) : Bool := Asts.C02p.preNB h i
/-- what `preNB` asks beyond `wfWorld` -/
abbrev extraB (h : Hashing) (i : SyncIn) : Bool := Asts.C02p.extraB h i

/-- **the prepared world is normal** (whatever adoption, creation or renumbering the first sync has to do) -/
theorem C02_prepared_normal (h : Hashing) (i : SyncIn) (hb : preCB h i = true) (hroom : roomB i = true) :
    NSC h (prepW h (settle i)) := by
  obtain ⟨hp, hrm, hr, e⟩ := preM_settle_members hb hroom
  have := prep_nscM hp hrm hr
  rwa [e] at this

/-- **the first sync, seen with the owners forgotten, is the sync of the prepared world** -/
theorem C02_first_sync_simulation (h : Hashing) (i : SyncIn) (hb : preCB h i = true) (hroom : roomB i = true)
    (hok : (C02_prepared_normal h i hb hroom).norm.recon.2 = .ok) :
    ownS (applySync (settle i) [] (syncF h (settle i) [])) =
      applySync (prepW h (settle i)) [] (syncF h (prepW h (settle i)) []) ∧
    (syncF h (settle i) []).outcome = .ok := by
  obtain ⟨hp, _, hr, _⟩ := preM_settle_members hb hroom
  obtain ⟨G, upd, cc, hpick, hcc⟩ := pick_of_prem hp.names hr
  exact prep_sim hp (settle_members (members_of_preCB hb)) hpick hcc (C02_prepared_normal h i hb hroom).norm hok

/-- **general convergence**: from any world inside `preNB`, within the measure of the prepared world + 3 rounds -/
theorem C02_converges_preNB (h : Hashing) (i : SyncIn) (hb : preNB h i = true) :
    ∃ n ≤ (if legacyB i.view then muL (prepW h (settle i)) else muPods (prepW h (settle i))) + 3,
      Final h (roundsN h n i) := by
  have hb' : Asts.C02p.preNB h i = true := hb
  have hm : ∀ c ∈ i.pods, c.member = true := by
    unfold Asts.C02p.preNB at hb'
    simp only [Bool.and_eq_true] at hb'
    exact members_of_preCB hb'.1.1.1
  have := converge_generalM (preNMB_of_preNB hb)
  rwa [mOf_of_members (settle_members hm)] at this

/-- **C02, convergence**: a world inside the premises of the property (`wfWorld`) and inside `extraB` reaches `Final` —
    the promised state (Part 1: `C02_final_is_target`), after which every reconcile writes nothing (`C02_quiescent`,
    `C02_quiet_forever`) — within the number of rounds the monitor `C02converges` allows.

    `_partial`: `extraB` assumes, beyond the hashing premises `hashOkB` (a visible revision records the template, or the
    probe walk ends on a free name having passed only revisions that record something else, within `|store| + 8` probes,
    and when the collision count moves the stored status does not already name the new revision) and `labelsOkB` (no
    unparsable hash label next to a mismatching parsable one among the revisions that record the template):
    (i) every pod object is a member of the set — `C02_converges` (Part 6) does without this clause: pod objects that
    merely carry the labels (non-members, released in the first sync) or are controlled by somebody else are inert, and
    `Final` holds with them in the list;
    (ii) `spec.replicas` is set, storage of every pod matches (`stOk`; the model never repairs it), one pod object per
    ordinal — outside these the model does not reach `Final` at all;
    (iii) sizes within the model's id scheme (`|pods|`, replicas, room `≤ 10^6`), distinct
    names of stored revisions, no colon in the set's name (log entries are colon-separated). -/
theorem C02_converges_partial (h : Hashing) (i : SyncIn) (hw : wfWorld h i = true) (hx : extraB h i = true) :
    ∃ n ≤ roundBound i, Final h (roundsN h n i) := by
  obtain ⟨n, hn, hf⟩ := converge_generalM (preNMB_of_wf hw (extraMB_of_extraB hw hx))
  exact ⟨n, le_trans hn (generalM_le_roundBound h i), hf⟩

/-! ### non-vacuity and the premises on the hashing -/

private def oPod (k : Nat) (o : Int) (own : Owner) (ph : Phase) (rd : Bool) (rev : String) (idOk : Bool) : CPod :=
  { name := canonicalName "web" o, owner := own, selMatch := true, member := true,
    pod := { id := k, ord := o, phase := ph, ready := rd, terminating := false, rev := rev, idOk := idOk, stOk := true } }

/-- replicas 3 (desired 0,1,2), OrderedReady, legacy boundary mode; template "T" has no revision yet and the first two
    probe names are taken by revisions recording something else (one of them an orphan carrying only the marker); the pod
    at 0 is an orphan without identity, the pod at 1 an orphan, ordinal 2 is vacant, an extra orphan sits at 5 -/
def exPre : SyncIn :=
  { exWorld with
    view := { replicas := some 3, slots := [], parallel := false, strat := .rolling, ru := none, deleting := false,
              generation := 5, stCurrentReplicas := 2 },
    stored := { replicas := 2, ready := 2, current := 2, updated := 0, currentRev := "T-1", updateRev := "T-1", observedGen := 4 },
    template := "T", historyLimit := some 0,
    store := [ { name := "T-0", number := 1, ctime := 0, data := "old0", hashNum := none, owner := .none, selMatch := false, marker := true },
               { name := "T-1", number := 2, ctime := 0, data := "old1", hashNum := none, owner := .self, selMatch := true, marker := false } ],
    pods := [ oPod 0 0 .none .running true "T-1" false, oPod 1 1 .none .running true "T-1" true,
              oPod 2 5 .none .running true "T-1" true ] }

example : wfWorld exH exPre = true := by decide +kernel
example : extraB exH exPre = true := by decide +kernel
example : preNB exH exPre = true := by decide +kernel
example : (prepW exH (settle exPre)).collisionCount = some 2 := by decide +kernel

private def lmH : Hashing := { nameOf := fun _ c => "n" ++ toString c, hashNumOf := fun _ _ => some 7 }
private def lmWorld : SyncIn :=
  { setName := "web", paused := false, selectorOk := true,
    view := { replicas := some 0, slots := [], parallel := true, strat := .rolling, ru := some (some 0), deleting := false,
              generation := 1, stCurrentReplicas := 0 },
    stored := { replicas := 0, ready := 0, current := 0, updated := 0, currentRev := "n0", updateRev := "n0", observedGen := 1 },
    collisionCount := some 0, historyLimit := some 10, template := "T",
    fresh := { gone := false, uidOk := true, deleting := false },
    store := [{ name := "n0", number := 1, ctime := 0, data := "T", hashNum := some 5, owner := .self, selMatch := true, marker := false }],
    pods := [] }

/-- **a hash label that does not match keeps the controller busy for ever**: a listed revision sits on the first probe
    name and records the template, under a hash label (5) other than the one computed now (7). `EqualRevision` does not find
    it, `createControllerRevision` runs into it (AlreadyExists), reads it back, finds the same data and uses it — in every
    sync: the world is inside `wfWorld`, the sync is successful but not silent (one `create:rev` call), writes no status,
    leaves the store as it was and touches no pod — so every later round does the same and the run never goes quiet
    (`#eval`: the monitor `C02converges` is false on it). `hashOkB` excludes it; with the real hash the label is determined
    by the name. -/
theorem label_mismatch_never_quiet :
    wfWorld lmH lmWorld = true ∧ hashOkB lmH lmWorld = false ∧
    (syncF lmH (settle lmWorld) []).log =
      ["list:revs", "list:revs", "list:revs", "list:revs", "create:rev:n0", "get:rev:n0"] ∧
    (syncF lmH (settle lmWorld) []).outcome = .ok ∧ (syncF lmH (settle lmWorld) []).status = none ∧
    (syncF lmH (settle lmWorld) []).store = lmWorld.store ∧ (syncF lmH (settle lmWorld) []).acts = [] ∧
    lmWorld.pods = [] := by
  refine ⟨by decide +kernel, by decide +kernel, by decide +kernel, by decide +kernel, by decide +kernel, by decide +kernel,
    by decide +kernel, rfl⟩

private def ntWorld : SyncIn :=
  { lmWorld with
    stored := { replicas := 0, ready := 0, current := 0, updated := 0, currentRev := "b", updateRev := "b", observedGen := 1 },
    store := [{ name := "a", number := 1, ctime := 0, data := "T", hashNum := none, owner := .self, selMatch := true, marker := false },
              { name := "b", number := 2, ctime := 0, data := "T", hashNum := some 5, owner := .self, selMatch := true, marker := false }] }

/-- **`EqualRevision` is not transitive** (an unparsable hash label is a wildcard): revision `a` (label unparsable) equals
    the fresh revision (label 7) and equals the newest revision `b` (label 5), which does not equal the fresh one; the
    controller uses `b` as the update revision and is quiet — silent successful syncs, the monitor is satisfied — in a state
    where `status.updateRevision` names a revision that is not `EqualRevision` to the template's: not the `Final` of this
    file (which asks the newest revision to equal the fresh one). `labelsOkB` excludes it. -/
theorem equalRevision_not_transitive_quiet_not_final :
    wfWorld lmH ntWorld = true ∧ labelsOkB lmH ntWorld = false ∧
    (syncF lmH (settle ntWorld) []).log = ["list:revs", "list:revs", "list:revs", "list:revs"] ∧
    (syncF lmH (settle ntWorld) []).outcome = .ok ∧ (syncF lmH (settle ntWorld) []).upd = "b" ∧
    finalB lmH (settle ntWorld) = false := by
  refine ⟨by decide +kernel, by decide +kernel, by decide +kernel, by decide +kernel, by decide +kernel, by decide +kernel⟩

/-! ## Part 6 — pod objects that are not members of the set

`wfWorld` lets the pod list hold objects that are no members of the set (their names do not parse as `<set>-<ordinal>`):
label carriers the set controls (released in the first sync: `claimDecision` = release, one `patch:pod:` call), orphans that
merely carry the labels (ignored), pods controlled by somebody else (ignored). **`Final` can hold with such objects in the
list** — its pods clause asks of an orphan only that it is not adoptable and nothing of a pod controlled by somebody else —
so clause (i) of `C02_converges_partial` is not something `Final` needs.

The proof: the reconcile sees the claimed pods only, and the claimed pods are exactly the members (`claim_nilM`). `mOf x` is
the world with the members only, **pod ids as they are** (positions in the whole list; for that the normal-world theory asks
`IdOk`, ids distinct and below the ids of new pods, not `IdPos`, ids = positions). One sync + apply of `x` has
the same status, store and collision count as one sync + apply of the prepared members-only world, and its pod list is the
old one with the claim stage's patches (`norm1`: member orphans owned, non-members released) and the reconcile's calls
applied (`prep_simM`). Restricted to the members and with the owners forgotten, the next world is the next world of the
normal-world theory **up to pod ids and order** (`StepRaw.keyPerm`; ids are positions in the whole list, so the two are never
equal) — therefore the measure argument runs on the real worlds themselves, transferring class membership, measure, `Fix`
and `Final` along that relation at every step (`ConvClass`, `conv_stg`), instead of on a shadow run. Non-members stay
non-members under their names and are not the set's from the second world on (`StepRaw.inert`, `StepRaw.nmNames`);
`final_of_Y` puts them back under `Final`.

What `extraMB` asks about non-members (all true of real API objects, but `member`, `name` and `pod.ord` are independent
fields of the model): pod names are pairwise distinct; a non-member does not carry the canonical name of a DESIRED ordinal
(such a pod would block the create for ever while the model lets the create succeed); a non-member the set controls has no
colon in its name (the model reads the release back from a colon-separated log entry). -/

/-- the class of the general theorem with non-members allowed, decidable reading -/
abbrev preNMB (h : Hashing) (i : SyncIn) : Bool := Asts.C02p.preNMB h i
/-- what `preNMB` asks beyond `wfWorld`: `extraB` with its clause (i) "every pod object is a member" replaced by the three
    clauses on non-members above, the other clauses speaking about the members -/
abbrev extraMB (h : Hashing) (i : SyncIn) : Bool := Asts.C02p.extraMB h i

/-- **one sync + apply in a world with non-members**, against the prepared members-only world: everything but the pod
    list agrees -/
theorem C02_sync_with_nonmembers (h : Hashing) (x : SyncIn) (G : List Rev) (upd : Rev) (cc : Int) (hp : PreM x)
    (hpick : PickOut h x.template (x.collisionCount.getD 0) (adoptS x.store) G upd cc)
    (hcc : cc ≠ x.collisionCount.getD 0 → x.stored.updateRev ≠ upd.name)
    (hn : NormC h (Asts.C02p.prepW h (mOf x))) (hok : hn.recon.2 = .ok) :
    ({ applySync x [] (syncF h x []) with pods := [] } : SyncIn) =
      { applySync (Asts.C02p.prepW h (mOf x)) [] (syncF h (Asts.C02p.prepW h (mOf x)) []) with pods := [] } ∧
    (syncF h x []).outcome = .ok ∧
    (applySync x [] (syncF h x [])).pods =
      reindex (sortPods (applyActs x.setName x.pods (x.pods.map norm1) hn.recon.1.acts)) :=
  ⟨(prep_simM hp hpick hcc hn hok).1, (prep_simM hp hpick hcc hn hok).2.1, (prep_simM hp hpick hcc hn hok).2.2.1⟩

/-- **non-members stay inert**: after a round no non-member is the set's -/
theorem C02_nonmembers_inert (h : Hashing) (K : SyncIn → Prop) (C : ConvClass h K) (x : SyncIn) (hs : Stg h K x) :
    ∀ c ∈ (nextW h x).pods, c.member = false → c.owner ≠ .self :=
  (stg_next C hs).2.2.2.2.1.2

/-- **`Final` of the members-only view is `Final` of the world**, once every member is owned and no other pod object is
    the set's -/
theorem C02_final_of_members (h : Hashing) (z : SyncIn) (hf : Final h (Y z)) (hz : PTwo z) : Final h z := final_of_Y hf hz

/-- general convergence, non-members allowed: within the measure of the prepared members-only world + 3 rounds -/
theorem C02_converges_preNMB (h : Hashing) (i : SyncIn) (hb : preNMB h i = true) :
    ∃ n ≤ (if legacyB i.view then muL (Asts.C02p.prepW h (mOf (settle i))) else muPods (Asts.C02p.prepW h (mOf (settle i)))) + 3,
      Final h (roundsN h n i) :=
  converge_generalM hb

/-- **C02, convergence**: every world inside the premises of the property (`wfWorld`) and inside `extraMB` reaches `Final`
    — the promised state, after which every reconcile writes nothing — within the number of rounds the monitor allows.
    Pod objects that are no members of the set (label carriers, foreign pods, non-member orphans) included.

    What `extraMB` asks beyond `wfWorld` (each clause is either needed in the model or a fact about API objects the
    model's independent fields do not enforce):
    * the hashing premises `hashOkB`, `labelsOkB` (needed: `label_mismatch_never_quiet`, `degenerate_hashing_never_converges`,
      `equalRevision_not_transitive_quiet_not_final`);
    * `spec.replicas` is set, storage of every member matches, one member per ordinal (outside these the model does not
      reach `Final`);
    * pod names pairwise distinct, names of stored revisions pairwise distinct (API objects);
    * no non-member under the canonical name of a desired ordinal; no colon in the set's name nor in the name of a non-member
      the set controls (model encoding);
    * sizes within the model's id scheme: non-members + members outside the desired set + replicas `≤ 10^6` (new pods get the
      ids `10^6 + ordinal`; `|pods| ≤ 10^6` and `replicas ≤ 10^6` follow). No int32 bound on ordinals, replicas or slots is
      assumed. -/
theorem C02_converges (h : Hashing) (i : SyncIn) (hw : wfWorld h i = true) (hx : extraMB h i = true) :
    ∃ n ≤ roundBound i, Final h (roundsN h n i) := by
  obtain ⟨n, hn, hf⟩ := converge_generalM (preNMB_of_wf hw hx)
  exact ⟨n, le_trans hn (generalM_le_roundBound h i), hf⟩

/-- `exPre` with three pod objects that are no members: a label carrier the set controls (released in the first sync), a
    pod controlled by somebody else, an orphan that merely carries the labels -/
def exPreM : SyncIn :=
  { exPre with
    pods := exPre.pods ++
      [ { name := "carrier", owner := .self, selMatch := true, member := false,
          pod := { id := 3, ord := -1, phase := .running, ready := true, terminating := false, rev := "", idOk := true, stOk := true } },
        { name := "foreign", owner := .other, selMatch := true, member := false,
          pod := { id := 4, ord := -1, phase := .pending, ready := false, terminating := false, rev := "", idOk := true, stOk := false } },
        { name := "stray", owner := .none, selMatch := true, member := false,
          pod := { id := 5, ord := -1, phase := .running, ready := true, terminating := false, rev := "", idOk := false, stOk := true } } ] }

example : wfWorld exH exPreM = true := by decide +kernel
example : extraMB exH exPreM = true := by decide +kernel
example : preNMB exH exPreM = true := by decide +kernel
example : extraB exH exPreM = false := by decide +kernel

end Asts.C02
