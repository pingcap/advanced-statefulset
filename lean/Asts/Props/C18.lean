import Asts.Proofs.Patch
import Asts.Proofs.JsonToks
import Asts.Proofs.PatchBytes
/-! # C18 — "the revision data the Advanced controller computes for a set converted from a built-in StatefulSet is byte-identical to the data the
built-in controller records for it …"

**The reduction.** Both controllers run the same `getPatch` text on the JSON their codec writes (`Model/Patch.getPatchBytes`: unmarshal, keep
`spec.template`, add the directive, marshal). The theorems below say: IF the Advanced codec and the built-in codec encode the set to trees with equal
`spec.template` subtree THEN the data bytes, every hash (any collision count) and the revision name are equal. The PREMISE — "one Go type
(`corev1.PodTemplateSpec`) under one JSON encoder gives one tree, whichever scheme wraps it" — is **sampled, not proved**: the `patch` engine compares, on
every generated template, the bytes of the real `getPatch(FromBuiltinStatefulSet(set))` with a re-implementation of upstream's `getPatch` on client-go's
`apps/v1` scheme (`same=1`), and the model's prediction from the Advanced encoding with both.

The migration-flow half (revisions carrying the upgrade marker are found, label-synced, adopted and reused; no new revision, no pod deleted) lives at
L2/L4: engines `sync` / `world`, theorems of C10, C11, C13 and C03 / C07. -/
namespace Asts.C18
open Asts.Patch

/-- equal `spec.template` subtrees of the two encodings ⇒ equal revision data (as trees) -/
theorem equal_template_equal_patch (adv builtin : Json) (h : template? adv = template? builtin) : getPatch adv = getPatch builtin :=
  getPatch_congr adv builtin h

/-- … ⇒ equal revision data as BYTES, from the codecs' bytes, for whatever string escaping the (shared) marshaller uses -/
theorem equal_template_equal_bytes (esc : List Char → List Char) (encAdv encBuiltin : List Char) (a b : Json)
    (ha : parse encAdv = some a) (hb : parse encBuiltin = some b) (h : template? (canon a) = template? (canon b)) :
    getPatchBytes esc encAdv = getPatchBytes esc encBuiltin := by
  simp [getPatchBytes, ha, hb, getPatch_congr _ _ h]

/-- the same on trees: whatever member order the two codecs write (`ser` of ANY trees `a`, `b`), equal `spec.template` after unmarshalling ⇒
    equal data bytes; uses `parse (ser t) = some t`, proved for every tree -/
theorem equal_template_equal_bytes_of_trees (a b : Json) (h : template? (canon a) = template? (canon b)) :
    getPatchBytes goEscape (ser goEscape a) = getPatchBytes goEscape (ser goEscape b) := by
  rw [getPatchBytes_ser, getPatchBytes_ser, getPatch_congr _ _ h]

/-- equal bytes ⇒ equal hash for every collision count (`hashControllerRevision` reads the data bytes and the probe only) … -/
theorem equal_bytes_equal_hash (d₁ d₂ : List Nat) (probe : Option Int) (h : d₁ = d₂) : hashRevision d₁ probe = hashRevision d₂ probe := by rw [h]

/-- … and equal revision name for equal set names: the Advanced controller looks for exactly the name the built-in controller wrote -/
theorem equal_bytes_equal_name (name : List Char) (d₁ d₂ : List Nat) (probe : Option Int) (h : d₁ = d₂) :
    revisionName name (hashRevision d₁ probe) = revisionName name (hashRevision d₂ probe) := by rw [h]

/-- the other members of the two encodings (apiVersion `apps.pingcap.com/v1` vs `apps/v1`, fields only one of the types has, status) do not matter -/
theorem other_members_irrelevant (k : String) (v : Json) (top : Obj) (hk : k ≠ "spec") :
    getPatch (.obj (setKey k v top)) = getPatch (.obj top) :=
  getPatch_congr _ _ (template_setTop k v top hk)

theorem other_spec_members_irrelevant (k : String) (v : Json) (top spec : Obj) (hk : k ≠ "template") (hs : lookup "spec" top = some (.obj spec)) :
    getPatch (.obj (setKey "spec" (.obj (setKey k v spec)) top)) = getPatch (.obj top) :=
  getPatch_congr _ _ (template_setSpec k v top spec hk hs)

/-- non-vacuity: two encodings that differ in `apiVersion` and in a spec member only one type has, same template, same patch -/
example : getPatch (.obj [("apiVersion", .str "apps.pingcap.com/v1"), ("spec", .obj [("template", .obj [("spec", .obj [("containers", .null)])])])])
    = getPatch (.obj [("apiVersion", .str "apps/v1"), ("spec", .obj [("minReadySeconds", .num 5), ("template", .obj [("spec", .obj [("containers", .null)])])])]) := by
  simp [getPatch, template?, lookup]

end Asts.C18
