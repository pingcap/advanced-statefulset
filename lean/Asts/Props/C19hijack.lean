import Asts.Proofs.Hijack
import Asts.Model.HijackGen
import Asts.Props.C19

/-! # C19, verb level — every verb of the hijack client is the Advanced client's verb wrapped in the two conversions

Property theorems only; lemmas live in `Asts/Proofs/Hijack`. Model: `Model/Hijack` (`hijack st inner`: what a verb of
`hijackStatefulSet` hands back, given what the inner client's verb answered), tied to client/apis/apps/v1/helper/hijack.go by
the `hijack` engine, which records the inner client's answers around a fake Advanced clientset with injected API errors.
The conversions are those of `Model/Codec` at the schemas extracted from the Go types; that they lose nothing is
`Props/C19` (`to_builtin_keeps`, `list_to_builtin_keeps`, `converted_is_typed`), reused here, not re-proved. -/
namespace Asts.C19h
open Asts Asts.Codec Asts.Hijack

/-- The extracted schemas have the shape the verb theorems need: both list types are structs with an `items` slice (not
    `omitempty` on the Advanced side) and an `apiVersion`; the built-in object type and the built-in item type have an
    `apiVersion`. Evaluated on `Gen/Schema`, which is regenerated from the Go types on every check. -/
theorem gen_schemas_shaped : WellShaped genSchemas :=
  ⟨_, _, _, _, _, _, rfl, rfl, rfl, (wf_struct _).symm.trans C19.schemas_wf.2.2.1, rfl, rfl, rfl, rfl, rfl⟩

/-- SUCCESS, object verbs (Create, Update, UpdateStatus, Get, Patch in its four forms, Apply, ApplyStatus): whatever object
    the inner client answers, the verb hands back an object — never nil — and it is `ToBuiltinStatefulSet` of that answer. -/
theorem success_returns_converted (st : Step) (a : GoVal) :
    hijack genSchemas st (.ok (.obj a)) = .ok (.obj (toBuiltin genSchemas a)) :=
  hijack_ok genSchemas st (.obj a)

/-- SUCCESS, List: the list the inner client answers comes back as `ToBuiltinStetefulsetList` of it; Delete,
    DeleteCollection and Watch hand back what they are: nothing, and a stream. -/
theorem success_returns_converted_list (st : Step) (l : GoVal) :
    hijack genSchemas st (.ok (.list l)) = .ok (.list (toBuiltinList genSchemas l)) ∧
    hijack genSchemas st (.ok .done) = .ok .done ∧ hijack genSchemas st (.ok .stream) = .ok .stream :=
  ⟨hijack_ok genSchemas st (.list l), rfl, rfl⟩

/-- What comes back is typed apps/v1, for EVERY object the inner client may answer (no typing hypothesis). -/
theorem success_is_typed (a : GoVal) : Spec.apiVersionOf (toBuiltin genSchemas a) = "apps/v1" := by
  obtain ⟨_, _, _, bs, _, _, _, _, hb, _, _, _, _, _, apiO⟩ := gen_schemas_shaped
  exact apiVersionOf_toBuiltin genSchemas hb apiO a

/-- A list comes back typed apps/v1, every item typed apps/v1, with as many items as the inner client answered — for
    EVERY value the inner client may answer (a list without `items`, or one that is not even a struct, included). -/
theorem success_list_is_typed (l : GoVal) :
    topField "apiVersion" (toBuiltinList genSchemas l) = some (.str "apps/v1") ∧
    (∀ x ∈ Spec.itemsOf (toBuiltinList genSchemas l), topField "apiVersion" x = some (.str "apps/v1")) ∧
    (Spec.itemsOf (toBuiltinList genSchemas l)).length = (Spec.itemsOf l).length :=
  toBuiltinList_spec genSchemas gen_schemas_shaped l

/-- The object handed back is the inner client's answer in every field the Advanced API models: apart from the stamped
    apiVersion it is `Unmarshal ∘ Marshal` of the answer, which `C19.to_builtin_keeps` shows to be lossless (nil and empty
    collections identified, slices position by position). -/
theorem success_is_lossless (a : GoVal) (h : HasTy Gen.asSchema a) :
    Equiv Gen.asSchema (decode Gen.builtinSchema (encode Gen.asSchema a)) a ∧
    ∀ k, k ≠ "apiVersion" →
      topField k (toBuiltin genSchemas a) = topField k (decode Gen.builtinSchema (encode Gen.asSchema a)) := by
  refine ⟨C19.to_builtin_keeps a h, fun k hk => ?_⟩
  obtain ⟨_, _, _, bs, _, _, _, _, hb, _⟩ := gen_schemas_shaped
  have hb' : Gen.builtinSchema = .struct bs := hb
  unfold toBuiltin
  show topField k (convert Gen.asSchema Gen.builtinSchema "apps/v1" a) = _
  rw [hb']
  exact (C19.converted_is_typed Gen.asSchema "apps/v1" a).2.2 bs k hk

/-- The same for lists: nothing of the Advanced list is lost, `items` keeps its length and order (`Equiv` on a slice is
    position by position). -/
theorem success_list_is_lossless (l : GoVal) (h : HasTy Gen.asListSchema l) :
    Equiv Gen.asListSchema (decode Gen.builtinListSchema (encode Gen.asListSchema l)) l :=
  C19.list_to_builtin_keeps l h

/-- FAILURE: an error of the inner client comes out of every verb as that very error, and (`Res.err` carries no object)
    with no object. -/
theorem error_passes_through (st : Step) (k : ErrKind) : hijack genSchemas st (.err k) = .err k :=
  hijack_err genSchemas st k

/-- An error comes out exactly when the inner client answered one, and it is the same one: no error is swallowed, none is
    invented, none changes its class. -/
theorem error_iff (st : Step) (inner : Res Out) (k : ErrKind) : hijack genSchemas st inner = .err k ↔ inner = .err k :=
  hijack_eq_err_iff genSchemas st inner k

/-- A result comes out exactly when the inner client answered one, and it is the converted one. -/
theorem result_iff (st : Step) (inner : Res Out) (b : Out) :
    hijack genSchemas st inner = .ok b ↔ ∃ o, inner = .ok o ∧ b = wrapOut genSchemas o :=
  hijack_eq_ok_iff genSchemas st inner b

/-- The monitor of the `hijack` engine is true on the model's observation of every step: every verb, every answer of the
    inner client — any object, any list, any of the six error classes — provided the answer is of the verb's kind (an
    object for Get, a list for List, …). -/
theorem step_monitor_on_model (st : Step) (inner : Res Out) (h : ShapeOk st inner) :
    Spec.stepOk (Spec.observe st inner (hijack genSchemas st inner)) = true :=
  observe_stepOk genSchemas gen_schemas_shaped st inner h

/-- … and on the model's run of every case of the engine: any stored object, any number of other sets, any script of
    verbs with any errors injected — every clause (`C19.sent.*`, `C19.ret.*`, `C19.err.*`, `C19.apply.*`) holds. -/
theorem monitor_on_model (a : GoVal) (s : Store) (ops : List (Step × Option ErrKind)) :
    ∀ c ∈ Spec.clauses { conv := Spec.convGood, convExtra := Spec.convGood, steps := Spec.observeRun genSchemas a s ops }, c.2 = true :=
  clauses_of_runOk _ (observeRun_ok genSchemas gen_schemas_shaped a s ops)

/-- non-vacuity: `ShapeOk` is satisfiable for every verb and every kind of answer -/
example : ShapeOk .get (.ok (.obj C19.exampleBuiltin)) ∧ ShapeOk .list (.ok (.list (listOf C19.exampleBuiltin 2))) ∧
    ShapeOk .delete (.ok .done) ∧ ShapeOk .watch (.ok .stream) ∧ ShapeOk .patchJson (.err .conflict) := by
  refine ⟨?_, ?_, ?_, ?_, ?_⟩ <;> intro o ho <;> cases ho <;> rfl

/-- non-vacuity: a script on an empty store — Get of the missing object, Create, a second Create, an Update that the API
    refuses with a conflict, Delete, Delete again — as the model's inner client answers it -/
example : (Spec.observeRun genSchemas C19.exampleBuiltin { present := false, others := 1 }
      [(.get, none), (.create, none), (.create, none), (.update, some .conflict), (.delete, none), (.delete, none)]).map (·.inner) =
    [.err .notFound, .ok, .err .alreadyExists, .err .conflict, .ok, .err .notFound] := by
  decide

/-- … and the errors come out as they went in -/
example : (Spec.observeRun genSchemas C19.exampleBuiltin { present := false, others := 0 }
      [(.get, none), (.update, some .conflict), (.list, some .timeout)]).map (·.err) =
    [some (.notFound, true), some (.conflict, true), some (.timeout, true)] := by
  decide

end Asts.C19h
