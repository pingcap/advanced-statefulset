import Asts.Proofs.Patch
import Asts.Proofs.JsonToks
import Asts.Proofs.JsonLex
import Asts.Proofs.PatchBytes
/-! # C08, byte half — "status.updateRevision names a stored ControllerRevision whose recorded data, applied to the set, reproduces the set's
current pod template exactly … Editing only replicas, delete-slots, the pause annotation or other metadata never changes the update revision"

Statements about `Model/Patch` (`getPatch`, `applyReplacePatch`) and `Model/Json` (`toks`, `ser`, the parsers), for ALL JSON trees — no bound on
size or depth. `raw` / `top` stand for the encoded set after `json.Unmarshal` into `map[string]interface{}`. The tie between these functions and
`/repo` is the `patch` engine: on every case the model predicts, from the tree of the encoded set, the exact bytes of `getPatch`, their hash and the
re-encoded result of `ApplyRevision`. Not proved (sampled by the engine): the struct → JSON field mapping of the apimachinery codec and the
general `strategicpatch` algorithm outside the `$patch: replace` shape. Numbers are exact integers in the model; the Go code goes through
`float64`, exact below 2^53 (assumption recorded in `vlib/ext_patch.py`). The store-level half of C08 is in `Props/C08.lean`. -/
namespace Asts.C08bytes
open Asts.Patch

/-- the recorded data depends only on the `spec.template` subtree of the encoded set -/
theorem patch_reads_only_template (s₁ s₂ : Json) (h : template? s₁ = template? s₂) : getPatch s₁ = getPatch s₂ :=
  getPatch_congr s₁ s₂ h

/-- writing ANY value to a top-level member other than `spec` — `metadata` (labels, annotations incl. delete-slots and the pause flag, generation,
    resourceVersion, finalizers, owners, timestamps), `status`, `kind`, `apiVersion` — never changes the recorded data -/
theorem patch_unchanged_by_top_edit (k : String) (v : Json) (top : Obj) (hk : k ≠ "spec") :
    getPatch (.obj (setKey k v top)) = getPatch (.obj top) :=
  getPatch_congr _ _ (template_setTop k v top hk)

theorem patch_unchanged_by_top_removal (k : String) (top : Obj) (hk : k ≠ "spec") :
    getPatch (.obj (eraseKey k top)) = getPatch (.obj top) :=
  getPatch_congr _ _ (template_eraseTop k top hk)

/-- writing ANY value to a member of `spec` other than `template` — replicas, serviceName, selector, updateStrategy, podManagementPolicy,
    revisionHistoryLimit, volumeClaimTemplates — never changes the recorded data -/
theorem patch_unchanged_by_spec_edit (k : String) (v : Json) (top spec : Obj) (hk : k ≠ "template") (hs : lookup "spec" top = some (.obj spec)) :
    getPatch (.obj (setKey "spec" (.obj (setKey k v spec)) top)) = getPatch (.obj top) :=
  getPatch_congr _ _ (template_setSpec k v top spec hk hs)

theorem patch_unchanged_by_spec_removal (k : String) (top spec : Obj) (hk : k ≠ "template") (hs : lookup "spec" top = some (.obj spec)) :
    getPatch (.obj (setKey "spec" (.obj (eraseKey k spec)) top)) = getPatch (.obj top) :=
  getPatch_congr _ _ (template_eraseSpec k top spec hk hs)

/-- `getPatch` succeeds exactly when `spec` and `spec.template` are objects (otherwise the Go type assertion panics) -/
theorem patch_defined_iff (s : Json) : (getPatch s).isSome = (template? s).isSome :=
  getPatch_isSome_iff s

/-- the recorded data is injective in the template: two sets whose templates carry no member named `$patch` (no `PodTemplateSpec` does: its members
    are `metadata` and `spec`) and whose recorded data are equal have equal templates -/
theorem patch_injective (s₁ s₂ : Json) (t₁ t₂ : Obj) (h₁ : template? s₁ = some t₁) (h₂ : template? s₂ = some t₂)
    (d₁ : hasKey directiveKey t₁ = false) (d₂ : hasKey directiveKey t₂ = false) (h : getPatch s₁ = getPatch s₂) : t₁ = t₂ := by
  rw [getPatch_eq_some s₁ t₁ h₁, getPatch_eq_some s₂ t₂ h₂] at h
  exact patchOf_injective t₁ t₂ d₁ d₂ (Option.some.inj h)

/-- hence: equal recorded data ↔ equal template (the connection between the byte level and the abstract template strings of the sync model, `SyncIn.template` and `Rev.data`) -/
theorem patch_eq_iff_template_eq (s₁ s₂ : Json) (t₁ t₂ : Obj) (h₁ : template? s₁ = some t₁) (h₂ : template? s₂ = some t₂)
    (d₁ : hasKey directiveKey t₁ = false) (d₂ : hasKey directiveKey t₂ = false) : getPatch s₁ = getPatch s₂ ↔ t₁ = t₂ :=
  ⟨patch_injective s₁ s₂ t₁ t₂ h₁ h₂ d₁ d₂, fun e => getPatch_congr _ _ (by rw [h₁, h₂, e])⟩

/-- applying the data recorded for a set with template `t` to ANY set (whatever its template and other members) yields a set whose
    `spec.template` is exactly `t` … -/
theorem restore_template (top spec t : Obj) (src : Json) (hsrc : template? src = some t) (hd : hasKey directiveKey t = false)
    (hs : lookup "spec" top = some (.obj spec)) :
    ∃ r, (getPatch src).bind (applyReplacePatch (.obj top)) = some r ∧ template? r = some t := by
  refine ⟨_, ?_, template_after_apply top spec t⟩
  rw [getPatch_eq_some src t hsrc]
  exact applyReplacePatch_patchOf top spec t hs hd

/-- … and in which every top-level member other than `spec` and every member of `spec` other than `template` is what it was -/
theorem restore_frame (top spec t : Obj) (hd : hasKey directiveKey t = false) (hs : lookup "spec" top = some (.obj spec)) :
    ∃ top' spec', applyReplacePatch (.obj top) (patchOf t) = some (.obj top') ∧ lookup "spec" top' = some (.obj spec') ∧
      (∀ k, k ≠ "spec" → lookup k top' = lookup k top) ∧ (∀ k, k ≠ "template" → lookup k spec' = lookup k spec) :=
  ⟨_, _, applyReplacePatch_patchOf top spec t hs hd, lookup_setKey_self _ _ _,
    fun k hk => member_after_apply_top k top spec t hk, fun k hk => member_after_apply_spec k spec t hk⟩

/-- serialisation is a function of the tree: equal trees ⇒ equal bytes, whatever escaping both sides share -/
theorem bytes_function_of_tree (esc : List Char → List Char) (a b : Json) (h : a = b) : ser esc a = ser esc b := by rw [h]

/-- the structural half of the converse, for every tree: the token parser inverts the token serialiser … -/
theorem parse_tokens_roundtrip (t : Json) : parseToks (toks t) = some t := parseToks_toks t

/-- … so equal token streams ⇒ equal trees (what `Spec.sameTree` relies on) -/
theorem tokens_determine_tree (a b : Json) (h : toks a = toks b) : a = b := toks_injective a b h

/-- the converse at byte level, for EVERY tree (no restriction on strings: quotes, backslashes, control characters, `<`, `>`, `&`, U+2028/9 and
    everything else go through Go's `encoding/json` escaping `goEscape` and come back): parser ∘ serialiser = id … -/
theorem parse_bytes_roundtrip (t : Json) : parse (ser goEscape t) = some t := parse_ser t

/-- … hence equal bytes ⇒ equal trees -/
theorem bytes_determine_tree (a b : Json) (h : ser goEscape a = ser goEscape b) : a = b := ser_injective a b h

/-- `Match(set, revision)` compares bytes: it is true exactly when the templates are equal -/
theorem match_iff_template_eq (t₁ t₂ : Obj) (h₁ : hasKey directiveKey t₁ = false) (h₂ : hasKey directiveKey t₂ = false) :
    ser goEscape (patchOf t₁) = ser goEscape (patchOf t₂) ↔ t₁ = t₂ :=
  ⟨fun h => patchOf_injective t₁ t₂ h₁ h₂ (ser_injective _ _ h), fun e => by rw [e]⟩

/-- monitor `C08.data` is true on the model, for every encoded set: `Spec.recordsTemplate raw (getPatch raw)` -/
theorem data_monitor_on_model (raw : Json) (t : Obj) (h : template? raw = some t) (hd : hasKey directiveKey t = false) :
    Spec.recordsTemplate raw (patchOf t) = true := by
  have hl : lookup "$patch" (insertKey "$patch" (.str "replace") t) = some (.str "replace") := lookup_insertKey_self _ _ _
  have he : eraseKey "$patch" (insertKey "$patch" (.str "replace") t) = t := eraseKey_insertKey _ _ _ hd
  simp [Spec.recordsTemplate, patchOf, templateOf_of_template raw t h, directiveKey, hl, he, sameTree_refl]

/-- monitor `C08.restore` is true on the model: applying the data recorded for ANY set `a` to ANY set `b` (with a `spec.template` member)
    yields a set that passes `Spec.restores a b ·` -/
theorem restore_monitor_on_model (a : Json) (ta topb specb : Obj) (ha : template? a = some ta) (hd : hasKey directiveKey ta = false)
    (hs : lookup "spec" topb = some (.obj specb)) (ht : hasKey "template" specb = true) :
    ∃ r, applyReplacePatch (.obj topb) (patchOf ta) = some r ∧ Spec.restores a (.obj topb) r = true := by
  refine ⟨_, applyReplacePatch_patchOf topb specb ta hs hd, ?_⟩
  have h1 := templateOf_of_template _ ta (template_after_apply topb specb ta)
  have h2 := templateOf_of_template a ta ha
  have e1 : eraseKey "spec" (setKey "spec" (.obj (setKey "template" (.obj ta) specb)) topb) = eraseKey "spec" topb :=
    eraseKey_setKey _ _ _ (hasKey_of_lookup _ _ _ hs)
  have e2 : eraseKey "template" (setKey "template" (.obj ta) specb) = eraseKey "template" specb := eraseKey_setKey _ _ _ ht
  simp [Spec.restores, h1, h2, sameTree_refl, Spec.dropTemplate, lookup_setKey_self, hs, e1, e2]

/-- non-vacuity: a set with a template has a patch, and a `replicas` edit leaves it as it is -/
example : getPatch (.obj [("metadata", .obj [("name", .str "web")]), ("spec", .obj [("replicas", .num 3), ("template", .obj [("metadata", .obj [])])])])
    = some (.obj [("spec", .obj [("template", .obj [("$patch", .str "replace"), ("metadata", .obj [])])])]) := by
  simp [getPatch, template?, lookup, patchOf, insertKey, directiveKey]

example : hasKey directiveKey [("metadata", .obj []), ("spec", .obj [("containers", .null)])] = false := by
  simp [hasKey, directiveKey]

end Asts.C08bytes
