import Asts.Proofs.Upgrade
import Asts.Gen.Sites

/-! # C17 — upgrade from the built-in StatefulSet never loses pods and survives interruption

The lemmas live in `Asts/Proofs/Upgrade`. `Upgrade.run` / `Upgrade.runs` are the model of
`client/apis/apps/v1/helper/upgrade.go` (`func Upgrade`) over two API states with an injection (error answer — executed or
not — or death of the process) at any call index of any run, tied to the Go code by the `upgrade` engine; the predicates of
`Asts/Spec/Upgrade` are what the monitors evaluate on the implementation. The caller re-submits the same built-in object on
every run. No bound on the number of revisions, of runs or of injections.

World assumptions of the model: names are unique per namespace; nothing else writes concurrently; the Advanced StatefulSet
resource has the status subresource; the garbage collector honours orphan propagation (not modelled: the theorems are about
the calls and the stored objects). The model describes the INTENDED handling of a selected revision without a label map (an
empty map is created); the pinned tree panicked there (repaired in `/repo` by commit 49ab63c) — see `Model/Upgrade.revOne`. -/
namespace Asts.C17
open Asts.Upgrade

/-- **Prefix safety.** In every run of every case — any injections in any number of earlier and current runs, whether or not
    an Advanced StatefulSet pre-exists, any selector, any revisions — each delete of the built-in StatefulSet is issued with
    orphan propagation, from a state in which the Advanced StatefulSet of that name exists with the built-in object's spec and
    status and every revision the selector matched at entry is stored without the selector's match-label keys and with the
    marker; and no call of the trace is on a pod or a claim. -/
theorem prefix_safety (p : Params) (w : World2) (injs : List (Nat → Inj)) :
    Spec.safeRuns p w (runs p w injs).2 = true :=
  runs_safe injs w (reach_refl p w.revs)

/-- **Nothing is lost.** After any runs every revision stored at entry is still stored, and pods and claims are what they were. -/
theorem nothing_lost (p : Params) (w : World2) (injs : List (Nat → Inj)) :
    Spec.revsKept w (runs p w injs).1 = true ∧ Spec.untouched w (runs p w injs).1 = true := by
  have h := runs_reach p injs w
  exact ⟨revsKept_of_names (reach_names h.revs), by simp [Spec.untouched, h.pods, h.claims]⟩

/-- **Recoverability.** Any number of failed or killed runs (any plan) followed by a fault-free run ends in exactly the stored
    state in which a single uninterrupted run from the same start ends. -/
theorem recoverable (p : Params) (w : World2) (injs : List (Nat → Inj)) :
    Spec.sameFinal (runs p w (injs ++ [noInj])).1 (run p noInj w).w = true := by
  rw [runs_append]
  simpa [Spec.sameFinal] using (recover p w injs).1

/-- **Idempotence.** A fault-free run on its own final state changes nothing. -/
theorem idempotent (p : Params) (w : World2) : (run p noInj (run p noInj w).w).w = (run p noInj w).w := by
  simpa [runs] using (recover p w [noInj]).1

/-- **A fault-free run succeeds and upgrades**, for a built-in object that passed apps/v1 validation as far as the helper can
    see (a selector that is present and converts): the built-in set is gone, the Advanced set has its spec and status, every
    selected revision is relabelled, every revision, pod and claim is kept. -/
theorem uninterrupted_upgrades (p : Params) (w : World2) (herr : selectorError p.sel = false) (hsel : p.sel.isNil = false) :
    Spec.rerunOk (run p noInj w).out = true ∧ Spec.upgraded p w (run p noInj w).w = true := by
  have h := run_noInj_upgraded (w := w) herr hsel
  exact ⟨by simp [Spec.rerunOk, h.1], h.2⟩

/-- **Re-run until it succeeds.** Under the same hypothesis, after any failed or killed runs a fault-free run succeeds and the
    stored state is the upgraded one. -/
theorem rerun_succeeds (p : Params) (w : World2) (injs : List (Nat → Inj)) (herr : selectorError p.sel = false)
    (hsel : p.sel.isNil = false) :
    Spec.rerunOk (run p noInj (runs p w injs).1).out = true ∧ Spec.upgraded p w (run p noInj (runs p w injs).1).w = true := by
  have h := uninterrupted_upgrades p w herr hsel
  rw [(recover p w injs).1, (recover p w injs).2]
  exact h

/-- **Fact check on the source.** `Gen.upgradeWriteKinds` is regenerated from /repo on every check: the (resource, verb) pairs
    of the client write calls in `Upgrade` and in every function of its package it can reach by static calls. There is no
    write on Pods or PersistentVolumeClaims, the only delete is on StatefulSets, and the kinds are exactly the five write
    calls of the model (revision update; create, update, update-status of the Advanced set; delete of the built-in set) —
    however the body of `Upgrade` is split into helper functions. -/
theorem upgrade_sites_no_pod_claim_write :
    Gen.upgradeWriteKinds.all (fun s => s.1 != "Pods" && s.1 != "PersistentVolumeClaims" &&
      ((s.2 != "Delete" && s.2 != "DeleteCollection") || s.1 == "StatefulSets")) = true ∧
    Gen.upgradeWriteKinds =
      [("ControllerRevisions", "Update"), ("StatefulSets", "Create"), ("StatefulSets", "Delete"), ("StatefulSets", "Update"),
       ("StatefulSets", "UpdateStatus")] := by
  decide

/-! non-vacuity: a three-revision world (one foreign revision), a selector with match labels and an expression; the first run
    is killed before the delete, the second gets a lost response on the delete (executed, answered Timeout), the third is fault free -/
section example_
def exP : Params := { name := "web", sel := { isNil := false, ml := [("a", "x")], exprs := [⟨"t", .opIn, ["p", "q"]⟩] }, spec := 2, status := 3 }
def exRevs : List Rev := [⟨"web-1", some [("a", "x"), ("t", "p")]⟩, ⟨"web-2", some [("a", "q")]⟩, ⟨"web-3", some [("a", "x"), ("t", "q")]⟩]
def exW : World2 := { sts := true, revs := exRevs, asts := none, pods := 0, claims := 0 }
def exKill : Nat → Inj := fun i => if i = 6 then .crash else .none
def exLost : Nat → Inj := fun i => if i = 4 then .err .timeout true else .none

example : selectorError exP.sel = false ∧ exP.sel.isNil = false := by decide
example : (run exP exKill exW).out = .crash ∧ (run exP exKill exW).w.sts = true ∧ (run exP exKill exW).w.asts = some ⟨0, 2, 3⟩ := by decide
example : (runs exP exW [exKill, exLost, noInj]).1 =
    { sts := false, revs := [⟨"web-1", some [("M", "web"), ("t", "p")]⟩, ⟨"web-2", some [("a", "q")]⟩, ⟨"web-3", some [("M", "web"), ("t", "q")]⟩],
      asts := some ⟨0, 2, 3⟩, pods := 0, claims := 0 } := by decide
example : ((runs exP exW [exKill, exLost, noInj]).2.map (·.2)) = [.crash, .err .timeout, .ok] := by decide
/-- a selector made only of a negative expression selects a revision without a label map; the intended helper relabels it -/
def exP2 : Params := { name := "web", sel := { isNil := false, ml := [], exprs := [⟨"c", .doesNotExist, []⟩] }, spec := 1, status := 0 }
def exW2 : World2 := { sts := true, revs := [⟨"web-1", none⟩], asts := none, pods := 0, claims := 0 }
example : (run exP2 noInj exW2).out = .ok ∧ (run exP2 noInj exW2).w.revs = [⟨"web-1", some [("M", "web")]⟩] := by decide
end example_

end Asts.C17
