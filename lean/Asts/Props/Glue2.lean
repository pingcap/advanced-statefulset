import Asts.Props.Glue
import Asts.Proofs.GL2_Rc
import Asts.Proofs.GL2_Store
import Asts.Proofs.GL2_Removed
import Asts.Proofs.GL2_C12
import Asts.Proofs.GL2_Stable

/-! # Glue2 — the monitor clauses of `Spec/Glue2.lean`, as theorems about the model

`monitorRc` (`Driver/Reconcile.lean`) and `monitorSync` (`Driver/Sync.lean`) evaluate, next to the predicates of
`Spec/Reconcile.lean` and `Spec/Sync.lean`, the clauses of `Spec/Glue2.lean` (`C04removedRc`, `C04removedSync`, `C11revowner`,
`C18adopted`, `C12completionSync`); the drivers call these definitions on the observation of the REAL code, and the theorems below say
that the very same Boolean is `true` on the observation of the MODEL (`updateStatefulSet …`, `(syncF h i plan).observe`)
for every input. Lemmas: `Asts/Proofs/GL2_*.lean`.

| clause | theorem | hypotheses |
|---|---|---|
| `C04.removed` (reconcile) | `C04_removed_reconcile` | none |
| `C04.removed` (sync) | `C04_removed_sync` | pod names unique, pod ids unique |
| `C11.revowner` | `C11_revowner` | revision names unique |
| `C18.adopted` | `C18_adopted` | revision names unique |
| `C12.completion` (sync) | `C12_completion_sync` | none |
| `C18.stable` (world) | `C18_stable` | revision names unique (or: every revision on the first probed name records the template) |

Hypotheses, and why each is there:
* `(i.pods.map (·.name)).Nodup` — pod names are unique in the pod cache (one namespace of the API). `podFaults` finds the
  ordinal a faulted `delete:pod:<name>` call is about by looking the name up in the cache, and `annotate` counts
  occurrences of the entry string; with two cached pods of one name both go wrong (`exDupPods` below: the clause is false).
* `(i.pods.map (·.pod.id)).Nodup` — pod ids (the driver numbers pods by position: `C04_removed_sync_positions`) are
  distinct; a recorded delete names its pod by id.
* `SYa.StoreNamesOk i` — revision names are unique in the store; both revision clauses look input revisions up BY NAME in the
  final store and are false on an untouched store holding two revisions of one name (`exDupRevs`, `exDupRevs18`).

`C09.retrysame` ("every attempt of a retried status write carries the same status") has no model-level statement: the
model's `statusWriteF` logs one `updatestatus` entry per attempt but does not take the status as an argument at all — the
status is computed once, before the retry loop, and `SyncOut.status` holds that one value; attempts carry no payload that
could differ. The clause stays a check of the real code only (`stvar` of the harness observation). -/
namespace Asts.Glue2
open Asts Asts.GL Asts.GL2

/-! ## (a) `C04.removed` -/

/-- **a refused pod-control call ends the reconcile**: in the action list of `updateStatefulSet` nothing stands after an
    action the fault list refuses (`SYc.hitAct`: a create / delete / update whose (verb, ordinal) is in the list) -/
theorem refused_call_is_last (v : SetView) (cur upd : String) (pods : List Pod) (f : Faults) {pre post : List Action}
    {a : Action} (h : (updateStatefulSet v cur upd pods f).1.acts = pre ++ a :: post) (hh : SYc.hitAct f a = true) :
    post = [] :=
  hit_is_last v cur upd pods f h hh

/-- **`C04.removed`, reconcile level**: the clause of `monitorRc` is true on the model's output — no create at an ordinal
    whose delete earlier in the same reconcile was refused — for every spec, snapshot and fault list. No hypothesis. -/
theorem C04_removed_reconcile (v : SetView) (cur upd : String) (pods : List Pod) (f : Faults) :
    C04removedRc f (observe (updateStatefulSet v cur upd pods f).1.acts) = true :=
  C04removedRc_holds v cur upd pods f

/-- what stands before a create in a reconcile: every delete before it names a pod of the snapshot (by id) at the delete's
    own ordinal, and these deletes have pairwise distinct ordinals -/
theorem deletes_before_a_create (v : SetView) (cur upd : String) (pods : List Pod) (f : Faults) {X Y : List Action}
    {o : Int} {r : String} (h : (updateStatefulSet v cur upd pods f).1.acts = X ++ .create o r :: Y) :
    (∀ a ∈ X, DelOK pods a) ∧ (delOrds X).Nodup :=
  before_create v cur upd pods f h

/-- the call log of a sync by position: entries of the stages before the reconcile, the pod-control calls of the recorded
    actions in order, entries of the status write and the truncation; only the middle part holds pod creates / deletes -/
theorem sync_log_by_position (h : Hashing) (i : SyncIn) (plan : List Fault) :
    ∃ P Q, (syncF h i plan).log =
        P ++ ((syncF h i plan).acts.map (actLog i.setName plan i.pods (syncF h i plan).claimed (SYa.rangeOf i).1
          (SYa.rangeOf i).2)).flatten ++ Q ∧
      (∀ e ∈ P, NoPodCD e) ∧ (∀ e ∈ Q, NoPodCD e) :=
  sync_log_decomp h i plan

/-- `Prop` reading, stronger than the clause (the two names need not agree): a `delete:pod:` entry of the log of a sync that
    is followed, anywhere later, by a `create:pod:` entry was hit by no injected fault -/
theorem no_create_after_refused_delete (h : Hashing) (i : SyncIn) (plan : List Fault)
    (hnames : (i.pods.map (·.name)).Nodup) (hids : (i.pods.map (·.pod.id)).Nodup)
    {a' c bb : List String} {sg se : String}
    (hlog : (syncF h i plan).log = a' ++ sg :: (c ++ se :: bb))
    (hg : (parseEntry sg).verb = "delete" ∧ (parseEntry sg).res = "pod")
    (he : (parseEntry se).verb = "create" ∧ (parseEntry se).res = "pod") :
    SYb.look plan sg (SYb.cnt sg a') = none :=
  no_create_after_faulted_delete h i plan hnames hids hlog hg he

/-- **`C04.removed`, sync level**: the clause of `monitorSync` is true on the model's log for every hashing, world and fault
    plan in which pod names and pod ids are unique. -/
theorem C04_removed_sync (h : Hashing) (i : SyncIn) (plan : List Fault)
    (hnames : (i.pods.map (·.name)).Nodup) (hids : (i.pods.map (·.pod.id)).Nodup) :
    C04removedSync plan (syncF h i plan).observe.log = true :=
  C04removedSync_holds h i plan hnames hids

/-- the same with the id hypothesis as the driver establishes it: pods numbered by position -/
theorem C04_removed_sync_positions (h : Hashing) (i : SyncIn) (plan : List Fault)
    (hnames : (i.pods.map (·.name)).Nodup)
    (hpos : ∀ (k : Nat) (c : CPod), i.pods[k]? = some c → c.pod.id = k) (hlen : i.pods.length ≤ freshId) :
    C04removedSync plan (syncF h i plan).observe.log = true := by
  have hids := (Glue.world_idsOk_of_positions i hpos hlen).nodup
  rw [List.map_map] at hids
  exact C04removedSync_holds h i plan hnames hids

/-! ## (b) `C11.revowner` -/

/-- **no adoption without confirmation**: when the cached set is being deleted, or the uncached read of the set finds it
    gone, re-created (other uid) or carrying a deletion timestamp, the adoption stage leaves every stored revision with the
    name and the owner it had — for every fault plan, whether the stage ends well or not -/
theorem adoption_needs_confirmation (plan : List Fault) (del : Bool) (fresh : Fresh) (s : RevSt)
    (hno : (freshOk fresh && !del) = false) :
    ∃ f : Rev → Rev, (∀ x, (f x).name = x.name ∧ (f x).owner = x.owner) ∧
      (adoptOrphanRevisionsF plan del fresh s).1.store = s.store.map f :=
  adopt_keeps_owner plan del fresh s hno

/-- after the adoption stage no stage of a sync changes an owner: every revision of the final store of a sync that ran has
    the name and the owner of a revision the adoption stage left, or is a new own revision under a name that was free -/
theorem store_owners_after_adoption (h : Hashing) (i : SyncIn) (plan : List Fault)
    (hrun : (i.paused || !i.selectorOk) = false) :
    ∀ y ∈ (syncF h i plan).store, FromAdopted (SYb.adoptedStore plan i) y :=
  sync_store_fromAdopted h i plan hrun

/-- `Prop` reading of `C11.revowner` -/
theorem revowner_reading (h : Hashing) (i : SyncIn) (plan : List Fault) (hnd : SYa.StoreNamesOk i)
    (hno : (freshOk i.fresh && !i.view.deleting) = false) :
    ∀ r ∈ i.store, r.owner ≠ .self → ∀ y ∈ (syncF h i plan).store, y.name = r.name → y.owner ≠ .self :=
  revowner_prop h i plan hnd hno

/-- **`C11.revowner`**: the clause of `monitorSync` is true on the model: when adoption is not allowed, every revision of
    the input store that is not the set's own is not controlled by the set in the final store — every hashing, world and
    fault plan; revision names unique. -/
theorem C11_revowner (h : Hashing) (i : SyncIn) (plan : List Fault) (hnd : SYa.StoreNamesOk i) :
    C11revowner i (syncF h i plan).observe = true := by
  unfold C11revowner
  by_cases hno : (freshOk i.fresh && !i.view.deleting) = true
  · rw [hno]; rfl
  · rw [Bool.eq_false_iff.2 hno, Bool.false_or, List.all_eq_true]
    intro r hr
    by_cases hro : r.owner = .self
    · rw [Bool.or_eq_true, beq_iff_eq]
      exact Or.inl hro
    · rw [Bool.or_eq_true]
      exact Or.inr (revs_all_of_store (q := (· != .self)) fun y hy hyn =>
        bne_iff_ne.2 (revowner_prop h i plan hnd (Bool.eq_false_iff.2 hno) r hr hro y hy hyn))

/-! ## (c) `C18.adopted` -/

/-- **every visible orphan is adopted by a sync that succeeds**, for EVERY fault plan and whatever the uncached read would
    say: the sync of a running set (not paused, selector valid, not being deleted in the cache) that ended `.ok` leaves every
    input revision that nobody controlled and that it can see (selector labels or upgrade marker) controlled by the set, if
    it still exists. Two guards of the monitor clause (`freshOk`, empty plan) are not needed: an adoption stage that ended
    well with an orphan in sight HAS confirmed the set. -/
theorem orphans_adopted (h : Hashing) (i : SyncIn) (plan : List Fault) (hnd : SYa.StoreNamesOk i)
    (hrun : (i.paused || !i.selectorOk) = false) (hdel : i.view.deleting = false) (hok : (syncF h i plan).outcome = .ok) :
    ∀ r ∈ i.store, r.owner = .none → (r.selMatch = true ∨ r.marker = true) →
      ∀ y ∈ (syncF h i plan).store, y.name = r.name → y.owner = .self :=
  orphans_adopted_prop h i plan hnd hrun hdel hok

/-- **`C18.adopted`**: the clause of `monitorSync` is true on the model for every hashing, world and fault plan; revision
    names unique. -/
theorem C18_adopted (h : Hashing) (i : SyncIn) (plan : List Fault) (hnd : SYa.StoreNamesOk i) :
    C18adopted i plan (syncF h i plan).observe = true :=
  C18adopted_holds h i plan hnd

/-! ## (d) `C12.completion` at sync level -/

/-- nothing created or deleted among the recorded actions of a sync ⇒ nothing created or deleted among the pod-control
    calls `monitorSync` reads back from its log (`podActs`), whatever create labels the harness recorded -/
theorem log_quiet_of_acts_quiet (h : Hashing) (i : SyncIn) (plan : List Fault) (creates : List String)
    (hq : (observe (syncF h i plan).acts).any (fun a => a.isCreate || a.isDelete) = false) :
    (podActs i (syncF h i plan).log creates).any (fun a => a.isCreate || a.isDelete) = false :=
  podActs_quiet h i plan creates hq

/-- **`C12.completion`, sync level**: the clause of `monitorSync` — the completion rule judged on the status a whole sync
    wrote and on the pod-control calls of its log — is true on the model for every hashing, world, fault plan and every list
    of recorded create labels. Composition of `C12.C12_completion` (reconcile level) with `Glue.sync_C12_completion`
    (reconcile inside sync) and the log bridge above. No hypothesis. -/
theorem C12_completion_sync (h : Hashing) (i : SyncIn) (plan : List Fault) (creates : List String) :
    C12completionSync i (syncF h i plan) (syncF h i plan).observe creates = true :=
  C12completionSync_of_observed h i plan creates (fun st hst => Glue.sync_C12_completion h i plan st hst)

/-! ## (f) `C18.stable` — rounds add no second revision recording the template -/

/-- **one sync, when every revision on the first probed name records the template** (`ProbeOk`): every revision of the final
    store is a revision of the input store (same name, same data) or records the template on that very name; a status the
    sync writes carries the collision count it started from. Every hashing, world and fault plan. -/
theorem one_sync_probe (h : Hashing) (i : SyncIn) (plan : List Fault)
    (hP : ProbeOk (h.nameOf i.template (i.collisionCount.getD 0)) i.template i.store) :
    (∀ y ∈ (syncF h i plan).store, FromOrProbe (h.nameOf i.template (i.collisionCount.getD 0)) i.template i.store y) ∧
    ((syncF h i plan).status.isSome = true → (syncF h i plan).cc = some (i.collisionCount.getD 0)) :=
  sync_probe h i plan hP

/-- **the invariant of rounds** (`StableInv`): the template and the collision count the next sync starts from are as at the
    start, every revision on the first probed name records the template, every revision recording the template bears a name
    of `N0` — kept by every round, whatever its fault plan, as soon as the first probed name is one of `N0` -/
theorem round_keeps_stable {h : Hashing} {T : String} {cc0 : Int} {N0 : List String} {W : SyncIn}
    (hN : h.nameOf T cc0 ∈ N0) (inv : StableInv h T cc0 N0 W) (plan : List Fault) :
    StableInv h T cc0 N0 (round h W plan).1 :=
  round_inv hN inv plan

/-- **`C18.stable`** from the probe hypothesis alone: for every hashing, world, fuel, silence counter and fault plan. None of
    the guards of the clause other than `held` is used (paused, invalid selector, deleting, faulted: the conclusion holds all
    the same), and `held` only to know that the probed name is a name of the initial store. -/
theorem C18_stable_of_probe (h : Hashing) (i : SyncIn) (plan : List Fault) (fuel silent : Nat)
    (hP : ProbeOk (h.nameOf i.template (i.collisionCount.getD 0)) i.template i.store) :
    C18stable h i plan (runRounds h fuel silent i plan) = true :=
  C18stable_of_probe h i plan fuel silent fun _ => hP

/-- **`C18.stable`**: the clause of the world driver is true on the model's run — every hashing, world, fuel, silence counter
    and fault plan; revision names unique. -/
theorem C18_stable (h : Hashing) (i : SyncIn) (plan : List Fault) (fuel silent : Nat) (hnd : SYa.StoreNamesOk i) :
    C18stable h i plan (runRounds h fuel silent i plan) = true :=
  C18stable_of_probe h i plan fuel silent (probeOk_of_held hnd)

/-- the form the driver evaluates: the run from the initial world with an empty plan -/
theorem C18_stable_run (h : Hashing) (i : SyncIn) (n : Nat) (hnd : SYa.StoreNamesOk i) :
    C18stable h i [] (runRounds h n 0 i []) = true :=
  C18stable_of_probe h i [] n 0 (probeOk_of_held hnd)

/-! ## non-vacuity, and the excluded points

`exW`: set `web`, 2 replicas, Parallel, both pods Failed. -/
private def exH : Hashing := { nameOf := fun d c => s!"web-{d}{c}", hashNumOf := fun _ _ => none }
private def exPod (id : Nat) (ord : Int) (ph : Phase) : Pod :=
  { id := id, ord := ord, phase := ph, ready := true, terminating := false, rev := "web-a", idOk := true, stOk := true }
private def exRev (name : String) (number : Int) (data : String) (owner : Owner) (sel marker : Bool) : Rev :=
  { name := name, number := number, ctime := 0, data := data, hashNum := none, owner := owner, selMatch := sel, marker := marker }
private def exW : SyncIn :=
  { setName := "web", paused := false, selectorOk := true,
    view := { replicas := some 2, slots := [], parallel := true, strat := .rolling, ru := some (some 0),
              deleting := false, generation := 2, stCurrentReplicas := 2 },
    stored := { replicas := 2, ready := 2, current := 2, updated := 0, currentRev := "web-a", updateRev := "web-a",
                observedGen := 1 },
    collisionCount := none, historyLimit := some 2, template := "a",
    fresh := { gone := false, uidOk := true, deleting := false },
    store := [exRev "web-a" 1 "a" .self true false],
    pods := [ { name := "web-0", pod := exPod 0 0 .failed, owner := .self, selMatch := true, member := true },
              { name := "web-1", pod := exPod 1 1 .failed, owner := .self, selMatch := true, member := true } ] }

/-- the hypotheses of `C04_removed_sync` hold on `exW` -/
example : (exW.pods.map (·.name)).Nodup ∧ (exW.pods.map (·.pod.id)).Nodup := by decide +kernel

/-- reconcile level: the delete of the Failed pod at ordinal 1 is refused; the reconcile replaced ordinal 0 and stops there -/
example : observe (updateStatefulSet exW.view "web-a" "web-a" (exW.pods.map (·.pod)) [(1, 1)]).1.acts =
    [.delete 0 (some 0), .create 0 "web-a", .delete 1 (some 1)] := by decide +kernel

/-- sync level: the same through the API-level fault plan `delete:pod:web-1@0`. Evaluated (`#eval`; `String.splitOn`, which
    `podFaults` and `annotate` call, does not reduce in the kernel): the log is `list:revs ×4, delete:pod:web-0,
    create:pod:web-0, delete:pod:web-1`, the outcome `.err` — no create follows the refused delete. The clause, by the
    theorem: -/
example : C04removedSync [{ key := "delete:pod:web-1", occ := 0, kind := .other }]
    (syncF exH exW [{ key := "delete:pod:web-1", occ := 0, kind := .other }]).observe.log = true :=
  C04_removed_sync exH exW _ (by decide) (by decide)

/-- the fault-free sync of `exW` replaces both Failed pods -/
example : (syncF exH exW []).log = ["list:revs", "list:revs", "list:revs", "list:revs", "delete:pod:web-0",
    "create:pod:web-0", "delete:pod:web-1", "create:pod:web-1", "updatestatus"] := by decide +kernel

/-! Unique pod names are necessary for the sync-level clause ON THE MODEL. `exDupPods`: two cached pods both named `web-1`
    (ordinals 0 and 1 — no API server holds such a pair), a fault on the SECOND `delete:pod:web-1` call. `podFaults` ignores
    it (occurrence ≠ 0), `annotate` reports it, and `create:pod:web-1` follows. Evaluated with `#eval` (not by `decide`, for
    the reason above): the log is `list:revs ×4, delete:pod:web-1, create:pod:web-0, delete:pod:web-1, create:pod:web-1,
    updatestatus` and `C04removedSync` is `false`. The hypothesis fails, as it must: -/
private def exDupPods : SyncIn :=
  { exW with pods := [ { name := "web-1", pod := exPod 0 0 .failed, owner := .self, selMatch := true, member := true },
                       { name := "web-1", pod := exPod 1 1 .failed, owner := .self, selMatch := true, member := true } ] }
example : ¬ (exDupPods.pods.map (·.name)).Nodup := by decide +kernel

/-- `C11.revowner`, non-vacuously: two visible orphans, the uncached read finds another uid — the sync stops after that
    read, nothing is adopted (the label sync did run) -/
private def exOrph : SyncIn :=
  { exW with store := [exRev "web-a" 1 "a" .none false true, exRev "web-b" 2 "b" .none true false] }
private def exOrphStale : SyncIn := { exOrph with fresh := { gone := false, uidOk := false, deleting := false } }
example : (syncF exH exOrphStale []).log = ["list:revs", "list:revs", "update:rev:web-a", "get:set"] ∧
    (syncF exH exOrphStale []).store.map (fun r => (r.name, r.owner, r.selMatch)) =
      [("web-a", .none, true), ("web-b", .none, true)] ∧
    SYa.StoreNamesOk exOrphStale := ⟨by decide +kernel, by decide +kernel, by unfold SYa.StoreNamesOk; decide⟩

/-- `C18.adopted`, non-vacuously: with a confirming read both orphans end up controlled by the set, and the sync succeeds -/
example : (syncF exH exOrph []).outcome = .ok ∧
    (syncF exH exOrph []).store.map (fun r => (r.name, r.owner)) = [("web-a", .self), ("web-b", .self)] := by decide +kernel

/-- unique revision names are necessary for both revision clauses: an untouched store (paused set) with two revisions
    named `a`, one the set's own, one nobody's … -/
private def exDupRevs : SyncIn :=
  { exOrphStale with paused := true, store := [exRev "a" 1 "a" .self true false, exRev "a" 2 "a" .none true false] }
example : C11revowner exDupRevs (syncF exH exDupRevs []).observe = false := by decide +kernel

/-- … and a running set with two revisions named `web-a`, one somebody else's (listed first, it hides the orphan from
    `ListRevisions`), one nobody's: the sync succeeds and the orphan is still an orphan -/
private def exDupRevs18 : SyncIn :=
  { exW with store := [exRev "web-a" 1 "a" .other true false, exRev "web-a" 2 "a" .none true false] }
example : C18adopted exDupRevs18 [] (syncF exH exDupRevs18 []).observe = false := by decide +kernel

/-- `C12.completion` at sync level, non-vacuously: the sync of `exOrph` writes a status (`currentRevision` stays) and
    replaces both Failed pods; the clause holds on the calls read back from its log, by the theorem (`podActs` calls
    `String.splitOn`; evaluated with `#eval` it returns `[delete 0 (some 0), create 0 "", delete 1 (some 1), create 1 ""]`) -/
example : ((syncF exH exOrph []).status.map (·.currentRev)) = some "web-a" ∧ (syncF exH exOrph []).upd = "web-a" ∧
    observe (syncF exH exOrph []).acts =
      [.delete 0 (some 0), .create 0 "web-a", .delete 1 (some 1), .create 1 "web-a"] := by decide +kernel
example : C12completionSync exOrph (syncF exH exOrph []) (syncF exH exOrph []).observe [] = true :=
  C12_completion_sync exH exOrph [] []

/-! `C18.stable`, non-vacuously. `exHeld`: the template `a` is recorded by `web-a0`, the name probed first, still
    controlled by somebody else (the built-in set before the garbage collector orphans its revision): invisible to the
    listing, so every sync tries to create it, is answered AlreadyExists, reads it back and re-uses it. Evaluated with `#eval`
    (`runRounds` goes through `applyPatches`, which calls `String.splitOn`): six rounds, each leaving the store
    `[web-a0 ↦ a]`; the clause is `true`. -/
private def exHeld : SyncIn :=
  { exW with store := [exRev "web-a0" 1 "a" .other true false],
             stored := { exW.stored with currentRev := "web-a0", updateRev := "web-a0" },
             pods := [ { name := "web-0", pod := { exPod 0 0 .running with rev := "web-a0" }, owner := .self, selMatch := true, member := true },
                       { name := "web-1", pod := { exPod 1 1 .running with rev := "web-a0" }, owner := .self, selMatch := true, member := true } ] }
example : (exHeld.store.any fun r => r.name == exH.nameOf exHeld.template (exHeld.collisionCount.getD 0) && r.data == exHeld.template) = true ∧
    SYa.StoreNamesOk exHeld := ⟨by decide +kernel, by unfold SYa.StoreNamesOk; decide⟩
example : (syncF exH exHeld []).log =
      ["list:revs", "list:revs", "list:revs", "list:revs", "create:rev:web-a0", "get:rev:web-a0", "updatestatus"] ∧
    (syncF exH exHeld []).store.map (fun r => (r.name, r.data)) = [("web-a0", "a")] ∧
    (syncF exH exHeld []).cc = some 0 := by decide +kernel

/-! Unique revision names (more precisely `ProbeOk`) are necessary ON THE MODEL: `exDupProbe` holds two revisions named
    `web-a0`, the first recording other data. `find?` meets the first, the loop moves on to collision count 1 and creates
    `web-a1` — a second revision recording the template, under a new name. Evaluated with `#eval`: every round leaves
    `[web-a0 ↦ x, web-a0 ↦ a, web-a1 ↦ a]` and `C18stable` is `false`. No API server holds two objects of one name: fed to
    the real code (`tools/difftool.sh world`) the harness's API keeps only the first of the two, so the real world does not
    hold the template at all and the case is not a realisable one (model and implementation differ on it). -/
private def exDupProbe : SyncIn :=
  { exHeld with store := [exRev "web-a0" 1 "x" .self true false, exRev "web-a0" 2 "a" .other true false] }
example : ¬ SYa.StoreNamesOk exDupProbe := by unfold SYa.StoreNamesOk; decide
example : (syncF exH exDupProbe []).store.map (fun r => (r.name, r.data)) =
    [("web-a0", "x"), ("web-a0", "a"), ("web-a1", "a")] := by decide +kernel

end Asts.Glue2
