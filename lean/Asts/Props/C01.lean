import Asts.Proofs.Desired
import Asts.Proofs.L1_a_Final

/-! # C01 — desired ordinals = the first `replicas` non-negative integers not in delete-slots

Property theorems only; the lemmas live in `Asts/Proofs`. `podOrdinals`, `maxReplicaAndSlots`, `maxOrd`, `minOrd`
are the model of `client/apis/apps/v1/helper/helper.go`, tied to the Go code by the `ordinals` engine; `desired` is the
specification the monitors evaluate; `IsDesired` is its `Prop` reading. -/
namespace Asts.C01

/-- For every `r ≥ 0` and every slot list (whatever the annotation parsed to), the helper's ordinal set has exactly
    `r` members, contains no slot and no negative number, is strictly increasing and is downward closed among
    non-slots (each member is the least free non-negative integer not already taken). -/
theorem helper_meets_spec (r : Int) (S : List Int) (hr : 0 ≤ r) : IsDesired r.toNat S (podOrdinals r S) :=
  helper_isDesired r S hr

/-- The specification determines the set: any two lists meeting it are equal. -/
theorem spec_unique {r : Nat} {S O₁ O₂ : List Int} (h₁ : IsDesired r S O₁) (h₂ : IsDesired r S O₂) : O₁ = O₂ :=
  isDesired_unique h₁ h₂

/-- The executable specification used by every monitor meets the specification. -/
theorem desired_meets_spec (r : Int) (S : List Int) : IsDesired r.toNat S (desired r S) :=
  desired_isDesired r S

/-- The helper agrees with the executable specification, for all `r ≥ 0` and all slot lists
    (duplicates, negatives, int32 extremes, below / inside / above the range). -/
theorem helper_eq_desired (r : Int) (S : List Int) (hr : 0 ≤ r) : podOrdinals r S = desired r S :=
  podOrdinals_eq_desired r S hr

/-- Cardinality, spelled out. -/
theorem card (r : Int) (S : List Int) (hr : 0 ≤ r) : (podOrdinals r S).length = r.toNat :=
  (helper_isDesired r S hr).len

/-- No member is a delete slot, spelled out. -/
theorem no_slot (r : Int) (S : List Int) (hr : 0 ≤ r) : ∀ o ∈ podOrdinals r S, o ∉ S :=
  (helper_isDesired r S hr).noSlot

/-- non-vacuity: a concrete instance with slots below, inside and above the range, a duplicate and a negative -/
example : podOrdinals 3 [1, 7, 1, -4, 0] = [2, 3, 4] ∧ desired 3 [1, 7, 1, -4, 0] = [2, 3, 4] := by decide +kernel

end Asts.C01

/-! # C01 clause (d) — the controller creates pods at exactly the desired ordinals and nowhere else

No hypothesis on the spec, the snapshot or the fault plan is needed for "nowhere else";
"exactly" is an equality on the empty cluster under the Parallel policy. -/
namespace Asts.C01d

/-- **C01 (d)**: the monitor is true on the model's output for EVERY spec, pod list and fault plan. -/
theorem C01creates_holds (v : SetView) (cur upd : String) (pods : List Pod) (f : Faults) :
    C01creates v (observe (updateStatefulSet v cur upd pods f).1.acts) = true :=
  C01creates_holds_gen v cur upd pods f

/-- The same in the shape used by the other headline theorems (`replicasOf v = r`). -/
theorem C01creates_holds_r (v : SetView) (cur upd : String) (pods : List Pod) (f : Faults) (r : Int)
    (hr : v.replicas = some r) {o : Int} {rev : String}
    (h : Action.create o rev ∈ (updateStatefulSet v cur upd pods f).1.acts) : o ∈ desired r v.slots := by
  have := creates_only_desired_prop v cur upd pods f h
  simpa [replicasOf, hr] using this

/-- `Prop` reading: every create action of the model is at a desired ordinal. -/
theorem creates_only_desired (v : SetView) (cur upd : String) (pods : List Pod) (f : Faults) {o : Int} {rev : String}
    (h : Action.create o rev ∈ (updateStatefulSet v cur upd pods f).1.acts) : o ∈ desired (replicasOf v) v.slots :=
  creates_only_desired_prop v cur upd pods f h

/-- **Exactly**: on an empty cluster, Parallel policy, no fault, set not being deleted, the created ordinals are the
    desired set, in ascending order — for every replica count and slot list (no int32 bound: the model is of the
    repaired first-unhealthy scan, see C15). -/
theorem empty_cluster_exact (v : SetView) (cur upd : String) (r : Int) (hr : v.replicas = some r)
    (hpar : v.parallel = true) (hdel : v.deleting = false) :
    createOrds (observe (updateStatefulSet v cur upd [] []).1.acts) = desired r v.slots :=
  C01d_exact_gen v cur upd [] r hr hpar hdel (by intro o; rfl)

/-- The same for any fault plan that does not fail a create. -/
theorem empty_cluster_exact_faults (v : SetView) (cur upd : String) (f : Faults) (r : Int) (hr : v.replicas = some r)
    (hpar : v.parallel = true) (hdel : v.deleting = false) (hf : ∀ o, f.hit 0 o = false) :
    createOrds (observe (updateStatefulSet v cur upd [] f).1.acts) = desired r v.slots :=
  C01d_exact_gen v cur upd f r hr hpar hdel hf

/-! non-vacuity -/
private def exV : SetView :=
  { replicas := some 3
    slots := [1, 7, 1, -4, 0]
    parallel := true
    strat := .rolling
    ru := none
    deleting := false
    generation := 1
    stCurrentReplicas := 0 }

example : exV.replicas = some 3 ∧ exV.parallel = true ∧ exV.deleting = false := by decide +kernel
example : createOrds (observe (updateStatefulSet exV "a" "b" [] []).1.acts) = [2, 3, 4] := by decide +kernel

end Asts.C01d
