import Asts.Proofs.PodControl
import Asts.Gen.Sites

/-! # C06 — stable identity and storage per ordinal; claims come first and are never removed

The lemmas live in `Asts/Proofs/PodControl.lean`. `Asts.PodControl` (Model) is the model of
`stateful_set_utils.go` / `stateful_pod_control.go` over real strings (one `Char` per byte), tied to the Go code by the
`podcontrol` engine; `Asts.PodControl.Spec` holds the decidable predicates the monitor evaluates on the implementation.

Domain of the property: ordinals `0 ≤ i < 2^31` (`InDomain`), every set name / namespace / service / uid (arbitrary byte
strings), every list of claim templates (duplicates, empty names), every pod template, every world (API content, PVC informer
cache content, pod lister) and every fault plan (any number of faults on any lookups / creates / updates / deletes).

Partial by nature: "a claim exists" means "the PVC informer cache returned it, or a create of it succeeded". A cache that
still shows a claim deleted out-of-band is outside what the code — and therefore the model — can know.
The parent half of the name round trip needs a set name without a newline (the regexp's `.` does not match one); object
names accepted by the API server never contain one. The ordinal half holds for every byte string. -/
namespace Asts.C06
open Asts.PodControl

/-! ## names -/

/-- `getParentNameAndOrdinal (getPodName S i) = (S, i)` for every set name without a newline — including names with
    dashes and names that themselves end in `-<digits>` (`web-1`, `x-007`, `a--1`, `-`, the empty name) — and every ordinal
    of the domain. -/
theorem name_parses_back (s : Str) (i : Int) (hi : InDomain i) (hs : '\n' ∉ s) : parseName (podName s i) = (s, i) :=
  parseName_podName s i hi hs

/-- The ordinal parses back for EVERY set name, with no condition on its bytes. -/
theorem ordinal_parses_back (s : Str) (i : Int) (hi : InDomain i) : (parseName (podName s i)).2 = i :=
  parseName_podName_ord s i hi

/-- The newline hypothesis of `name_parses_back` cannot be dropped: `.` does not match a newline, the match is leftmost. -/
example : parseName (podName "a\nb".toList 3) = ("b".toList, 3) := by
  rw [show (3 : Int) = ((3 : Nat) : Int) from rfl, parseName_podName_nat, ordOfDigits_digits 3 (by decide)]
  rfl

/-- Pod and claim names determine the ordinal: two different ordinals of a set never share a pod name or a claim. -/
theorem pod_name_injective (s : Str) (i j : Int) (hi : 0 ≤ i) (hj : 0 ≤ j) (h : podName s i = podName s j) : i = j :=
  podName_inj s hi hj h

theorem claim_name_injective (t s : Str) (i j : Int) (hi : 0 ≤ i) (hj : 0 ≤ j) (h : claimName t s i = claimName t s j) : i = j := by
  unfold claimName at h
  have h2 := List.append_cancel_left h
  simp only [List.cons.injEq, true_and] at h2
  exact podName_inj s hi hj h2

/-! ## the pod that is built -/

/-- Field by field: the pod `newVersionedStatefulSetPod` builds for ordinal `i` has name `S-i`, the set's namespace, hostname
    `S-i`, subdomain = the governing service, the pod-name label, the revision label of the template it was built from
    (`verif-built` marks the template), exactly one owner reference — to the set, by name and UID, controller, blocking —
    and for every claim template `T` a volume `T` bound to claim `T-S-i` and no volume `T` bound to anything else
    (whatever the pod template's own volumes, labels, hostname and subdomain were). -/
theorem built_pod_identity (base : SetV) (rs : RevSel) (i : Int) (hi : InDomain i) (p : Pod)
    (h : newVersionedPod (withMarker base "cur") (withMarker base "upd") rs i = some p) : PodOk base rs i p :=
  newVersionedPod_ok base rs hi h

/-- The volumes, spelled out for `newStatefulSetPod`. -/
theorem built_pod_volumes (v : SetV) (i : Int) (hi : InDomain i) (p : Pod) (h : newPod v i = some p) :
    ∀ t ∈ v.tmpls, (∃ x ∈ p.vols, x.name = t.name ∧ x.claim = some (claimName t.name v.name i)) ∧
      (∀ x ∈ p.vols, x.name = t.name → x.claim = some (claimName t.name v.name i)) :=
  newPod_volumes hi h

/-- A freshly built pod already satisfies `storageMatches` and (newline-free set name) `identityMatches`: the update path
    has nothing to repair on it. -/
theorem built_pod_matches (v : SetV) (i : Int) (hi : InDomain i) (hs : '\n' ∉ v.name) (p : Pod) (h : newPod v i = some p) :
    identityMatches v p = true ∧ storageMatches v p = true :=
  ⟨newPod_identityMatches hi hs h, newPod_storageMatches hi h⟩

/-! ## one `CreateStatefulPod` -/

/-- In every trace of `CreateStatefulPod(set, pod)`, from every world and under every fault plan: the log is lookups / creates
    of the pod's claims followed by at most one pod create; either some claim lookup or create failed, and then there is no
    pod create and the outcome is an error; or nothing failed, the single pod create comes last, and every claim of the pod
    was confirmed (found in the cache, or created) before it. No claim is removed from the API. -/
theorem create_trace (v : SetV) (p : Pod) (cs : List Claim) (hcs : getClaims v p = some cs) (w : World) :
    CreateRun v p cs w (createStatefulPod v p w) :=
  createStatefulPod_run hcs w

/-- Every claim computed for a pod is in the set's namespace, is named `T-S-<ordinal of the pod>` for one of the set's
    claim templates, and carries the selector's match labels (over whatever labels the template had); every template is covered. -/
theorem claims_of_pod (v : SetV) (p : Pod) (cs : List Claim) (hcs : getClaims v p = some cs) :
    (∀ c ∈ cs, ClaimOk v (parseName p.name).2 c) ∧ (∀ t ∈ v.tmpls, ∃ c ∈ cs, c.tname = t.name) :=
  getClaims_ok hcs

/-! ## the monitor is true on the model, for every case of the engine -/

/-- For every step sequence (create / update / delete / cache catch-up in any order and number), set, revision choice,
    ordinal, world, fault plan and initial pod: every clause of the C06 monitor (`Spec.clauses`: name, hostname, subdomain,
    pod-name label, revision label, owner, volumes, claims-first, claim labels + namespace, claim failure ⇒ no pod create and
    an error, only lookups and creates on claims, same claims for the same ordinal) holds on the model's observation. -/
theorem monitor_true_on_model (steps : List Step) (base : SetV) (rs : RevSel) (i : Int) (w : World) (pod : Option Pod)
    (obs : List StepObs) (h : run (mkCase steps base rs i w pod) = some obs) :
    ∀ cl ∈ Spec.clauses base rs i obs, cl.2 = true := by
  have hinv := run_inv h
  intro cl hcl
  simp only [Spec.clauses, List.mem_cons, List.not_mem_nil, or_false] at hcl
  rcases hcl with rfl | rfl | rfl | rfl | rfl | rfl | rfl | rfl | rfl | rfl | rfl | rfl
  · refine guard_dom i _ fun hi => podClause_run hinv hi _ fun o ho q hq hok => ?_
    simp only [Bool.and_eq_true, beq_iff_eq, List.all_eq_true, Bool.or_eq_true, Bool.not_eq_eq_eq_not, Bool.not_true]
    refine ⟨⟨hok.name, hok.ns⟩, fun e he => ?_⟩
    cases hpc : Spec.isPodCreate e
    · exact Or.inl rfl
    · exact Or.inr (hok.name ▸ (hinv o ho).podCreates hq he hpc)
  · exact guard_dom i _ fun hi => podClause_run hinv hi _ fun _ _ _ _ hok => beq_iff_eq.2 hok.host
  · exact guard_dom i _ fun hi => podClause_run hinv hi _ fun _ _ _ _ hok => beq_iff_eq.2 hok.sub
  · exact guard_dom i _ fun hi => podClause_run hinv hi _ fun _ _ _ _ hok => beq_iff_eq.2 hok.lpod
  · refine guard_dom i _ fun hi => podClause_run hinv hi _ fun _ _ q _ hok => ?_
    have hb : Spec.builtLabel = builtLabel := rfl
    rcases hok.lrev with ⟨h1, h2⟩ | ⟨h1, h2⟩
    · simp [hb, h1, h2]
    · simp [hb, h1, h2]
  · refine guard_dom i _ fun hi => podClause_run hinv hi _ fun _ _ q _ hok => ?_
    rw [hok.owner]
    simp only [List.any_cons, List.any_nil, Bool.or_false, Bool.and_eq_true, beq_iff_eq]
    exact ⟨⟨rfl, rfl⟩, rfl⟩
  · exact guard_dom i _ fun hi => podClause_run hinv hi _ fun _ _ _ _ hok => volumesOk_of_bound hok.vols
  · exact guard_dom i _ fun hi => claimsFirst_allLog hi obs [] hinv
  · exact logClause_run hinv _ fun _ h => h.1
  · exact claimFailOk_run hinv
  · exact logClause_run hinv _ fun _ h => h.2
  · exact guard_dom i _ fun _ => sameClaims_run obs hinv

/-- Claims first, spelled out on the concatenated call log of a run. -/
theorem claims_first (steps : List Step) (base : SetV) (rs : RevSel) (i : Int) (hi : InDomain i) (w : World) (pod : Option Pod)
    (obs : List StepObs) (h : run (mkCase steps base rs i w pod) = some obs) :
    Spec.claimsFirstFrom base i [] (Spec.allLog obs) = true :=
  claimsFirst_allLog hi obs [] (run_inv h)

/-- A failed claim lookup or create in a create step ⇒ no pod create in that step and an error outcome. -/
theorem claim_failure_blocks_pod (steps : List Step) (base : SetV) (rs : RevSel) (i : Int) (w : World) (pod : Option Pod)
    (obs : List StepObs) (h : run (mkCase steps base rs i w pod) = some obs) : obs.all Spec.claimFailOk = true :=
  claimFailOk_run (run_inv h)

/-- Scale in, scale out: all pods created for the ordinal within one history are bound to the same claims. -/
theorem same_claims_after_scale_in_out (steps : List Step) (base : SetV) (rs : RevSel) (i : Int) (w : World) (pod : Option Pod)
    (obs : List StepObs) (h : run (mkCase steps base rs i w pod) = some obs) : Spec.sameClaimsOk base obs = true :=
  sameClaims_run obs (run_inv h)

/-! ## claims are never removed -/

/-- None of the three operations of the pod control removes a claim from the API, whatever the world and the faults. -/
theorem claims_never_removed (v : SetV) (p : Pod) (w : World) :
    (∀ cs, getClaims v p = some cs → ∀ x ∈ w.claims, x ∈ (createStatefulPod v p w).1.claims) ∧
    (∀ x ∈ w.claims, x ∈ (updateStatefulPod v p w).1.claims) ∧
    (deleteStatefulPod v p w).1.claims = w.claims :=
  ⟨fun _ hcs => (createStatefulPod_run hcs w).claims, (updateStatefulPod_quiet v p w).2, (apiDeletePod_spec w v.ns p.name).1⟩

/-- Over the call-site inventory regenerated from /repo on every run: the only client write on PersistentVolumeClaims
    anywhere in the anchor packages is `Create`. -/
theorem only_create_on_claims :
    ∀ s ∈ Asts.Gen.writeSites, s.2.2.1 = "PersistentVolumeClaims" → s.2.2.2 = "Create" := by decide +kernel

/-- … and that inventory does contain the create site the model accounts for (the fact file is not empty of claims). -/
theorem claim_create_site_present :
    ("pkg/controller/statefulset/stateful_pod_control.go", "realStatefulPodControl.createPersistentVolumeClaims",
      "PersistentVolumeClaims", "Create") ∈ Asts.Gen.writeSites := by decide +kernel

/-! ## non-vacuity -/

namespace Example
def setWeb1 : SetV :=
  { name := "web-1".toList, ns := "ns".toList, svc := "svc".toList, uid := "uid-1".toList, sel := some [("app".toList, "web".toList)],
    tmpls := [⟨"data".toList, []⟩, ⟨"log".toList, [("tier".toList, "x".toList)]⟩], ptLabels := [], ptVols := [], ptHost := [], ptSub := [] }
def rs : RevSel := { rolling := true, ru := none, curReplicas := 0, curRev := "a".toList, updRev := "b".toList }
def world (faults : List Fault) : World := { claims := [], pods := [], cache := [], counts := [], faults := faults, fresh := none }

/-- the hypotheses of the theorems above are satisfiable: set `web-1`, templates `data` and `log`, ordinal 2 — the pod can
    be built, its claims can be computed, and the engine's create step runs (the `podcontrol` corpus holds the same case
    run through the real code: lookups and creates of `data-web-1-2` and `log-web-1-2`, then the pod `web-1-2`) -/
example : ∃ p, newVersionedPod (withMarker setWeb1 "cur") (withMarker setWeb1 "upd") rs 2 = some p := by
  unfold newVersionedPod newPod updateStorage
  obtain ⟨cs1, h1⟩ := getClaims_isSome_of_sel (v := withMarker setWeb1 "cur")
    (initIdentity (withMarker setWeb1 "cur") { basePod (withMarker setWeb1 "cur") with name := podName (withMarker setWeb1 "cur").name 2 }) rfl
  obtain ⟨cs2, h2⟩ := getClaims_isSome_of_sel (v := withMarker setWeb1 "upd")
    (initIdentity (withMarker setWeb1 "upd") { basePod (withMarker setWeb1 "upd") with name := podName (withMarker setWeb1 "upd").name 2 }) rfl
  split
  · exact ⟨_, by rw [h1]; rfl⟩
  · exact ⟨_, by rw [h2]; rfl⟩

example (p : Pod) : ∃ cs, getClaims setWeb1 p = some cs := getClaims_isSome_of_sel p rfl

example (faults : List Fault) : ∃ obs, run (mkCase [.C] setWeb1 rs 2 (world faults) none) = some obs := by
  simp only [run, mkCase, runSteps]
  split
  · exact ⟨_, rfl⟩
  · exact ⟨_, rfl⟩

example : InDomain 2 := by unfold InDomain; omega
end Example

end Asts.C06
