import Asts.Proofs.Watch
import Asts.Proofs.WatchMonitor

/-! # C20 — a hijacked watch relays everything, survives error events, shuts down cleanly

The theorems are about `Asts.Watch` with `Variant.fixed`: the relay of `client/apis/apps/v1/helper/hijack.go` as repaired in `/repo`
by commits ae18056 and 1400ef8 (non-StatefulSet payloads relayed unchanged; the send to the consumer selects on a `done` channel closed by `Stop`).
On the pinned tree both halves of the property are false (see the `example`s at the end and
`corpus/watch/defects-found-on-pinned-tree.txt`); the engine `watch` compares this model with whatever code is in the tree.

`Reachable .fixed w` quantifies over every finite interleaving of `srcSend e` (any type, any payload), `srcClose`,
`relayStep`, `consumerRecv`, `consumerStop` (once or repeatedly) from the freshly opened watch — no bound on the length, on
the number of events, or on how far the source runs ahead of the consumer.

Not modelled: the Go scheduler and memory model. Every action is atomic, `Stop`'s mutex is folded into that atomicity, and the
relay's `select` is represented by both of its branches being separately enabled. The tie between this transition system and
the goroutines is observational (scripted schedules, quiescence detected by goroutine-stack scans, engine `watch`). -/
namespace Asts.C20
open Asts.Watch

/-- Safety. In every reachable state the consumer's log is `convert` of a prefix of what the source offered, in order:
    nothing invented, nothing duplicated, nothing reordered, nothing skipped. -/
theorem relay_safety (w : W) (h : Reachable .fixed w) :
    ∃ pre rest, w.sent = pre ++ rest ∧ w.log = pre.map convert := by
  obtain ⟨rest, hr⟩ := flow_prefix (inv_reachable h).flow
  obtain ⟨l₁, l₂, h1, h2, _⟩ := List.map_eq_append_iff.mp hr
  exact ⟨l₁, l₂, h1, h2.symm⟩

/-- `convert` keeps the event type and the object's identity, turns a StatefulSet payload into the built-in one and leaves
    every other payload (the `Status` of an Error event, a foreign object) as it is; it is the conversion the monitor demands. -/
theorem convert_faithful (e : Ev) :
    (convert e).typ = e.typ ∧ (convert e).id = e.id ∧ (e.pay = .asSet → (convert e).pay = .builtin) ∧
      (e.pay ≠ .asSet → convert e = e) ∧ convert e = Spec.expected e :=
  ⟨convert_typ e, convert_id e, convert_set e, convert_nonset e, convert_eq_expected e⟩

/-- No reachable state has the relay crashed, whatever the events carry. -/
theorem no_crash (w : W) (h : Reachable .fixed w) : w.panicked = false :=
  (inv_reachable h).noPanic

/-- Cleanup, relay alone. From every reachable state in which the consumer has stopped, or the source has ended and nothing
    is left to deliver (`Finishing`), every maximal run of relay steps has at most `rank w ≤ 4` steps and ends with the
    goroutine gone and the result channel closed. `rank` (4 at the receive, 3 at the send, 2 and 1 in the two deferred calls,
    0 when gone) strictly decreases with every relay step (`rank_decreases`). -/
theorem cleanup (w : W) (h : Reachable .fixed w) (hq : Finishing w) (n : Nat) (w' : W)
    (hrun : RelayRun .fixed w n w') (hmax : relayStep? .fixed w' = none) :
    n ≤ rank w ∧ rank w ≤ 4 ∧ w'.pc = .exited ∧ w'.resultClosed = true :=
  let ⟨h1, h2⟩ := cleanup_run (inv_reachable h) hq hrun hmax
  ⟨h1, rank_le_four w, h2⟩

/-- The measure behind `cleanup`. -/
theorem relay_step_decreases_rank (v : Variant) (w w' : W) (hs : relayStep? v w = some w') : rank w' < rank w :=
  rank_decreases hs

/-- A maximal run of relay steps exists from every state (it is what `settle` computes), so `cleanup` is not vacuous. -/
theorem maximal_run_exists (v : Variant) (w : W) :
    ∃ k, RelayRun v w k (settle v w) ∧ relayStep? v (settle v w) = none :=
  let ⟨k, hk⟩ := settle_run v w
  ⟨k, hk, settle_blocked v w⟩

/-- Cleanup after `Stop()`, concretely: from any reachable state, `Stop` followed by the relay running until it blocks leaves
    the result channel closed and no goroutine behind. -/
theorem stop_then_settle (w : W) (h : Reachable .fixed w) (k : Nat) :
    (settle .fixed (act .fixed w (.consumerStop k))).pc = .exited ∧
      (settle .fixed (act .fixed w (.consumerStop k))).resultClosed = true := by
  have hr := reachable_act (.consumerStop k) h
  have hst : (act .fixed w (.consumerStop k)).stopped = true := by
    by_cases hs : w.stopped = true <;> simp [act, hs]
  obtain ⟨n, hrun⟩ := settle_run .fixed (act .fixed w (.consumerStop k))
  exact (cleanup_run (inv_reachable hr) (Or.inl hst) hrun (settle_blocked _ _)).2

/-- Cleanup under every schedule. Once the consumer has stopped, whatever else happens (more events, more Stops, receive
    attempts, the source ending) the relay is gone and the channel closed as soon as the relay has been scheduled `mu w` times;
    `mu` (twice the source queue plus a rank of the program counter) never increases and decreases with each relay step. -/
theorem cleanup_any_schedule (w : W) (h : Reachable .fixed w) (hst : w.stopped = true) (as : List Act)
    (hfair : mu w ≤ countRelay as) :
    (exec .fixed w as).pc = .exited ∧ (exec .fixed w as).resultClosed = true := by
  have hi := inv_reachable h
  have hx : (exec .fixed w as).pc = .exited := by
    rcases mu_exec_stopped as hi hst with hm | hm
    · exact (mu_zero_iff _).mp (by omega)
    · exact hm
  exact ⟨hx, (inv_exec as hi).exitedClosed hx⟩

/-- `Stop` is idempotent: a second `Stop` (with whatever the source does on a second `Stop`) changes nothing. -/
theorem stop_idempotent (v : Variant) (w : W) (k k' : Nat) :
    act v (act v w (.consumerStop k)) (.consumerStop k') = act v w (.consumerStop k) := by
  rcases w with ⟨queue, srcClosed, pc, resultClosed, stopped, panicked, log, sent⟩
  by_cases hc : stopped = true <;> simp [act, hc]

/-- The monitor is true on the model: for EVERY script (any length, any events, any placement of receives, Stops and the
    source's end) all six clauses of `Spec.monitor` — the predicate the engine evaluates on the real relay's observation — hold
    of the observation the repaired model produces. -/
theorem monitor_on_model (script : List SAct) : (Spec.monitor script (observe .fixed script)).all = true := by
  obtain ⟨hsim, hnp⟩ := sim_srun sim_init script
  obtain ⟨⟨f1, f2, f3, f4⟩, f5, f6⟩ := sim_final hsim
  simp only at hsim hnp f1 f2 f3 f4 f5 f6
  simp only [Spec.monitor, observe, Spec.Verdict.all]
  simp only [f1, f2, f3, f4, f5, hnp, Bool.not_false, Bool.and_self, Bool.true_and, Bool.and_true]
  by_cases hc : ((Spec.replay {} script (srun .fixed (settle .fixed {}) 0 script).2).stopped ||
      ((Spec.replay {} script (srun .fixed (settle .fixed {}) 0 script).2).srcEnded &&
        (Spec.replay {} script (srun .fixed (settle .fixed {}) 0 script).2).inflight == 0)) = true
  · obtain ⟨g1, g2⟩ := f6 hc
    simp [hc, g1, g2]
  · simp only [Bool.not_eq_true] at hc
    simp [hc]

/-- Scripts are interleavings: the state a script ends in is reachable in the transition system, so the theorems above
    apply to it. -/
theorem script_states_reachable (v : Variant) (script : List SAct) :
    Reachable v (srun v (settle v {}) 0 script).1 :=
  reachable_srun (reachable_settle ⟨[], rfl⟩) 0 script

/-! ## non-vacuity, and what goes wrong without the repair -/

/-- the monitor is not trivially true: on the unrepaired model it rejects the two defect schedules -/
example : (Spec.monitor [.send .error .status] (observe .pinned [.send .error .status])).nopanic = false := by decide
example : (Spec.monitor [.send .added .asSet, .stop] (observe .pinned [.send .added .asSet, .stop])).cleanup = false := by decide
example : (Spec.monitor [.send .added .asSet, .stop] (observe .fixed [.send .added .asSet, .stop])).all = true := by decide

/-- an Error event with a `Status` payload is delivered, then Stop and the source's end are survived -/
example :
    let w := exec .fixed {} [.srcSend ⟨.added, .asSet, 0⟩, .relayStep, .srcSend ⟨.error, .status, 1⟩, .consumerRecv, .relayStep,
      .consumerRecv, .consumerStop 0, .consumerStop 0, .relayStep, .relayStep, .relayStep]
    w.log = [⟨.added, .builtin, 0⟩, ⟨.error, .status, 1⟩] ∧ w.pc = .exited ∧ w.resultClosed = true ∧ w.panicked = false := by
  decide

/-- pinned tree, defect (a): the same Error event crashes the relay -/
example : (exec .pinned {} [.srcSend ⟨.error, .status, 0⟩, .relayStep]).panicked = true := by decide

/-- pinned tree, defect (b): Stop while the relay is blocked in its send — the relay can never move again, the channel stays open -/
example :
    let w := exec .pinned {} [.srcSend ⟨.added, .asSet, 0⟩, .relayStep, .consumerStop 0]
    w.stopped = true ∧ relayStep? .pinned w = none ∧ w.pc ≠ .exited ∧ w.resultClosed = false := by
  decide

/-- the same schedule with the repair -/
example :
    let w := settle .fixed (exec .fixed {} [.srcSend ⟨.added, .asSet, 0⟩, .relayStep, .consumerStop 0])
    w.pc = .exited ∧ w.resultClosed = true := by
  decide

end Asts.C20
