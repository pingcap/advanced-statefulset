import Asts.Proofs.L1_c_C12
import Asts.Gen.Crd

/-! # C15 (reconcile part) — no admitted object can crash the controller

`updateStatefulSet` (the model of `stateful_set_control.go:289-594`) has two panic outcomes: the nil `*Spec.Replicas`
dereference, excluded by the CRD (`replicas` is required, minimum 0), and the `firstUnhealthyPod.Name` dereference when the
first-unhealthy scan counts an unhealthy pod without recording one. The theorems below show that neither is reachable for
an admitted object: every strategy / partition / policy shape (including `ru = some none`, i.e. `rollingUpdate: {}`, and
negative partitions), **every pod list** and every fault plan.

On the pinned tree the scan compared ordinals strictly against its `math.MaxInt32` sentinel, so one unhealthy pod named
`<set>-2147483647` was counted but not recorded and the reconcile panicked (confirmed on the real code; repaired in `/repo`
by commit 53b1b2a; the failing inputs are in `corpus/reconcile/defects-found-on-pinned-tree.txt`). The model is of the
repaired scan: the theorems carry no bound on ordinals, nor on `replicas + #slots`. -/
namespace Asts.C15
open Asts.L1c

/-- **C15, reconcile part.** No panic for any admitted set, any pod list and any fault plan. -/
theorem C15_holds (v : SetView) (cur upd : String) (pods : List Pod) (f : Faults) (r : Int)
    (hr : v.replicas = some r) :
    ∀ site, (updateStatefulSet v cur upd pods f).2 ≠ .panic site :=
  fun site => Outcome.calm_ne_panic (updateStatefulSet_calm' v cur upd pods f r hr) site

/-- `Prop` reading: the outcome is `.ok` or `.err`. -/
theorem C15_ok_or_err (v : SetView) (cur upd : String) (pods : List Pod) (f : Faults) (r : Int)
    (hr : v.replicas = some r) :
    (updateStatefulSet v cur upd pods f).2 = .ok ∨ (updateStatefulSet v cur upd pods f).2 = .err :=
  updateStatefulSet_calm' v cur upd pods f r hr

/-- The scan: if it counted an unhealthy pod it recorded one, whatever the ordinals. -/
theorem scan_records_a_pod (ps : List Pod) (hpos : (firstUnhealthy ps).2 > 0) :
    (firstUnhealthy ps).1.isSome = true :=
  firstUnhealthy_some' ps hpos

/-- The three loops never produce a panic, whatever `prepare` returned. -/
theorem loops_never_panic (v : SetView) (cur upd : String) (f : Faults) (p : Prepared) :
    ∀ site, (runLoops v cur upd f p).2 ≠ .panic site :=
  fun site => Outcome.calm_ne_panic (runLoops_calm v cur upd f p) site

/-- non-vacuity: `rollingUpdate: {}`, a negative partition and an OnDelete set, with unhealthy pods -/
example :
    let v : SetView := { replicas := some 2, slots := [0, 7, -1], parallel := false, strat := .rolling, ru := some none,
                         deleting := false, generation := 1, stCurrentReplicas := 0 }
    let pods : List Pod := [{ id := 0, ord := 1, phase := .pending, ready := false, terminating := false, rev := "a",
                              idOk := true, stOk := true }]
    v.replicas = some 2 ∧
    (updateStatefulSet v "a" "b" pods [(0, 2)]).2 = .ok ∧
    (updateStatefulSet { v with ru := some (some (-3)) } "a" "b" pods []).2 = .ok := by decide

/-- the repaired scan records an unhealthy pod named `…-2147483647` (the value of the `math.MaxInt32` sentinel); the pod is
    outside the desired set and is the one scaled in -/
example :
    (updateStatefulSet { replicas := some 1, slots := [], parallel := false, strat := .rolling, ru := none,
                         deleting := false, generation := 1, stCurrentReplicas := 0 } "a" "b"
      [{ id := 0, ord := 0, phase := .running, ready := true, terminating := false, rev := "a", idOk := true, stOk := true },
       { id := 1, ord := 2147483647, phase := .pending, ready := false, terminating := false, rev := "a", idOk := true,
         stOk := true }] []).2
    = .ok := by decide

/-! ### The admission facts, read off the shipped CRD (`lean/Asts/Gen/Crd.lean` is regenerated from
    `/repo/manifests/crd.v1.yaml` on every check run, so these are re-checked against the file as it is now). -/

/-- every served version of the CRD requires `spec.replicas`, types it as an integer and bounds it below by 0 -/
theorem crd_replicas_required_nonneg :
    Asts.Gen.crdVersions.all (fun v =>
      v.2.2.1.contains "replicas" &&
      v.2.2.2.1.any (fun f => f.1 == "replicas" && f.2.1 == "integer" && f.2.2.1 == some 0)) = true := by decide

/-- every served version defaults `spec.revisionHistoryLimit` (so `*set.Spec.RevisionHistoryLimit` is never nil for an object
    the API server stored) and bounds it below by 0 -/
theorem crd_history_limit_defaulted_nonneg :
    Asts.Gen.crdVersions.all (fun v =>
      v.2.2.2.1.any (fun f => f.1 == "revisionHistoryLimit" && f.2.2.1 == some 0 &&
        (match f.2.2.2.1 with | some d => decide (0 ≤ d) | none => false))) = true := by decide

/-- the schema keeps `updateStrategy`, `selector`, `template` and `status` opaque: nothing about partitions, strategy or
    policy strings is validated — which is why the theorems above quantify over all of them -/
theorem crd_update_strategy_opaque :
    Asts.Gen.crdVersions.all (fun v =>
      v.2.2.2.1.any (fun f => f.1 == "updateStrategy" && f.2.2.2.2 == true) && v.2.2.2.2 == true) = true := by decide

end Asts.C15
