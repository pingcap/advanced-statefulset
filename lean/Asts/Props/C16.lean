import Asts.Proofs.Events

/-! # C16 — no lost wake-ups: every relevant event gets the right set reconciled

The table and the worker rest on the lemmas of `Asts/Proofs/Events.lean`; the rows are proved here, from the handlers and
the same lemmas. `handle L sets ev` is the model (`Model/Events`) of the
informer handlers of `pkg/controller/statefulset/stateful_set.go` with the lister expansion `L` — `.fixed` is the intended
one (a set whose selector does not convert is skipped), `.pinned` the one on the pinned tree (it makes the whole lookup
fail); `run` is the model of `processNextWorkItem` over the work queue. `Spec.*` are the predicates the monitors evaluate
on the real code's observations (`Spec/Events`). All statements hold for every cache (any number of sets), every pod,
every event and every worker script; `cacheOk` says the cache has at most one set per namespace/name (the informer's
indexer is keyed by it), `eventOk` that the two sides of an update are in the same namespace. -/
namespace Asts.C16
open Asts.Events Asts.Events.Spec

/-- **The table**: the keys the handlers put in the queue are, as a set, exactly the expected ones
    (the monitor `C16.exact` is true on the model for every input). -/
theorem table (sets : List SetObj) (ev : Event) (hc : cacheOk sets = true) (hev : eventOk ev = true) :
    exact sets ev (handle .fixed sets ev) = true :=
  handle_exact sets ev hc hev

/-- monitor `C16.owner` on the model: a pod event whose pod is controlled by a cached set wakes that set -/
theorem owner_woken (sets : List SetObj) (ev : Event) (hc : cacheOk sets = true) (hev : eventOk ev = true) :
    ownerWoken sets ev (handle .fixed sets ev) = true :=
  ((exact_iff_clauses sets ev _).1 (handle_exact sets ev hc hev)).1

/-- monitor `C16.oldowner` on the model: when the controlling owner changed the old one is woken too -/
theorem old_owner_woken (sets : List SetObj) (ev : Event) (hc : cacheOk sets = true) (hev : eventOk ev = true) :
    oldOwnerWoken sets ev (handle .fixed sets ev) = true :=
  ((exact_iff_clauses sets ev _).1 (handle_exact sets ev hc hev)).2.1

/-- monitor `C16.orphan` on the model: an unowned pod appearing or changing wakes every set that selects it -/
theorem orphan_woken (sets : List SetObj) (ev : Event) (hc : cacheOk sets = true) (hev : eventOk ev = true) :
    orphanWoken sets ev (handle .fixed sets ev) = true :=
  ((exact_iff_clauses sets ev _).1 (handle_exact sets ev hc hev)).2.2.1

/-- monitor `C16.set` on the model: any change to a set wakes it -/
theorem set_woken (sets : List SetObj) (ev : Event) (hc : cacheOk sets = true) (hev : eventOk ev = true) :
    setWoken ev (handle .fixed sets ev) = true :=
  ((exact_iff_clauses sets ev _).1 (handle_exact sets ev hc hev)).2.2.2.1

/-- monitor `C16.quiet` on the model: nothing else is woken -/
theorem nothing_else (sets : List SetObj) (ev : Event) (hc : cacheOk sets = true) (hev : eventOk ev = true) :
    nothingElse sets ev (handle .fixed sets ev) = true :=
  ((exact_iff_clauses sets ev _).1 (handle_exact sets ev hc hev)).2.2.2.2

/-- the five monitor clauses say exactly what the table says, for any observed key set: none is vacuous and together
    they leave nothing out (which is why the engine reports the clauses and not `exact` separately) -/
theorem clauses_iff_table (sets : List SetObj) (ev : Event) (keys : List Key) :
    exact sets ev keys = true ↔
      (ownerWoken sets ev keys = true ∧ oldOwnerWoken sets ev keys = true ∧ orphanWoken sets ev keys = true ∧
       setWoken ev keys = true ∧ nothingElse sets ev keys = true) :=
  exact_iff_clauses sets ev keys

/-! ## the rows, one by one (about the handlers directly; `L` arbitrary = also true of the pinned tree) -/

/-- creation (also of an already terminating pod), deletion, and deletion learned through a tombstone, of a pod whose
    controlling owner designates a cached set (kind, name, uid): exactly that set -/
theorem owned_pod_add_delete_tombstone (L : Lister) (sets : List SetObj) (p : Pod) (k : Key) (hc : cacheOk sets = true)
    (hk : ownerKey sets p = some k) :
    handle L sets (.add p) = [k] ∧ handle L sets (.delete p) = [k] ∧ handle L sets (.tombstone p) = [k] := by
  have hdel : deletePod sets p = [k] := by rw [deletePod_eq sets p hc, hk]; rfl
  refine ⟨?_, hdel, hdel⟩
  simp [handle, addPod_eq L sets p hc, hk, ctrlRef_isSome_of_ownerKey hk]

/-- update of an owned pod whose owner did not change: exactly the owner -/
theorem owned_pod_update (L : Lister) (sets : List SetObj) (old cur : Pod) (k : Key) (hc : cacheOk sets = true)
    (hns : old.ns = cur.ns) (hrv : old.rv ≠ cur.rv) (hid : ownerId old = ownerId cur) (hk : ownerKey sets cur = some k) :
    ∀ k', k' ∈ handle L sets (.update old cur) ↔ k' = k := by
  have hko : ownerKey sets old = some k := (ownerKey_congr sets hns hid).trans hk
  have hs : (controllerOf cur).isSome = true := ctrlRef_eq cur ▸ ctrlRef_isSome_of_ownerKey hk
  intro k'
  simp only [handle, updatePod_of_ne L sets hrv, updateOld_eq sets old cur hc, updateCur_eq L sets old cur hc, hs, hk, hko]
  by_cases hco : controllerOf cur = controllerOf old <;> simp [hco]

/-- the controlling owner changed: the old and the new owner, both -/
theorem owner_change_wakes_both (L : Lister) (sets : List SetObj) (old cur : Pod) (k₁ k₂ : Key) (hc : cacheOk sets = true)
    (hrv : old.rv ≠ cur.rv) (hid : ownerId old ≠ ownerId cur)
    (hk₁ : ownerKey sets old = some k₁) (hk₂ : ownerKey sets cur = some k₂) :
    handle L sets (.update old cur) = [k₁, k₂] := by
  have hco : ¬ controllerOf cur = controllerOf old := fun h => hid (ownerId_eq_of_controllerOf_eq h)
  have hs : (controllerOf cur).isSome = true := ctrlRef_eq cur ▸ ctrlRef_isSome_of_ownerKey hk₂
  simp only [handle, updatePod_of_ne L sets hrv, updateOld_eq sets old cur hc, updateCur_eq L sets old cur hc, hs, hk₁, hk₂, hco]
  rfl

/-- an update between equal resource versions: nothing -/
theorem resync_wakes_nothing (L : Lister) (sets : List SetObj) (old cur : Pod) (hrv : old.rv = cur.rv) :
    handle L sets (.update old cur) = [] := by
  simp [handle, updatePod, hrv]

/-- an unowned pod appears: every cached set that selects it (whatever else is in the cache) -/
theorem orphan_add_wakes_matching (sets : List SetObj) (p : Pod) (ht : p.terminating = false) (ho : ctrlRef p = none) :
    handle .fixed sets (.add p) = matching sets p := by
  rw [ctrlRef_eq] at ho
  simp [handle, addPod, ht, ho, enqueueMatching_fixed]

/-- an unowned pod whose labels changed: every set that selects it now -/
theorem orphan_update_labels (sets : List SetObj) (old cur : Pod) (hrv : old.rv ≠ cur.rv)
    (ho : ctrlRef old = none) (hcu : ctrlRef cur = none) (hl : labelsOf old ≠ labelsOf cur) :
    handle .fixed sets (.update old cur) = matching sets cur := by
  rw [ctrlRef_eq] at ho hcu
  have hl' : cur.labels ≠ old.labels := fun h => hl (labelsOf_eq_of_labels_eq h)
  simp [handle, updatePod_of_ne _ sets hrv, updateOld, updateCur, ho, hcu, hl', enqueueMatching_fixed]

/-- a pod that lost its owner: the old owner (if it is a cached set) and every set that selects it -/
theorem orphan_update_released (sets : List SetObj) (old cur : Pod) (hc : cacheOk sets = true) (hrv : old.rv ≠ cur.rv)
    (hcu : ctrlRef cur = none) (hid : ownerId old ≠ ownerId cur) :
    handle .fixed sets (.update old cur) = (ownerKey sets old).toList ++ matching sets cur := by
  have hco : ¬ controllerOf cur = controllerOf old := fun h => hid (ownerId_eq_of_controllerOf_eq h)
  rw [ctrlRef_eq] at hcu
  have hco' : ¬ none = controllerOf old := fun h => hco (hcu.trans h)
  simp [handle, updatePod_of_ne _ sets hrv, updateOld_eq sets old cur hc, updateCur, hcu, enqueueMatching_fixed, hco']

/-- an unowned pod updated with neither labels nor owner changed: nothing -/
theorem orphan_update_unchanged (sets : List SetObj) (old cur : Pod)
    (ho : ctrlRef old = none) (hcu : ctrlRef cur = none) (hl : labelsOf old = labelsOf cur) :
    handle .fixed sets (.update old cur) = [] := by
  rw [ctrlRef_eq] at ho hcu
  simp only [handle, updatePod]
  by_cases hrv : cur.rv = old.rv
  · simp [hrv]
  · simp only [beq_iff_eq, hrv, if_false, updateOld, updateCur, ho, hcu, enqueueMatching_fixed]
    by_cases hlab : cur.labels = old.labels
    · simp [hlab]
    · simp [matching_nil_of_no_labels sets cur (labelsOf_nil_of_changed hlab hl)]

/-- an owner that designates no cached set: nothing, for add, delete and tombstone -/
theorem unresolvable_owner (L : Lister) (sets : List SetObj) (p : Pod) (r : OwnerRef) (hc : cacheOk sets = true)
    (hr : ctrlRef p = some r) (hd : designates sets p.ns r = none) :
    handle L sets (.add p) = [] ∧ handle L sets (.delete p) = [] ∧ handle L sets (.tombstone p) = [] := by
  have hk : ownerKey sets p = none := by simp [ownerKey, hr, hd]
  have hdel : deletePod sets p = [] := by rw [deletePod_eq sets p hc, hk]; rfl
  refine ⟨?_, hdel, hdel⟩
  simp [handle, addPod_eq L sets p hc, hk, hr]

/-- an owner of another kind designates nothing -/
theorem other_kind_designates_nothing (sets : List SetObj) (ns : String) (r : OwnerRef) (h : r.kind ≠ "StatefulSet") :
    designates sets ns r = none :=
  if_neg fun h' => h h'.1

/-- a stale uid (or an unknown name) designates nothing -/
theorem stale_uid_designates_nothing (sets : List SetObj) (ns : String) (r : OwnerRef)
    (h : ∀ s ∈ sets, s.ns = ns → s.name = r.name → s.uid ≠ r.uid) : designates sets ns r = none := by
  refine if_neg fun h' => ?_
  obtain ⟨s, hs, hm⟩ := List.any_eq_true.1 h'.2
  simp only [Bool.and_eq_true, beq_iff_eq] at hm
  exact h s hs hm.1.1 hm.1.2 hm.2

/-- an unowned pod going away (delete, tombstone, or an add that is already terminating): nothing -/
theorem orphan_delete_wakes_nothing (L : Lister) (sets : List SetObj) (p : Pod) (ho : ctrlRef p = none) :
    handle L sets (.delete p) = [] ∧ handle L sets (.tombstone p) = [] ∧
    (p.terminating = true → handle L sets (.add p) = []) := by
  rw [ctrlRef_eq] at ho
  have hdel : deletePod sets p = [] := by simp [deletePod, ho]
  exact ⟨hdel, hdel, fun ht => by simp [handle, addPod, ht, hdel]⟩

/-- a delete event that carries no pod: nothing -/
theorem not_a_pod_wakes_nothing (L : Lister) (sets : List SetObj) :
    handle L sets .tombstoneOther = [] ∧ handle L sets .deleteOther = [] :=
  ⟨rfl, rfl⟩

/-- any change to a set (add, update, delete, delete learned through a tombstone): exactly that set -/
theorem set_event_wakes_the_set (L : Lister) (sets : List SetObj) (k : Key) :
    handle L sets (.setAdd k) = [k] ∧ handle L sets (.setUpdate k) = [k] ∧ handle L sets (.setDelete k) = [k] ∧
    handle L sets (.setTombstone k) = [k] :=
  ⟨rfl, rfl, rfl, rfl⟩

/-- a pod unrelated to any set (no owner, selected by no set): nothing, whatever happens to it -/
theorem unrelated_pod_wakes_nothing (sets : List SetObj) (p : Pod) (ho : ctrlRef p = none) (hm : matching sets p = []) :
    handle .fixed sets (.add p) = [] ∧ handle .fixed sets (.delete p) = [] ∧ handle .fixed sets (.tombstone p) = [] ∧
    ∀ old, ctrlRef old = none → handle .fixed sets (.update old p) = [] := by
  have hg := orphan_delete_wakes_nothing .fixed sets p ho
  refine ⟨?_, hg.1, hg.2.1, ?_⟩
  · by_cases ht : p.terminating = true
    · exact hg.2.2 ht
    · rw [orphan_add_wakes_matching sets p (by simpa using ht) ho, hm]
  · intro old hold
    rw [ctrlRef_eq] at ho hold
    simp only [handle, updatePod]
    by_cases hrv : p.rv = old.rv
    · simp [hrv]
    · simp [hrv, updateOld, updateCur, ho, hold, enqueueMatching_fixed, hm]

/-! ## the worker -/

/-- monitor `C16.worker` on the model, for every assignment of shapes to keys and every script of events and reconcile
    results: a failed reconcile is put back through `AddRateLimited` with its requeue count one higher, a successful one
    is forgotten (count 0) and not put back -/
theorem worker_monitor (shapeOf : Key → Shape) (ops : List Op) :
    workerOk shapeOf (fun _ => 0) ops (run shapeOf WState.init ops).2 = true :=
  run_workerOk shapeOf ops WState.init

/-- after any script, the requeue count of a key is the length of the trailing run of failures among its reconciles -/
theorem requeues_eq_trailing_failures (shapeOf : Key → Shape) (k : Key) (ops : List Op) :
    (run shapeOf WState.init ops).1.fails k = trailingFailures (reconciled shapeOf k WState.init ops) := by
  rw [run_fails, ← foldl_cnt_eq_trailing]; rfl

/-! ## the lister on the pinned tree -/

/-- On the pinned tree the table is false: two sets select an orphan pod, a third set of the namespace has a selector
    that does not convert, and the add wakes nobody (`C16.orphan` is false on the pinned model at this witness). -/
theorem pinned_lister_loses_wakeups :
    cacheOk witnessSets = true ∧ eventOk (.add witnessPod) = true ∧
    matching witnessSets witnessPod = [("n1", "a"), ("n1", "b")] ∧
    handle .pinned witnessSets (.add witnessPod) = [] ∧
    orphanWoken witnessSets (.add witnessPod) (handle .pinned witnessSets (.add witnessPod)) = false := by
  decide

/-- non-vacuity: the same witness under the intended lister wakes both sets, and a worker script with two failures,
    a success and a failure leaves the count at 1 -/
example : handle .fixed witnessSets (.add witnessPod) = [("n1", "a"), ("n1", "b")] ∧
    orphanWoken witnessSets (.add witnessPod) (handle .fixed witnessSets (.add witnessPod)) = true := by decide

example : (run (fun _ => .normal) WState.init
    [.event ("n1", "a"), .process .updateErr, .process .listRevErr, .process .ok, .event ("n1", "a"), .process .updateErr]).1.fails ("n1", "a") = 1 := by
  decide

end Asts.C16
