import Asts.Props.C01
import Asts.Props.C03
import Asts.Props.C04
import Asts.Props.C05
import Asts.Props.C07
import Asts.Props.C12
import Asts.Props.C02
import Asts.Proofs.GL_Final
import Asts.Proofs.GL_C14
import Asts.Proofs.GL_World
import Asts.Proofs.SY_c_Prefix

/-! # Glue — the reconcile-level properties inside every sync, in every partial run, in every round

The property theorems of `Props/C01` (d), `C03`, `C04`, `C05`, `C07`, `C12` are about ONE call of `updateStatefulSet`
on an arbitrary snapshot. This file composes them with the sync model (`syncF`, `Model/Sync.lean`) and the world model
(`round`, `runRounds`, `Model/World.lean`):

* (a) **inside every sync** — `sync_reconcile_acts` (decomposition: the actions a sync records are exactly those of
  `updateStatefulSet` on the claimed pods with the fault list the model builds) and `sync_C01creates`, `sync_C03`,
  `sync_C04`, `sync_C05`, `sync_C07`, `sync_C14`, `sync_C12_*`: the monitors are true on the actions / the status of every sync, for
  every hashing function, world and fault plan. These are the clauses `monitorSync` (`Driver/Sync.lean`) re-checks on
  the calls of the real pod control, under the same preconditions (`wfSnapshot` of the claimed pods);
* (b) **partial runs** — `partial_reconcile_ordered` (the ordering part, next to `C09.partial_reconcile_safe`) and
  `partial_sync_safe`: every prefix of the pod-control calls of a
  reconcile / of a sync satisfies the prefix-closed monitors;
* (c) **every round** — `every_round_safe`, `every_round_ordered`: the sync of every round of `runRounds`, from any
  world, with any fault plans, satisfies them, because `settle` and `applySync` re-number the pods by position;
* (d) **C02 × C12** — `final_status_exact_census`: at a `Final` world the stored status is an exact census
  (`ExactCensus` of `Props/C12.lean`) of the set's own pods.

Hypotheses, and why each is there:
* `IdsOk (i.pods.map (·.pod))` — pod ids of the world are pairwise distinct and below `freshId` (the driver and `reindex`
  number pods by position: `world_idsOk_of_positions`); the claimed pods keep their ids, so the hypothesis passes to
  them (`sync_pods_idsOk`). The monitors recognise the pod handed to a delete by its id;
* `wfSnapshot (syncPods o)` (claimed pods carry a phase and parse to distinct ordinals) — the precondition under which
  `monitorSync` evaluates C04 / C05 / C07; it follows from the same fact about all pods of the world (`sync_pods_wf`);
* `0 ≤ replicasOf i.view` — the CRD makes `replicas` required with minimum 0. -/
namespace Asts.Glue
open Asts Asts.GL

/-! ## (a) the reconcile inside a sync -/

/-- **Decomposition.** When a sync reached its reconcile (`upd ≠ ""`, the test `monitorSync` uses), the actions it records
    are exactly the actions of `updateStatefulSet` on the claimed pods, at the revisions the sync resolved, with the
    reconcile-level fault list `podFaults` builds from the API-level plan. -/
theorem sync_reconcile_acts (h : Hashing) (i : SyncIn) (plan : List Fault) (hu : (syncF h i plan).upd ≠ "") :
    (syncF h i plan).acts =
      (updateStatefulSet i.view (syncF h i plan).cur (syncF h i plan).upd ((syncF h i plan).claimed.map (·.pod))
        (podFaults i.setName plan i.pods (syncF h i plan).claimed
          (maxReplicaAndSlots (i.view.replicas.getD 0) i.view.slots).1
          (maxReplicaAndSlots (i.view.replicas.getD 0) i.view.slots).2)).1.acts :=
  (syncF_reconcile h i plan hu).acts

/-- The same for a sync that recorded any action at all. -/
theorem sync_reconcile_acts_of_ne_nil (h : Hashing) (i : SyncIn) (plan : List Fault) (hne : (syncF h i plan).acts ≠ []) :
    (syncF h i plan).acts = (syncReconcile i plan (syncF h i plan)).1.acts :=
  (syncF_reconcile_of_acts h i plan (Or.inl hne)).acts

/-- A status is written only after a reconcile that ended `.ok`, and it is that reconcile's completed status. -/
theorem sync_status_written (h : Hashing) (i : SyncIn) (plan : List Fault) (st : Status)
    (hst : (syncF h i plan).status = some st) :
    (syncReconcile i plan (syncF h i plan)).2 = .ok ∧
    st = C12.written i.view (syncF h i plan).cur (syncF h i plan).upd (syncPods (syncF h i plan))
      (syncFaults i plan (syncF h i plan)) :=
  (syncF_reconcile_of_acts h i plan (Or.inr (by rw [hst]; simp))).status st hst

/-- The pods a sync hands to its reconcile are a sublist of the pods of the world: same objects (same ids), same order. -/
theorem sync_claimed_sublist (h : Hashing) (i : SyncIn) (plan : List Fault) :
    (syncF h i plan).claimed.Sublist i.pods :=
  syncF_claimed_sublist h i plan

/-- `wfSnapshot` is inherited by sublists … -/
theorem wfSnapshot_of_sublist {l pods : List Pod} (hs : l.Sublist pods) (hwf : wfSnapshot pods = true) :
    wfSnapshot l = true :=
  wfSnapshot_sublist hs hwf

/-- … hence by the claimed pods of every sync. -/
theorem sync_pods_wf (h : Hashing) (i : SyncIn) (plan : List Fault) (hwf : wfSnapshot (i.pods.map (·.pod)) = true) :
    wfSnapshot (syncPods (syncF h i plan)) = true :=
  wfSnapshot_sublist ((syncF_claimed_sublist h i plan).map _) hwf

/-- The claimed pods keep the ids of the world: distinct ids below `freshId` stay so, in the form `Props/C03`, `C04` ask
    for and in the form `Props/C05`, `C07` ask for. -/
theorem sync_pods_idsOk (h : Hashing) (i : SyncIn) (plan : List Fault) (hids : IdsOk (i.pods.map (·.pod))) :
    IdsOk (syncPods (syncF h i plan)) ∧ L1b.IdsOk (syncPods (syncF h i plan)) :=
  have hs := idsOk_sublist ((syncF_claimed_sublist h i plan).map _) hids
  ⟨hs, idsOkB_of_idsOk hs⟩

/-- The hypothesis on ids as the driver establishes it: pods numbered by position, fewer than `freshId` of them. -/
theorem world_idsOk_of_positions (i : SyncIn) (hpos : ∀ (k : Nat) (c : CPod), i.pods[k]? = some c → c.pod.id = k)
    (hlen : i.pods.length ≤ freshId) : IdsOk (i.pods.map (·.pod)) :=
  idsOk_of_idPos hpos hlen

/-- **C01 (d) inside every sync**: the pod-control calls of a sync create pods at desired ordinals only — every hashing,
    world, fault plan; no hypothesis. -/
theorem sync_C01creates (h : Hashing) (i : SyncIn) (plan : List Fault) :
    C01creates i.view (observe (syncF h i plan).acts) = true :=
  syncF_acts_ind (P := fun A => C01creates i.view (observe A) = true) h i plan rfl (C01d.C01creates_holds _ _ _ _ _)

/-- **C03 inside every sync**: every delete is justified; the run is judged as one that ended well exactly when the sync
    ended `.ok` (as `monitorSync` does). -/
theorem sync_C03 (h : Hashing) (i : SyncIn) (plan : List Fault) (hids : IdsOk (i.pods.map (·.pod))) :
    C03 i.view (syncF h i plan).upd (syncPods (syncF h i plan)) (observe (syncF h i plan).acts)
      ((syncF h i plan).outcome == .ok) = true := by
  rcases syncF_cases h i plan with hr | hi
  · have h3 := C03.C03_holds i.view (syncF h i plan).cur (syncF h i plan).upd (syncPods (syncF h i plan))
      (syncFaults i plan (syncF h i plan)) (sync_pods_idsOk h i plan hids).1
    rw [hr.acts]
    by_cases hok : (syncF h i plan).outcome = .ok
    · have h2 : (syncReconcile i plan (syncF h i plan)).2 = .ok := hr.ok hok
      unfold syncReconcile at h2
      rw [h2] at h3
      rw [hok]
      exact h3
    · have hb : ((syncF h i plan).outcome == .ok) = false := by simpa using hok
      rw [hb]
      exact SYc.C03_weaken _ _ _ _ _ h3
  · rw [hi.1]; rfl

/-- **C04 inside every sync**: pods are created only at vacant desired ordinals that are no slots, never for a set that is
    being deleted. -/
theorem sync_C04 (h : Hashing) (i : SyncIn) (plan : List Fault) (hids : IdsOk (i.pods.map (·.pod)))
    (hcr : (syncPods (syncF h i plan)).all Pod.created = true) :
    C04 i.view (syncPods (syncF h i plan)) (observe (syncF h i plan).acts) = true :=
  syncF_acts_ind (P := fun A => C04 i.view (syncPods (syncF h i plan)) (observe A) = true) h i plan rfl
    (C04.C04_holds i.view _ _ _ _ hcr (sync_pods_idsOk h i plan hids).1)

/-- C04 under the monitor's precondition. -/
theorem sync_C04_wf (h : Hashing) (i : SyncIn) (plan : List Fault) (hids : IdsOk (i.pods.map (·.pod)))
    (hwf : wfSnapshot (syncPods (syncF h i plan)) = true) :
    C04 i.view (syncPods (syncF h i plan)) (observe (syncF h i plan).acts) = true :=
  sync_C04 h i plan hids (created_of_wf hwf)

/-- **C05 inside every sync** (policy other than Parallel): one ordinal per sync, predecessors healthy, scale-in from the
    top, update only when settled. -/
theorem sync_C05 (h : Hashing) (i : SyncIn) (plan : List Fault) (h0 : 0 ≤ replicasOf i.view)
    (hmono : i.view.parallel = false) (hids : IdsOk (i.pods.map (·.pod)))
    (hwf : wfSnapshot (syncPods (syncF h i plan)) = true) :
    C05 i.view (syncPods (syncF h i plan)) (observe (syncF h i plan).acts) = true :=
  syncF_acts_ind (P := fun A => C05 i.view (syncPods (syncF h i plan)) (observe A) = true) h i plan (C05_nil _ _)
    (C05.C05_holds_total i.view _ _ _ _ h0 hmono hwf (sync_pods_idsOk h i plan hids).2)

/-- **C07 inside every sync** (both policies): partition, highest first, one update-delete, OnDelete never restarts,
    revisions of created pods. -/
theorem sync_C07 (h : Hashing) (i : SyncIn) (plan : List Fault) (h0 : 0 ≤ replicasOf i.view)
    (hids : IdsOk (i.pods.map (·.pod))) (hwf : wfSnapshot (syncPods (syncF h i plan)) = true) :
    C07 i.view (syncF h i plan).cur (syncF h i plan).upd (syncPods (syncF h i plan))
      (observe (syncF h i plan).acts) = true :=
  syncF_acts_ind (P := fun A => C07 i.view (syncF h i plan).cur (syncF h i plan).upd (syncPods (syncF h i plan))
      (observe A) = true) h i plan (C07_nil _ _ _ _)
    (C07.C07_holds_total i.view _ _ _ _ h0 hwf (sync_pods_idsOk h i plan hids).2)

/-- **C14 inside every sync** (Parallel): a sync that reached its reconcile and ended `.ok` filled every vacancy,
    replaced every Failed/Succeeded desired pod and deleted every live condemned pod in that one pass, with at most one
    update-delete — for EVERY fault plan (a sync that ended `.ok` hit no pod-control fault, so its reconcile ran as the
    fault-free one: `GL.updateStatefulSet_of_ok`). These are the preconditions of the `C14.burst` clause of
    `monitorSync`, minus its restriction to empty plans; no int32 hypothesis is needed, an `.ok` outcome excludes the
    panics. -/
theorem sync_C14 (h : Hashing) (i : SyncIn) (plan : List Fault) (h0 : 0 ≤ replicasOf i.view)
    (hpar : i.view.parallel = true) (hdel : i.view.deleting = false) (hids : IdsOk (i.pods.map (·.pod)))
    (hwf : wfSnapshot (syncPods (syncF h i plan)) = true)
    (hu : (syncF h i plan).upd ≠ "") (hok : (syncF h i plan).outcome = .ok) :
    C14 i.view (syncPods (syncF h i plan)) (observe (syncF h i plan).acts) = true := by
  have hr := syncF_reconcile h i plan hu
  rw [hr.acts]
  exact C14_of_ok i.view _ _ _ _ h0 hpar hdel hwf (sync_pods_idsOk h i plan hids).1 (hr.ok hok)

/-- **C12 (bounds) on every status a sync writes.** -/
theorem sync_C12_bounds (h : Hashing) (i : SyncIn) (plan : List Fault) (st : Status)
    (hst : (syncF h i plan).status = some st) (hcr : ∀ c ∈ (syncF h i plan).claimed, c.pod.created = true) :
    C12bounds st = true := by
  obtain ⟨hok, rfl⟩ := sync_status_written h i plan st hst
  refine C12.C12_bounds i.view _ _ _ _ ?_ hok
  intro p hp
  obtain ⟨c, hc, rfl⟩ := List.mem_map.1 hp
  exact hcr c hc

/-- **C12 (generation) on every status a sync writes**, against any stored status. -/
theorem sync_C12_generation (h : Hashing) (i : SyncIn) (plan : List Fault) (st stored : Status)
    (hst : (syncF h i plan).status = some st) : C12gen i.view stored st = true := by
  obtain ⟨hok, rfl⟩ := sync_status_written h i plan st hst
  exact C12.C12_generation i.view _ _ _ _ stored hok

/-- **C12 (completion) on every status a sync writes**: `currentRevision` moves only to `updateRevision`, only when every
    claimed pod is healthy at the update revision and the sync created and deleted nothing. -/
theorem sync_C12_completion (h : Hashing) (i : SyncIn) (plan : List Fault) (st : Status)
    (hst : (syncF h i plan).status = some st) :
    C12complete (syncF h i plan).cur (syncF h i plan).upd (syncPods (syncF h i plan))
      (observe (syncF h i plan).acts) st = true := by
  have hr := syncF_reconcile_of_acts h i plan (Or.inr (by rw [hst]; simp))
  obtain ⟨hok, rfl⟩ := sync_status_written h i plan st hst
  rw [hr.acts]
  exact C12.C12_completion i.view _ _ _ _ hok

/-- **All at once, from facts about the world only**: pods numbered by position, carrying a phase, parsing to distinct
    ordinals. The clauses are those of `monitorSync`. -/
theorem sync_reconcile_level (h : Hashing) (i : SyncIn) (plan : List Fault) (h0 : 0 ≤ replicasOf i.view)
    (hpos : ∀ (k : Nat) (c : CPod), i.pods[k]? = some c → c.pod.id = k) (hlen : i.pods.length ≤ freshId)
    (hwf : wfSnapshot (i.pods.map (·.pod)) = true) :
    C01creates i.view (observe (syncF h i plan).acts) = true ∧
    C03 i.view (syncF h i plan).upd (syncPods (syncF h i plan)) (observe (syncF h i plan).acts)
      ((syncF h i plan).outcome == .ok) = true ∧
    C04 i.view (syncPods (syncF h i plan)) (observe (syncF h i plan).acts) = true ∧
    (i.view.parallel = false → C05 i.view (syncPods (syncF h i plan)) (observe (syncF h i plan).acts) = true) ∧
    C07 i.view (syncF h i plan).cur (syncF h i plan).upd (syncPods (syncF h i plan))
      (observe (syncF h i plan).acts) = true ∧
    (∀ st, (syncF h i plan).status = some st → C12bounds st = true ∧ C12gen i.view i.stored st = true) := by
  have hids := world_idsOk_of_positions i hpos hlen
  have hw := sync_pods_wf h i plan hwf
  refine ⟨sync_C01creates h i plan, sync_C03 h i plan hids, sync_C04_wf h i plan hids hw,
    fun hm => sync_C05 h i plan h0 hm hids hw, sync_C07 h i plan h0 hids hw, fun st hst => ⟨?_, ?_⟩⟩
  · refine sync_C12_bounds h i plan st hst (fun c hc => ?_)
    have := (wfSnapshot_iff _).1 hw
    exact this.1 c.pod (List.mem_map_of_mem hc)
  · exact sync_C12_generation h i plan st i.stored hst

/-! ## (b) partial runs -/

/-- **partial work is safe, ordering part** (reconcile level; next to `C09.partial_reconcile_safe`, which covers C01 (d),
    C03 and C04): whatever number `k` of its pod-control calls a reconcile got to issue — because a call failed or the
    process died — the calls issued satisfy C05 (policy other than Parallel) and C07. Composition of the full-run theorems
    (`Props/C05`, `Props/C07`) with prefix-closure (`SY_c_Prefix`); every fault plan. The id hypothesis is in the form
    `Props/C05` and `Props/C07` use. -/
theorem partial_reconcile_ordered_b (v : SetView) (cur upd : String) (pods : List Pod) (f : Faults)
    (h0 : 0 ≤ replicasOf v) (hwf : wfSnapshot pods = true) (hids : L1b.IdsOk pods) (k : Nat) :
    (v.parallel = false → C05 v pods ((observe (updateStatefulSet v cur upd pods f).1.acts).take k) = true) ∧
    C07 v cur upd pods ((observe (updateStatefulSet v cur upd pods f).1.acts).take k) = true := by
  generalize hA : observe (updateStatefulSet v cur upd pods f).1.acts = A
  have e := List.take_append_drop k A
  refine ⟨fun hmono => SYc.C05_prefix v pods (A.take k) (A.drop k) ?_,
    SYc.C07_prefix v cur upd pods (A.take k) (A.drop k) ?_⟩
  · rw [e, ← hA]; exact C05.C05_holds_total v cur upd pods f h0 hmono hwf hids
  · rw [e, ← hA]; exact C07.C07_holds_total v cur upd pods f h0 hwf hids

/-- The same with the id hypothesis in the form `Props/C03` and `Props/C04` use. -/
theorem partial_reconcile_ordered (v : SetView) (cur upd : String) (pods : List Pod) (f : Faults)
    (h0 : 0 ≤ replicasOf v) (hwf : wfSnapshot pods = true) (hids : IdsOk pods) (k : Nat) :
    (v.parallel = false → C05 v pods ((observe (updateStatefulSet v cur upd pods f).1.acts).take k) = true) ∧
    C07 v cur upd pods ((observe (updateStatefulSet v cur upd pods f).1.acts).take k) = true :=
  partial_reconcile_ordered_b v cur upd pods f h0 hwf (idsOkB_of_idsOk hids) k

/-- **Every partial run of the pod control inside a sync is safe**: whatever number `k` of the pod-control calls of a sync
    were issued before the process died, they satisfy C01 (d), C03 (judged as a run that did not end well), C04, C05 and
    C07 — every hashing, world and fault plan. -/
theorem partial_sync_safe (h : Hashing) (i : SyncIn) (plan : List Fault) (h0 : 0 ≤ replicasOf i.view)
    (hids : IdsOk (i.pods.map (·.pod))) (hwf : wfSnapshot (syncPods (syncF h i plan)) = true) (k : Nat) :
    C01creates i.view ((observe (syncF h i plan).acts).take k) = true ∧
    C03 i.view (syncF h i plan).upd (syncPods (syncF h i plan)) ((observe (syncF h i plan).acts).take k) false = true ∧
    C04 i.view (syncPods (syncF h i plan)) ((observe (syncF h i plan).acts).take k) = true ∧
    (i.view.parallel = false →
      C05 i.view (syncPods (syncF h i plan)) ((observe (syncF h i plan).acts).take k) = true) ∧
    C07 i.view (syncF h i plan).cur (syncF h i plan).upd (syncPods (syncF h i plan))
      ((observe (syncF h i plan).acts).take k) = true := by
  have h1 := sync_C01creates h i plan
  have h3 := sync_C03 h i plan hids
  have h4 := sync_C04_wf h i plan hids hwf
  have h5 := fun hm => sync_C05 h i plan h0 hm hids hwf
  have h7 := sync_C07 h i plan h0 hids hwf
  generalize observe (syncF h i plan).acts = A at h1 h3 h4 h5 h7 ⊢
  have e := List.take_append_drop k A
  rw [← e] at h1 h3 h4 h5 h7
  exact ⟨SYc.C01creates_prefix _ _ _ h1, SYc.C03_prefix _ _ _ _ _ _ h3, SYc.C04_prefix _ _ _ _ h4,
    fun hm => SYc.C05_prefix _ _ _ _ (h5 hm), SYc.C07_prefix _ _ _ _ _ _ h7⟩

/-! ## (c) every round -/

/-- The sync a round runs is the sync of the settled world, and the next world is `applySync` of its output. -/
theorem round_runs_sync (h : Hashing) (i : SyncIn) (plan : List Fault) :
    (round h i plan).1 = applySync (settle i) plan (syncF h (settle i) plan) := rfl

/-- **`reindex` makes ids positions.** -/
theorem reindex_ids_are_positions (l : List CPod) (k : Nat) (c : CPod) (hk : (reindex l)[k]? = some c) : c.pod.id = k :=
  C02p.reindex_idPos l k c hk

/-- **`settle` ends with `reindex (sortPods …)`** (of at most as many pods) … -/
theorem settle_ends_with_reindex (i : SyncIn) :
    ∃ l, (settle i).pods = reindex (sortPods l) ∧ l.length ≤ i.pods.length := by
  refine ⟨_, rfl, ?_⟩
  rw [List.length_map]
  exact List.length_filter_le _ _

/-- … **and so does `applySync`**: after every round, and again after the `settle` that opens the next one, pod ids are
    positions. -/
theorem applySync_ends_with_reindex (i : SyncIn) (plan : List Fault) (o : SyncOut) :
    ∃ l, (applySync i plan o).pods = reindex (sortPods l) := ⟨_, rfl⟩

/-- Hence the world every round syncs on satisfies the id hypothesis, whatever world the round starts from, as long as it
    holds at most `freshId` (one million) pod objects. -/
theorem settled_world_idsOk (i : SyncIn) (hlen : i.pods.length ≤ freshId) : IdsOk ((settle i).pods.map (·.pod)) :=
  settle_idsOk i hlen

/-- and from the second round on the ids are positions even before `settle` -/
theorem reached_world_ids_are_positions (h : Hashing) (i : SyncIn) (plans : List (List Fault)) (hne : plans ≠ [])
    (k : Nat) (c : CPod) (hk : (roundsWith h plans i).pods[k]? = some c) : c.pod.id = k :=
  roundsWith_idPos h plans i hne k c hk

/-- Every observation `runRounds` returns is the observation of one `round` on a world reached from the initial one by
    rounds (`roundsWith`): the statements below are about every round of every run. -/
theorem runRounds_rounds (h : Hashing) (fuel silent : Nat) (i : SyncIn) (plan : List Fault) :
    ∀ r ∈ runRounds h fuel silent i plan,
      ∃ (plans : List (List Fault)) (p : List Fault), r = (round h (roundsWith h plans i) p).2 :=
  runRounds_obs h fuel silent i plan

/-- **Every round is safe.** For every number of rounds, every world `w` reached from `i` by that many rounds with any
    fault plans, and every fault plan of the next round: the sync that round runs (`syncF h (settle w) plan`) satisfies
    C01 (d) and C03, and C04 when every claimed pod carries a phase. No hypothesis on `i` other than the size of `w`. -/
theorem every_round_safe (h : Hashing) (i : SyncIn) (plans : List (List Fault)) (plan : List Fault)
    (hlen : (roundsWith h plans i).pods.length ≤ freshId) :
    C01creates i.view (observe (syncF h (settle (roundsWith h plans i)) plan).acts) = true ∧
    C03 (settle (roundsWith h plans i)).view (syncF h (settle (roundsWith h plans i)) plan).upd
      (syncPods (syncF h (settle (roundsWith h plans i)) plan))
      (observe (syncF h (settle (roundsWith h plans i)) plan).acts)
      ((syncF h (settle (roundsWith h plans i)) plan).outcome == .ok) = true ∧
    ((syncPods (syncF h (settle (roundsWith h plans i)) plan)).all Pod.created = true →
      C04 (settle (roundsWith h plans i)).view (syncPods (syncF h (settle (roundsWith h plans i)) plan))
        (observe (syncF h (settle (roundsWith h plans i)) plan).acts) = true) := by
  have hids := settle_idsOk (roundsWith h plans i) hlen
  refine ⟨?_, sync_C03 h _ plan hids, fun hcr => sync_C04 h _ plan hids hcr⟩
  have h1 := sync_C01creates h (settle (roundsWith h plans i)) plan
  unfold C01creates at h1 ⊢
  rw [settle_view, roundsWith_replicasOf, roundsWith_view] at h1
  exact h1

/-- **Every round is safe, ordering part.** In the same situation, when the claimed pods of that round carry a phase and
    parse to distinct ordinals (the monitor's precondition), the round's sync satisfies C04, C05 (policy other than
    Parallel) and C07. The spec hypotheses are stated on the initial world: rounds do not change the spec. -/
theorem every_round_ordered (h : Hashing) (i : SyncIn) (plans : List (List Fault)) (plan : List Fault)
    (h0 : 0 ≤ replicasOf i.view) (hlen : (roundsWith h plans i).pods.length ≤ freshId)
    (hwf : wfSnapshot (syncPods (syncF h (settle (roundsWith h plans i)) plan)) = true) :
    C04 (settle (roundsWith h plans i)).view (syncPods (syncF h (settle (roundsWith h plans i)) plan))
      (observe (syncF h (settle (roundsWith h plans i)) plan).acts) = true ∧
    (i.view.parallel = false →
      C05 (settle (roundsWith h plans i)).view (syncPods (syncF h (settle (roundsWith h plans i)) plan))
        (observe (syncF h (settle (roundsWith h plans i)) plan).acts) = true) ∧
    C07 (settle (roundsWith h plans i)).view (syncF h (settle (roundsWith h plans i)) plan).cur
      (syncF h (settle (roundsWith h plans i)) plan).upd (syncPods (syncF h (settle (roundsWith h plans i)) plan))
      (observe (syncF h (settle (roundsWith h plans i)) plan).acts) = true := by
  have hids := settle_idsOk (roundsWith h plans i) hlen
  have h0' : 0 ≤ replicasOf (settle (roundsWith h plans i)).view := by
    rw [settle_view, roundsWith_replicasOf]; exact h0
  refine ⟨sync_C04_wf h _ plan hids hwf, fun hm => sync_C05 h _ plan h0' ?_ hids hwf, sync_C07 h _ plan h0' hids hwf⟩
  rw [settle_view, roundsWith_parallel]; exact hm

/-- the precondition of `every_round_ordered` from a fact about the reached world: its live pods carry a phase and parse
    to distinct ordinals -/
theorem round_pods_wf (h : Hashing) (w : SyncIn) (plan : List Fault)
    (hwf : wfSnapshot ((settle w).pods.map (·.pod)) = true) :
    wfSnapshot (syncPods (syncF h (settle w) plan)) = true :=
  sync_pods_wf h (settle w) plan hwf

/-! ## (d) C02 × C12: the quiescent state carries an exact census -/

/-- **At a `Final` world the stored status is an exact census of the set's own pods**, in the independently written
    counting specification `ExactCensus` of `Props/C12.lean`: `replicas` = number of own pods, `readyReplicas` = those
    Running and Ready, `currentReplicas` / `updatedReplicas` = those admitted, not terminating and labelled with
    `status.currentRevision` / `status.updateRevision`. (The `C12census` clause of the world monitor, proved for `Final`.) -/
theorem final_status_exact_census (h : Hashing) (i : SyncIn) (hf : C02p.Final h i) :
    C12.ExactCensus i.stored.currentRev i.stored.updateRev ((C02p.ownPods i).map (·.pod)) i.stored :=
  final_census hf

/-- `C02_final_counts` phrased with the counting specification: at a `Final` world the number of own pods and the number
    of Running-and-Ready own pods both equal `spec.replicas`. -/
theorem final_census_counts (h : Hashing) (i : SyncIn) (hf : C02p.Final h i) :
    (((C02p.ownPods i).map (·.pod)).length : Int) = replicasOf i.view ∧
    C12.countIf C12.IsReady ((C02p.ownPods i).map (·.pod)) = replicasOf i.view := by
  have hc := final_census hf
  obtain ⟨h1, h2⟩ := C02.C02_final_counts h i hf
  exact ⟨by rw [← hc.total]; exact h1, by rw [← hc.ready]; exact h2⟩

/-- … and it stays so: after any number of further rounds the stored status is still an exact census. -/
theorem final_census_forever (h : Hashing) (i : SyncIn) (hf : C02p.Final h i) (n : Nat) :
    C12.ExactCensus (C02p.roundsN h n i).stored.currentRev (C02p.roundsN h n i).stored.updateRev
      ((C02p.ownPods (C02p.roundsN h n i)).map (·.pod)) (C02p.roundsN h n i).stored :=
  final_census (C02.C02_quiet_forever h i hf n).1

/-! ## non-vacuity

`gW`: set `web`, 3 replicas, slot 1, OrderedReady, template changed (`a` → `b`). Pods: `web-0`, `web-3`, `web-5` controlled
by the set, `web-2` an orphan (adopted), `stranger` somebody else's. The claimed pods are a proper sublist of the pods of
the world and keep the ids of the world (`[0, 2, 3, 4]` — not their positions in the claimed list). -/
private def gH : Hashing := { nameOf := fun d c => s!"web-{d}{c}", hashNumOf := fun _ _ => none }
private def gPod (id : Nat) (ord : Int) (rev : String) : Pod :=
  { id := id, ord := ord, phase := .running, ready := true, terminating := false, rev := rev, idOk := true, stOk := true }
private def gW : SyncIn :=
  { setName := "web", paused := false, selectorOk := true,
    view := { replicas := some 3, slots := [1], parallel := false, strat := .rolling, ru := some (some 0),
              deleting := false, generation := 2, stCurrentReplicas := 3 },
    stored := { replicas := 3, ready := 3, current := 3, updated := 0, currentRev := "web-a", updateRev := "web-a",
                observedGen := 1 },
    collisionCount := none, historyLimit := some 2, template := "b",
    fresh := { gone := false, uidOk := true, deleting := false },
    store := [ { name := "web-a", number := 1, ctime := 0, data := "a", hashNum := none, owner := .self, selMatch := true,
                 marker := false } ],
    pods := [ { name := "web-0", pod := gPod 0 0 "web-a", owner := .self, selMatch := true, member := true },
              { name := "stranger", pod := gPod 1 (-1) "", owner := .other, selMatch := false, member := false },
              { name := "web-2", pod := gPod 2 2 "web-a", owner := .none, selMatch := true, member := true },
              { name := "web-3", pod := gPod 3 3 "web-a", owner := .self, selMatch := true, member := true },
              { name := "web-5", pod := gPod 4 5 "web-a", owner := .self, selMatch := true, member := true } ] }

/-- the hypotheses of `sync_reconcile_level` hold on `gW` … -/
example : 0 ≤ replicasOf gW.view ∧ gW.pods.length ≤ freshId ∧ wfSnapshot (gW.pods.map (·.pod)) = true ∧
    gW.pods.map (·.pod.id) = List.range gW.pods.length := by decide +kernel

/-- … the sync reaches its reconcile, scales in from the top and writes a status -/
example : (syncF gH gW []).upd = "web-b0" ∧ (syncF gH gW []).cur = "web-a" ∧
    (syncF gH gW []).acts = [.delete 5 4 .scaleDown] ∧
    (syncF gH gW []).claimed.map (·.pod.id) = [0, 2, 3, 4] ∧
    (syncF gH gW []).log = ["list:revs", "list:revs", "get:set", "patch:pod:web-2", "list:revs", "list:revs",
      "create:rev:web-b0", "delete:pod:web-5", "updatestatus"] ∧
    ((syncF gH gW []).status.map (·.replicas)) = some 4 := by decide +kernel

/-- the Parallel variant: scale-in and the one update-delete in the same sync, which ends `.ok` (hypotheses of `sync_C14`) -/
example : (syncF gH { gW with view := { gW.view with parallel := true } } []).acts
      = [.delete 5 4 .scaleDown, .delete 3 3 .update] ∧
    (syncF gH { gW with view := { gW.view with parallel := true } } []).outcome = .ok ∧
    (syncF gH { gW with view := { gW.view with parallel := true } } []).upd = "web-b0" ∧
    wfSnapshot (syncPods (syncF gH { gW with view := { gW.view with parallel := true } } [])) = true := by decide +kernel

/-- rounds: the sync of the first round runs on the settled world — pods sorted by name and re-numbered (`stranger` gets
    id 0, `web-5` keeps 4) — and the hypotheses of `every_round_ordered` hold there -/
example : (syncF gH (settle (roundsWith gH [] gW)) []).acts = [.delete 5 4 .scaleDown] ∧
    (syncF gH (settle (roundsWith gH [] gW)) []).claimed.map (·.pod.id) = [1, 2, 3, 4] ∧
    (roundsWith gH [] gW).pods.length ≤ freshId ∧
    wfSnapshot (syncPods (syncF gH (settle (roundsWith gH [] gW)) [])) = true := by decide +kernel

end Asts.Glue
