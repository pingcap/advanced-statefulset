import Asts.Proofs.EditHistory

/-! # C02 / C03 over a scale edit: what the history converges to

Property theorems only. `applyEdits` is the `worldedit` model of the user's edits, `roundsN` the model's rounds, `Final` the
quiescent state of C02 (all of `Asts.C02.C02_converges`'s premises are those of that theorem, for the world the edit produced).
These statements are about the ordinals the set's own pods occupy once the history has gone quiet; which calls each
reconcile on the way may issue is C03 / C04 / C05 (`slot_k_only`, `slot_out_only`, …). -/
namespace Asts.EditHist
open Asts Asts.C02p List

/-- **whatever the user edits, the history converges to the desired set of the edited spec**: within the round bound the world
    is final and the set's own pods sit on exactly `desired` of the spec the edits left, one pod per ordinal -/
theorem edits_converge_to_desired (h : Hashing) (es : List Edit) (W : SyncIn)
    (hw : wfWorld h (applyEdits es W) = true) (hx : extraMB h (applyEdits es W) = true) :
    ∃ n ≤ roundBound (applyEdits es W), Final h (roundsN h n (applyEdits es W)) ∧
      ((ownPods (roundsN h n (applyEdits es W))).map (·.pod.ord)).Perm
        (desired (replicasOf (applyEdits es W).view) (applyEdits es W).view.slots) := by
  obtain ⟨n, hn, hf⟩ := Asts.C02.C02_converges h _ hw hx
  exact ⟨n, hn, hf, roundsN_desired h n _ ▸ final_ords hf⟩

/-- **scale-in at slot `k`, the whole history**: from a final world with `replicas = r` and slots `S`, the user lists the
    desired ordinal `k` and lowers `replicas` to `r - 1`. The history converges, and the ordinals occupied afterwards are the
    ordinals occupied before with `k` — and only `k` — removed. -/
theorem slot_in_history (h : Hashing) (W : SyncIn) (r k : Int) (S : List Int) (hF : Final h W)
    (hr : W.view.replicas = some r) (h1 : 1 ≤ r) (hS : W.view.slots = S) (hk : k ∈ desired r S)
    (hw : wfWorld h (applyEdits [.replicas (r - 1), .slots (some (k :: S))] W) = true)
    (hx : extraMB h (applyEdits [.replicas (r - 1), .slots (some (k :: S))] W) = true) :
    ∃ n ≤ roundBound (applyEdits [.replicas (r - 1), .slots (some (k :: S))] W),
      Final h (roundsN h n (applyEdits [.replicas (r - 1), .slots (some (k :: S))] W)) ∧
      ((ownPods (roundsN h n (applyEdits [.replicas (r - 1), .slots (some (k :: S))] W))).map (·.pod.ord)).Perm
        (((ownPods W).map (·.pod.ord)).erase k) := by
  obtain ⟨n, hn, hf, hp⟩ := edits_converge_to_desired h _ W hw hx
  refine ⟨n, hn, hf, hp.trans ?_⟩
  have hbefore := final_ords hF
  have hrW : replicasOf W.view = r := by simp [replicasOf, hr]
  rw [hrW, hS] at hbefore
  have hview : desired (replicasOf (applyEdits [.replicas (r - 1), .slots (some (k :: S))] W).view)
      (applyEdits [.replicas (r - 1), .slots (some (k :: S))] W).view.slots = desired (r - 1) (k :: S) :=
    congrArg (desired · (k :: S)) (editReplicas_view (r - 1) W).1
  rw [hview, desired_cons_erase r S k h1 hk]
  exact (hbefore.erase k).symm

/-- **scale-out at slot `k`, the whole history**: from a final world with `replicas = r` and `k` among the slots `S`, the user
    un-lists `k` and raises `replicas` to `r + 1` (with `k` below the new bound). The history converges, and the ordinals
    occupied afterwards are the ordinals occupied before plus `k` — and only `k`. -/
theorem slot_out_history (h : Hashing) (W : SyncIn) (r k : Int) (hF : Final h W)
    (hr : W.view.replicas = some r) (h0 : 0 ≤ r) (hkS : k ∈ W.view.slots)
    (hk : k ∈ desired (r + 1) (W.view.slots.filter (fun s => decide (s ≠ k))))
    (hw : wfWorld h (applyEdits [.replicas (r + 1), .slots (some (W.view.slots.filter (fun s => decide (s ≠ k))))] W) = true)
    (hx : extraMB h (applyEdits [.replicas (r + 1), .slots (some (W.view.slots.filter (fun s => decide (s ≠ k))))] W) = true) :
    ∃ n ≤ roundBound (applyEdits [.replicas (r + 1), .slots (some (W.view.slots.filter (fun s => decide (s ≠ k))))] W),
      Final h (roundsN h n (applyEdits [.replicas (r + 1), .slots (some (W.view.slots.filter (fun s => decide (s ≠ k))))] W)) ∧
      ((ownPods (roundsN h n (applyEdits [.replicas (r + 1),
          .slots (some (W.view.slots.filter (fun s => decide (s ≠ k))))] W))).map (·.pod.ord)).Perm
        (k :: (ownPods W).map (·.pod.ord)) := by
  obtain ⟨n, hn, hf, hp⟩ := edits_converge_to_desired h _ W hw hx
  refine ⟨n, hn, hf, hp.trans ?_⟩
  have hbefore := final_ords hF
  have hrW : replicasOf W.view = r := by simp [replicasOf, hr]
  rw [hrW] at hbefore
  have hview : desired (replicasOf (applyEdits [.replicas (r + 1),
        .slots (some (W.view.slots.filter (fun s => decide (s ≠ k))))] W).view)
      (applyEdits [.replicas (r + 1), .slots (some (W.view.slots.filter (fun s => decide (s ≠ k))))] W).view.slots =
      desired (r + 1) (W.view.slots.filter (fun s => decide (s ≠ k))) :=
    congrArg (desired · (W.view.slots.filter (fun s => decide (s ≠ k)))) (editReplicas_view (r + 1) W).1
  rw [hview]
  refine (List.perm_cons_erase hk).trans (List.Perm.cons k ?_)
  rw [desired_unlist_erase r W.view.slots k h0 hkS hk]
  exact hbefore.symm

/-- **plain scale-out by one, the whole history**: afterwards the occupied ordinals are those before plus one new ordinal,
    above all of them and not a slot -/
theorem scale_out_history (h : Hashing) (W : SyncIn) (r : Int) (hF : Final h W)
    (hr : W.view.replicas = some r) (h0 : 0 ≤ r)
    (hw : wfWorld h (applyEdits [.replicas (r + 1)] W) = true) (hx : extraMB h (applyEdits [.replicas (r + 1)] W) = true) :
    ∃ n ≤ roundBound (applyEdits [.replicas (r + 1)] W), Final h (roundsN h n (applyEdits [.replicas (r + 1)] W)) ∧
      ∃ o, 0 ≤ o ∧ o ∉ W.view.slots ∧ (∀ p ∈ (ownPods W).map (·.pod.ord), p < o) ∧
        ((ownPods (roundsN h n (applyEdits [.replicas (r + 1)] W))).map (·.pod.ord)).Perm
          ((ownPods W).map (·.pod.ord) ++ [o]) := by
  obtain ⟨n, hn, hf, hp⟩ := edits_converge_to_desired h _ W hw hx
  have hbefore := final_ords hF
  have hrW : replicasOf W.view = r := by simp [replicasOf, hr]
  rw [hrW] at hbefore
  have hview : desired (replicasOf (applyEdits [.replicas (r + 1)] W).view) (applyEdits [.replicas (r + 1)] W).view.slots =
      desired (r + 1) W.view.slots :=
    congrArg₂ desired (editReplicas_view (r + 1) W).1 (editReplicas_view (r + 1) W).2
  obtain ⟨o, ho, ho0, hoS, hlt⟩ := desired_succ r W.view.slots h0
  refine ⟨n, hn, hf, o, ho0, hoS, fun p hp' => hlt p (hbefore.mem_iff.1 hp'), ?_⟩
  rw [hview, ho] at hp
  exact hp.trans (List.Perm.append_right _ hbefore.symm)

/-- **scale-in at slot `k` with `replicas` unchanged, the whole history**: the pod at `k` is moved — afterwards the occupied
    ordinals are those before without `k`, plus one new ordinal above all of them -/
theorem slot_move_history (h : Hashing) (W : SyncIn) (r k : Int) (hF : Final h W)
    (hr : W.view.replicas = some r) (h1 : 1 ≤ r) (hk : k ∈ desired r W.view.slots)
    (hw : wfWorld h (applyEdits [.slots (some (k :: W.view.slots))] W) = true)
    (hx : extraMB h (applyEdits [.slots (some (k :: W.view.slots))] W) = true) :
    ∃ n ≤ roundBound (applyEdits [.slots (some (k :: W.view.slots))] W),
      Final h (roundsN h n (applyEdits [.slots (some (k :: W.view.slots))] W)) ∧
      ∃ o, 0 ≤ o ∧ o ∉ k :: W.view.slots ∧ (∀ p ∈ ((ownPods W).map (·.pod.ord)).erase k, p < o) ∧
        ((ownPods (roundsN h n (applyEdits [.slots (some (k :: W.view.slots))] W))).map (·.pod.ord)).Perm
          (((ownPods W).map (·.pod.ord)).erase k ++ [o]) := by
  obtain ⟨n, hn, hf, hp⟩ := edits_converge_to_desired h _ W hw hx
  have hbefore := final_ords hF
  have hrW : replicasOf W.view = r := by simp [replicasOf, hr]
  rw [hrW] at hbefore
  have hview : desired (replicasOf (applyEdits [.slots (some (k :: W.view.slots))] W).view)
      (applyEdits [.slots (some (k :: W.view.slots))] W).view.slots = desired r (k :: W.view.slots) :=
    congrArg (desired · (k :: W.view.slots)) hrW
  obtain ⟨o, ho, ho0, hoS, hlt⟩ := desired_cons_same r W.view.slots k h1 hk
  refine ⟨n, hn, hf, o, ho0, hoS, fun p hp' => hlt p ((hbefore.erase k).mem_iff.1 hp'), ?_⟩
  rw [hview, ho] at hp
  exact hp.trans (List.Perm.append_right _ (hbefore.erase k).symm)

/-- **plain scale-in by one, the whole history**: afterwards the occupied ordinals are those before without the top one -/
theorem scale_in_history (h : Hashing) (W : SyncIn) (r : Int)
    (hr : W.view.replicas = some (r + 1)) (h0 : 0 ≤ r)
    (hw : wfWorld h (applyEdits [.replicas r] W) = true) (hx : extraMB h (applyEdits [.replicas r] W) = true) :
    ∃ n ≤ roundBound (applyEdits [.replicas r] W), Final h (roundsN h n (applyEdits [.replicas r] W)) ∧
      ((ownPods (roundsN h n (applyEdits [.replicas r] W))).map (·.pod.ord)).Perm
        (desired (r + 1) W.view.slots).dropLast := by
  obtain ⟨n, hn, hf, hp⟩ := edits_converge_to_desired h _ W hw hx
  refine ⟨n, hn, hf, hp.trans ?_⟩
  have hview : desired (replicasOf (applyEdits [.replicas r] W).view) (applyEdits [.replicas r] W).view.slots =
      desired r W.view.slots :=
    congrArg₂ desired (editReplicas_view r W).1 (editReplicas_view r W).2
  rw [hview, desired_dropLast r W.view.slots h0]

end Asts.EditHist

/-! non-vacuity: `Asts.C02.exWorld` (replicas 3, slots [1], pods 0 2 3, final); the user lists 2 and lowers replicas to 2, or
    just lowers replicas to 2: the premises of the theorems hold of these worlds -/
namespace Asts.EditHist
open Asts Asts.C02p

example : Final Asts.C02.exH Asts.C02.exWorld ∧ Asts.C02.exWorld.view.replicas = some 3 ∧ Asts.C02.exWorld.view.slots = [1] ∧ (2 : Int) ∈ desired 3 [1] := by
  decide +kernel
example : wfWorld Asts.C02.exH (applyEdits [.replicas (3 - 1), .slots (some (2 :: [1]))] Asts.C02.exWorld) = true ∧
    extraMB Asts.C02.exH (applyEdits [.replicas (3 - 1), .slots (some (2 :: [1]))] Asts.C02.exWorld) = true := by decide +kernel
example : Asts.C02.exWorld.view.replicas = some (2 + 1) ∧ wfWorld Asts.C02.exH (applyEdits [.replicas 2] Asts.C02.exWorld) = true ∧
    extraMB Asts.C02.exH (applyEdits [.replicas 2] Asts.C02.exWorld) = true := by decide +kernel
example : ((ownPods Asts.C02.exWorld).map (·.pod.ord)).erase 2 = [0, 3] := by decide +kernel

end Asts.EditHist
