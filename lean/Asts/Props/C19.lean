import Asts.Proofs.Annot
import Asts.Proofs.Defaults
import Asts.Proofs.Codec
import Asts.Gen.Schema

/-! # C19 — client-side helpers are lossless

Property theorems only; lemmas live in `Asts/Proofs`. Three models, each tied to the Go code by its own engine:
`Model/Annot` (annotation helpers of helper.go, engine `annot`), `Model/Codec` (the JSON conversion of hijack.go at the
schemas extracted from the Go types into `Gen/Schema`, engine `codec`) and `Model/Defaults` (client-side defaulting on the
defaulting view, engine `defaults`). -/
namespace Asts.C19
open Asts Asts.Annot

/-! ## annotation helpers -/

/-- Writing a delete-slots set and reading it back yields the same set (as the sorted duplicate-free list
    `sets.Int32.List()` returns), for every annotation map — nil, with unrelated keys, with garbage under the key — and
    every list of int32 values, duplicates and both extremes included. -/
theorem get_set_slots (m : Ann) (s : List Int) (hs : ∀ x ∈ s, JsonInts.inInt32 x = true) :
    getSlots (setSlots m (some s)) = dedupSort s :=
  getSlots_setSlots m s hs

/-- Writing an empty (or nil) set removes the annotation; a nil map stays nil. -/
theorem set_empty_removes (m : Ann) (s : Option (List Int)) (hs : s.getD [] = []) :
    lookupA slotsKey (setSlots m s) = none ∧ (setSlots m s).isNone = m.isNone := by
  unfold setSlots
  rw [hs]
  cases m with
  | none => simp [dedupSort, lookupA]
  | some l => simp [dedupSort, lookupA, lookup_erase_self]

/-- Adding slots yields the union of what was readable before and the argument. -/
theorem add_is_union (m : Ann) (s : Option (List Int)) (hs : ∀ x ∈ s.getD [], JsonInts.inInt32 x = true) :
    getSlots (addSlots m s) = dedupSort (getSlots m ++ s.getD []) :=
  getSlots_addSlots m s hs

/-- None of the slot helpers disturbs any other annotation … -/
theorem slots_helpers_keep_others (m : Ann) (s : Option (List Int)) {k : String} (hk : k ≠ slotsKey) :
    lookupA k (setSlots m s) = lookupA k m ∧ lookupA k (addSlots m s) = lookupA k m :=
  ⟨setSlots_others m s hk, addSlots_others m s hk⟩

/-- … and neither does the pause helper; the flag reads back as written, on a nil map too. -/
theorem pause_laws (m : Ann) (b : Bool) :
    getPaused (setPaused m b) = b ∧ (∀ k, k ≠ pausedKey → lookupA k (setPaused m b) = lookupA k m) ∧
    getSlots (setPaused m b) = getSlots m :=
  ⟨getPaused_setPaused m b, fun _ hk => setPaused_others m b hk, getSlots_setPaused m b⟩

/-- The slot helpers leave the pause flag alone. -/
theorem slots_helpers_keep_pause (m : Ann) (s : Option (List Int)) :
    getPaused (setSlots m s) = getPaused m ∧ getPaused (addSlots m s) = getPaused m :=
  ⟨getPaused_setSlots m s, getPaused_addSlots m s⟩

/-- The monitor of the `annot` engine — every clause, after every operation — is true on the model's run, for every
    initial map and every sequence of helper calls whose slot arguments are int32. -/
theorem annot_monitor_on_model (m : Ann) (ops : List Op) (h : ∀ op ∈ ops, Spec.opInt32 op = true) :
    Spec.runOk (view m) ops (run m ops) = true := by
  induction ops generalizing m with
  | nil => rfl
  | cons op ops ih =>
    simp only [run, Spec.runOk, Bool.and_eq_true]
    exact ⟨stepOk_model m op (h op (by simp)), ih _ (fun o ho => h o (by simp [ho]))⟩

/-- non-vacuity: garbage under the key, duplicates, both int32 extremes, an unrelated key -/
example :
    getSlots (setSlots (some [("other", ['x']), (slotsKey, "not json".toList)]) (some [3, -2147483648, 3, 2147483647]))
      = [-2147483648, 3, 2147483647] := by
  rw [get_set_slots _ _ (by decide)]; decide

example : getSlots (addSlots (setSlots none (some [5, 1])) (some [1, 9])) = [1, 5, 9] := by
  rw [add_is_union _ _ (by decide), get_set_slots _ _ (by decide)]; decide

example : Spec.opInt32 (.set (some [3, -2147483648, 2147483647])) = true ∧ Spec.opInt32 (.add none) = true := by decide

/-! ## client-side defaulting -/

/-- Defaulting applied twice equals applying it once, for every defaulting view (arbitrary nil / non-nil optional
    fields, arbitrary strings and numbers, any number of volumes, containers, ports, probes, claims). -/
theorem defaults_idempotent (v : Defaults.View) : Defaults.defaults (Defaults.defaults v) = Defaults.defaults v :=
  Defaults.defaults_idem v

/-- Hence re-submitting an object that was read back (it went through one pass when it was written) never alters its
    pod template, and therefore never starts a rollout. -/
theorem resubmit_keeps_template (v : Defaults.View) :
    (Defaults.defaults (Defaults.defaults v)).templatePart = (Defaults.defaults v).templatePart := by
  rw [Defaults.defaults_idem]

/-- The monitor of the `defaults` engine is true on the model's observation of every view. -/
theorem defaults_monitor_on_model (v : Defaults.View) :
    ∀ c ∈ Defaults.Spec.clauses (Defaults.Spec.observe v), c.2 = true :=
  Defaults.clauses_model v

/-- Quantity rounding is rounding: a multiple of 10^-3, never smaller in magnitude, less than one step away. -/
theorem rounding_is_rounding (n : Int) :
    Defaults.roundUpMilli n % 1000000 = 0 ∧ (0 ≤ n → n ≤ Defaults.roundUpMilli n ∧ Defaults.roundUpMilli n < n + 1000000) ∧
    (n < 0 → Defaults.roundUpMilli n ≤ n ∧ n - 1000000 < Defaults.roundUpMilli n) :=
  Defaults.roundUpMilli_spec n

/-- The model's rule table names exactly the defaulting functions reachable from `SetObjectDefaults_StatefulSet` in the
    current tree (`Gen.defaulters` is regenerated on every check). -/
theorem rule_table_matches_generated :
    (Gen.defaulters.all (fun d => Defaults.ruleNames.contains d) && Defaults.ruleNames.all (fun d => Gen.defaulters.contains d)) = true := by
  -- the extractor writes the names sorted, which is the order of the table
  have h : Gen.defaulters = Defaults.ruleNames := rfl
  simp [h]

/-- One pass of defaulting — what a write through the hijack client adds to the conversion — keeps every value that was
    set: non-empty strings, non-zero numbers, non-nil pointers stay as they were, lists keep length and order, quantities
    are at most rounded up to the next 10^-3. (Model of the intended strategy rule; the rule of the pinned tree is `replacing_strategy_rule_loses_partition` below.) -/
theorem defaults_keep_set_values (v : Defaults.View) : Defaults.Spec.keptView v (Defaults.defaults v) = true :=
  Defaults.keptView_defaults v

/-- The strategy rule of the pinned tree (defaulting the type *replaces* the rollingUpdate block) does not: no type, a block
    with partition 3 — the partition is lost. Found by the `codec` engine (`C19.hijack-set-fields-kept`, inputs in
    `corpus/codec/strategy-clobber.txt`), repaired in `/repo` by commit feb1d7c. -/
theorem replacing_strategy_rule_loses_partition :
    Defaults.Spec.keptO (Defaults.Spec.keptO Defaults.Spec.sameI) (some (some 3)) (Defaults.dStrategyReplacing "" (some (some 3))).2 = false := by
  decide

/-- non-vacuity of the strategy rule in its shapes -/
example : Defaults.dStrategy "" (some (some 3)) = ("RollingUpdate", some (some 3)) ∧
    Defaults.dStrategy "" none = ("RollingUpdate", some (some 0)) ∧
    Defaults.dStrategy "RollingUpdate" (some none) = ("RollingUpdate", some (some 0)) ∧
    Defaults.dStrategy "OnDelete" none = ("OnDelete", none) ∧
    Defaults.dStrategyReplacing "" (some (some 3)) = ("RollingUpdate", some (some 0)) := by decide

/-! ## conversion between the built-in and the Advanced type

`Gen.asSchema`, `Gen.builtinSchema` (and the two list schemas) are regenerated from the Go types on every check; the
facts below are evaluated on them, so a field added to the Advanced type with a different key / omitempty flag / shape
than its built-in counterpart, or one the built-in type does not have, breaks an obligation. -/

/-- the three facts below in one evaluation: the kernel then computes what they share (the list schemas contain the object
    schemas) once -/
theorem schemas_checked :
    (Codec.compat Gen.asSchema Gen.builtinSchema = true ∧ Codec.compat Gen.asListSchema Gen.builtinListSchema = true) ∧
    (Codec.wf Gen.asSchema = true ∧ Codec.wf Gen.builtinSchema = true ∧
      Codec.wf Gen.asListSchema = true ∧ Codec.wf Gen.builtinListSchema = true ∧
      Codec.compat Gen.asSchema Gen.asSchema = true ∧ Codec.compat Gen.asListSchema Gen.asListSchema = true) ∧
    (Codec.accCompat Gen.asSchema Gen.builtinSchema = true ∧ Codec.accCompat Gen.builtinSchema Gen.asSchema = true ∧
      Codec.accCompat Gen.builtinListSchema Gen.asListSchema = true) := by decide +kernel

/-- every field of the Advanced type occurs in the built-in type with the same JSON key, omitempty flag and shape -/
theorem as_within_builtin : Codec.compat Gen.asSchema Gen.builtinSchema = true ∧
    Codec.compat Gen.asListSchema Gen.builtinListSchema = true := schemas_checked.1

/-- both pairs of schemas are well formed (distinct keys per struct, pointers at non-null types, nothing outside the model) -/
theorem schemas_wf : Codec.wf Gen.asSchema = true ∧ Codec.wf Gen.builtinSchema = true ∧
    Codec.wf Gen.asListSchema = true ∧ Codec.wf Gen.builtinListSchema = true ∧
    Codec.compat Gen.asSchema Gen.asSchema = true ∧ Codec.compat Gen.asListSchema Gen.asListSchema = true := schemas_checked.2.1

/-- each side's decoder accepts what the other side's encoder writes -/
theorem schemas_accept_each_other :
    Codec.accCompat Gen.asSchema Gen.builtinSchema = true ∧ Codec.accCompat Gen.builtinSchema Gen.asSchema = true ∧
    Codec.accCompat Gen.builtinListSchema Gen.asListSchema = true := schemas_checked.2.2

/-- `FromBuiltinStatefulSet`: the Advanced object equals the built-in one in every field the Advanced API models
    (nil and empty collections identified, slices position by position). -/
theorem from_builtin_keeps (w : Codec.GoVal) (h : Codec.HasTy Gen.builtinSchema w) :
    Codec.Equiv Gen.asSchema (Codec.decode Gen.asSchema (Codec.encode Gen.builtinSchema w)) w :=
  Codec.roundtrip _ _ _ w schemas_wf.2.1 as_within_builtin.1 schemas_wf.2.2.2.2.1 h

/-- `ToBuiltinStatefulSet`: nothing of an Advanced object is lost in the built-in one. -/
theorem to_builtin_keeps (a : Codec.GoVal) (h : Codec.HasTy Gen.asSchema a) :
    Codec.Equiv Gen.asSchema (Codec.decode Gen.builtinSchema (Codec.encode Gen.asSchema a)) a :=
  Codec.roundtrip _ _ _ a schemas_wf.1 schemas_wf.2.2.2.2.1 as_within_builtin.1 h

/-- A built-in StatefulSet converted to the Advanced type and back (what a write through the hijack client followed by a
    read does to it, defaulting aside) is unchanged in every field the Advanced API models. -/
theorem builtin_there_and_back (w : Codec.GoVal) (h : Codec.HasTy Gen.builtinSchema w) :
    Codec.Equiv Gen.asSchema
      (Codec.decode Gen.builtinSchema (Codec.encode Gen.asSchema (Codec.decode Gen.asSchema (Codec.encode Gen.builtinSchema w)))) w :=
  Codec.there_and_back _ _ w schemas_wf.1 schemas_wf.2.1 schemas_wf.2.2.2.2.1 as_within_builtin.1 h

/-- `ToBuiltinStetefulsetList`: the same for lists — in particular `items` keeps its length and order (`Equiv` on a slice
    is position by position, see `list_length_kept`). -/
theorem list_to_builtin_keeps (l : Codec.GoVal) (h : Codec.HasTy Gen.asListSchema l) :
    Codec.Equiv Gen.asListSchema (Codec.decode Gen.builtinListSchema (Codec.encode Gen.asListSchema l)) l :=
  Codec.roundtrip _ _ _ l schemas_wf.2.2.1 schemas_wf.2.2.2.2.2 as_within_builtin.2 h

/-- equivalent slices have the same length -/
theorem list_length_kept (t : Codec.GoTy) (l1 l2 : List Codec.GoVal) (h : Codec.EquivList t l1 l2) : l1.length = l2.length :=
  Codec.equivList_length l1 l2 h

/-- Converting in either direction never fails: the decoder of each side accepts the other side's encoding of any
    well-typed value (integers within their width included). -/
theorem conversion_never_fails :
    (∀ w, Codec.HasTy Gen.builtinSchema w → Codec.accepts Gen.asSchema (Codec.encode Gen.builtinSchema w) = true) ∧
    (∀ a, Codec.HasTy Gen.asSchema a → Codec.accepts Gen.builtinSchema (Codec.encode Gen.asSchema a) = true) ∧
    (∀ l, Codec.HasTy Gen.asListSchema l → Codec.accepts Gen.builtinListSchema (Codec.encode Gen.asListSchema l) = true) :=
  ⟨fun w h => Codec.accepts_encode _ _ w schemas_wf.2.1 schemas_accept_each_other.1 h,
   fun a h => Codec.accepts_encode _ _ a schemas_wf.1 schemas_accept_each_other.2.1 h,
   fun l h => Codec.accepts_encode _ _ l schemas_wf.2.2.1 schemas_accept_each_other.2.2 h⟩

/-- What comes back is typed as asked (`apps/v1` from `ToBuiltinStatefulSet`, `apps.pingcap.com/v1` from
    `FromBuiltinStatefulSet`), and the stamp touches no other top-level field. -/
theorem converted_is_typed (src : Codec.GoTy) (av : String) (v : Codec.GoVal) :
    (∀ fs, Gen.builtinSchema = .struct fs → Codec.topField "apiVersion" (Codec.convert src (.struct fs) av v) = some (.str av)) ∧
    (∀ fs, Gen.asSchema = .struct fs → Codec.topField "apiVersion" (Codec.convert src (.struct fs) av v) = some (.str av)) ∧
    (∀ fs k, k ≠ "apiVersion" →
      Codec.topField k (Codec.convert src (.struct fs) av v) = Codec.topField k (Codec.decode (.struct fs) (Codec.encode src v))) := by
  refine ⟨?_, ?_, fun fs k hk => Codec.convert_other_fields src fs av v hk⟩
  · intro fs hfs
    have hf : Codec.findField "apiVersion" fs = some (true, .prim .str) := by
      simp only [Gen.builtinSchema, Codec.GoTy.struct.injEq] at hfs; subst hfs; rfl
    exact Codec.convert_typed src fs av v hf
  · intro fs hfs
    have hf : Codec.findField "apiVersion" fs = some (true, .prim .str) := by
      simp only [Gen.asSchema, Codec.GoTy.struct.injEq] at hfs; subst hfs; rfl
    exact Codec.convert_typed src fs av v hf

/-- non-vacuity: a built-in value with a nil `volumeClaimTemplates`, an empty `conditions`, a partition without a strategy
    type and the built-in-only `minReadySeconds` / `availableReplicas` -/
def exampleBuiltin : Codec.GoVal := .struct [
  ("kind", .str "StatefulSet"), ("apiVersion", .str "apps/v1"), ("metadata", .leaf (.obj [("name", .str "web")])),
  ("spec", .struct [("replicas", .ptr (.int 3)), ("selector", .nilPtr), ("template", .leaf (.obj [])),
    ("volumeClaimTemplates", .slice none), ("serviceName", .str "web"), ("podManagementPolicy", .str ""),
    ("updateStrategy", .struct [("type", .str ""), ("rollingUpdate", .ptr (.struct [("partition", .ptr (.int 2)), ("maxUnavailable", .nilPtr)]))]),
    ("revisionHistoryLimit", .nilPtr), ("minReadySeconds", .int 5), ("persistentVolumeClaimRetentionPolicy", .nilPtr), ("ordinals", .nilPtr)]),
  ("status", .struct [("observedGeneration", .int 0), ("replicas", .int 0), ("readyReplicas", .int 0), ("currentReplicas", .int 0),
    ("updatedReplicas", .int 0), ("currentRevision", .str ""), ("updateRevision", .str ""), ("collisionCount", .nilPtr),
    ("conditions", .slice (some [])), ("availableReplicas", .int 1)])]

/-- it is well typed, so the hypotheses of the conversion theorems are satisfiable … -/
example : Codec.HasTy Gen.builtinSchema exampleBuiltin := by
  simp [Gen.builtinSchema, exampleBuiltin, Codec.HasTy, Codec.HasTyFields, Codec.HasTyList, Codec.vlookup]

/-- … and its partition survives the conversion to the Advanced type -/
example : Json.intD ((Codec.encode Gen.asSchema (Codec.decode Gen.asSchema (Codec.encode Gen.builtinSchema exampleBuiltin))).path?
    ["spec", "updateStrategy", "rollingUpdate", "partition"]) = 2 := by
  simp [Gen.builtinSchema, Gen.asSchema, exampleBuiltin, Codec.encode, Codec.encodeFields, Codec.decode, Codec.decodeFields,
    Codec.vlookup, Codec.jlookup, Codec.isEmpty, Json.path?, Json.field?, Json.intD, Codec.zero]

end Asts.C19
