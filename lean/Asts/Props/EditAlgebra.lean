import Asts.Proofs.EditAlgebra
import Asts.Proofs.L1_e_SlotOut

/-! # C01 / C03 over sequences of user edits — the algebra of the desired ordinal set

Property theorems only (lemmas in `Asts/Proofs/EditAlgebra.lean`). `podOrdinals` is the model of the helper
(`GetPodOrdinalsFromReplicasAndDeleteSlots`, tied to the code by the `ordinals` engine), `desired` the executable
specification; `podOrdinals_eq_desired'` joins the two for every `r`. Every statement is for all replica counts and all slot lists
(duplicates, negative entries, entries beyond the range included). What a *reconcile* then does with the new desired set is
C03 (`slot_k_only`), C04 and C05; what a *history* of such edits converges to is `C02_after_last_edit`. -/
namespace Asts.Edits
open List

/-- the annotation is read as a set: two slot lists with the same members give the same desired ordinals (order and
    duplicates never matter) -/
theorem slots_as_set (r : Int) (S T : List Int) (h : ∀ x, x ∈ S ↔ x ∈ T) : podOrdinals r S = podOrdinals r T := by
  simp only [podOrdinals_eq_desired'] at *; exact desired_congr r S T h

/-- negative entries of the annotation have no effect (on the pinned tree they extended the range: defect #1 of DESIGN §8, repaired in `/repo` by commit 2eb350c) -/
theorem negative_slots_ignored (r : Int) (S : List Int) :
    podOrdinals r (S.filter (fun s => decide (0 ≤ s))) = podOrdinals r S := by
  simp only [podOrdinals_eq_desired'] at *; exact desired_nonneg_slots r S

/-- **plain scale-in by one** (`replicas` r + 1 → r, annotation untouched) removes the top ordinal and no other -/
theorem scale_in_removes_top (r : Int) (S : List Int) (hr : 0 ≤ r) : podOrdinals r S = (podOrdinals (r + 1) S).dropLast := by
  simp only [podOrdinals_eq_desired'] at *; exact (desired_dropLast r S hr).symm

/-- **plain scale-out by one** appends one ordinal — above all the others, not a slot — and keeps every desired ordinal -/
theorem scale_out_appends (r : Int) (S : List Int) (hr : 0 ≤ r) :
    ∃ n, podOrdinals (r + 1) S = podOrdinals r S ++ [n] ∧ 0 ≤ n ∧ n ∉ S ∧ ∀ o ∈ podOrdinals r S, o < n := by
  simp only [podOrdinals_eq_desired'] at *; exact desired_succ r S hr

/-- scaling out by any amount never makes a desired ordinal undesired -/
theorem scale_out_keeps (r : Int) (S : List Int) (d : Nat) (hr : 0 ≤ r) : ∀ o ∈ podOrdinals r S, o ∈ podOrdinals (r + d) S := by
  simp only [podOrdinals_eq_desired'] at *; exact desired_mono r S d

/-- **scaling by any amount never renumbers a pod**: the desired set of the smaller replica count is a prefix of the larger
    one's — a scale-out by `d` keeps every ordinal and adds `d` higher ones, a scale-in by `d` removes exactly the `d` highest -/
theorem scaling_never_renumbers (r : Int) (S : List Int) (d : Nat) (hr : 0 ≤ r) :
    ∃ L, podOrdinals (r + d) S = podOrdinals r S ++ L ∧ L.length = d ∧ ∀ o ∈ podOrdinals r S, ∀ n ∈ L, o < n := by
  simp only [podOrdinals_eq_desired'] at *; exact desired_prefix r S d hr

/-- **scale-in at slot k** (list `k`, decrement `replicas`): the desired set loses exactly `k` -/
theorem slot_in_removes_k (r : Int) (S : List Int) (k : Int) (h1 : 1 ≤ r) (hk : k ∈ podOrdinals r S) :
    podOrdinals (r - 1) (k :: S) = (podOrdinals r S).erase k := by
  simp only [podOrdinals_eq_desired'] at *; exact desired_cons_erase r S k h1 hk

/-- **scale-in at slot `k` with `replicas` unchanged** (the pod is *moved*): the desired set loses exactly `k` and gains exactly
    one ordinal, above all the others and not a slot -/
theorem slot_in_same_replicas_moves_k (r : Int) (S : List Int) (k : Int) (h1 : 1 ≤ r) (hk : k ∈ podOrdinals r S) :
    ∃ n, podOrdinals r (k :: S) = (podOrdinals r S).erase k ++ [n] ∧ 0 ≤ n ∧ n ∉ k :: S ∧
      ∀ o ∈ (podOrdinals r S).erase k, o < n := by
  simp only [podOrdinals_eq_desired'] at *; exact desired_cons_same r S k h1 hk

/-- **scale-out at slot k** (un-list `k`, increment `replicas`): when `k` lies below the new bound the desired set gains
    exactly `k` — every other ordinal stays as it was … -/
theorem slot_out_restores_k (r : Int) (S : List Int) (k : Int) (hr : 0 ≤ r) (hkS : k ∈ S)
    (hk : k ∈ podOrdinals (r + 1) (S.filter (fun s => decide (s ≠ k)))) :
    (podOrdinals (r + 1) (S.filter (fun s => decide (s ≠ k)))).erase k = podOrdinals r S := by
  simp only [podOrdinals_eq_desired'] at *; exact desired_unlist_erase r S k hr hkS hk

/-- … and when it lies beyond the bound, un-listing it is no edit at all (the slot was not in effect) -/
theorem unlist_beyond_bound_is_noop (r : Int) (S : List Int) (k : Int)
    (hk : k ∉ podOrdinals r (S.filter (fun s => decide (s ≠ k)))) :
    podOrdinals r (S.filter (fun s => decide (s ≠ k))) = podOrdinals r S := by
  simp only [podOrdinals_eq_desired'] at *; exact desired_unlist_ineffective r S k hk

/-- **there and back**: scale in at slot `k`, then undo the edit — the desired set is the one before the two edits -/
theorem slot_in_then_out (r : Int) (S : List Int) (k : Int) (hkS : k ∉ S) :
    podOrdinals (r - 1 + 1) ((k :: S).filter (fun s => decide (s ≠ k))) = podOrdinals r S := by
  simp only [podOrdinals_eq_desired'] at *; exact desired_list_unlist r S k hkS

/-! non-vacuity: replicas 4, slots [1]: pods 0 2 3 4. Scale in at slot 3 → 0 2 4; undo → 0 2 3 4; un-list 1 and go to 5 →
    0 1 2 3 4 (gains exactly 1); a slot beyond the bound (9) is not in effect. -/
example : podOrdinals 4 [1] = [0, 2, 3, 4] ∧ (3 : Int) ∈ podOrdinals 4 [1] ∧ podOrdinals 3 [3, 1] = [0, 2, 4] := by decide +kernel
example : (1 : Int) ∈ podOrdinals 5 ([1].filter (fun s => decide (s ≠ 1))) ∧
    (podOrdinals 5 ([1].filter (fun s => decide (s ≠ 1)))).erase 1 = podOrdinals 4 [1] := by decide +kernel
example : (9 : Int) ∉ podOrdinals 4 ([1, 9].filter (fun s => decide (s ≠ 9))) ∧ podOrdinals 4 [1, 9] = [0, 2, 3, 4] := by decide +kernel
example : podOrdinals 4 [1, 1, -3] = podOrdinals 4 [1] := by decide +kernel
example : podOrdinals 4 [3, 1] = (podOrdinals 4 [1]).erase 3 ++ [5] := by decide +kernel

/-! ## what the reconcile does after a scale-out at slot `k` (the converse of C03's `slot_k_only`) -/

/-- **slot_out_only**: one pod per ordinal of the desired set except `k`, all healthy, at the update revision, identity and
    storage in order; a pod created at `k` would be at the update revision (no roll-out pending below a partition). The
    reconcile issues exactly one action — the creation of pod `k` — under either policy, every strategy and every fault plan,
    and ends ok unless that very create is made to fail — and then it reports the error (C09). No pod is deleted, updated or created anywhere else. -/
theorem slot_out_only (v : SetView) (cur upd : String) (pods : List Pod) (f : Faults) (r k : Int)
    (hr : v.replicas = some r) (hk : k ∈ desired r v.slots) (hdel : v.deleting = false)
    (hperm : (pods.map Pod.ord).Perm ((desired r v.slots).erase k))
    (hgood : ∀ p ∈ pods, p.healthy = true ∧ p.rev = upd ∧ p.idOk = true ∧ p.stOk = true)
    (hrev : newPodRev v cur upd k = upd) :
    (updateStatefulSet v cur upd pods f).1.acts = [.create k upd] ∧
    (f.hit 0 k = false → (updateStatefulSet v cur upd pods f).2 = .ok) ∧
    (f.hit 0 k = true → (updateStatefulSet v cur upd pods f).2 = .err) :=
  slot_out_only_gen v cur upd pods f r k hr hk hdel hperm hgood hrev

/-- the same, phrased as the user's edit: the pods are exactly those of `desired r S` (a converged set), the user un-lists
    the effective slot `k` and raises `replicas` to `r + 1`; the next reconcile creates pod `k` and nothing else -/
theorem unlist_edit_creates_only_k (v : SetView) (cur upd : String) (pods : List Pod) (f : Faults) (r k : Int) (S : List Int)
    (h0 : 0 ≤ r) (hkS : k ∈ S) (hr : v.replicas = some (r + 1)) (hs : v.slots = S.filter (fun s => decide (s ≠ k)))
    (hk : k ∈ desired (r + 1) v.slots) (hdel : v.deleting = false)
    (hperm : (pods.map Pod.ord).Perm (desired r S))
    (hgood : ∀ p ∈ pods, p.healthy = true ∧ p.rev = upd ∧ p.idOk = true ∧ p.stOk = true)
    (hrev : newPodRev v cur upd k = upd) :
    (updateStatefulSet v cur upd pods f).1.acts = [.create k upd] ∧
    (f.hit 0 k = false → (updateStatefulSet v cur upd pods f).2 = .ok) ∧
    (f.hit 0 k = true → (updateStatefulSet v cur upd pods f).2 = .err) := by
  refine slot_out_only_gen v cur upd pods f (r + 1) k hr hk hdel ?_ hgood hrev
  rw [hs] at hk ⊢
  rw [desired_unlist_erase r S k h0 hkS hk]
  exact hperm

/-- **plain scale-out by one from a converged set**: the pods are exactly those of `desired r S`, `replicas` becomes `r + 1`
    with the annotation untouched; the next reconcile creates the one appended ordinal (`scale_out_appends`) and nothing else -/
theorem scale_out_edit_creates_only_next (v : SetView) (cur upd : String) (pods : List Pod) (f : Faults) (r : Int)
    (h0 : 0 ≤ r) (hr : v.replicas = some (r + 1)) (hdel : v.deleting = false)
    (hperm : (pods.map Pod.ord).Perm (desired r v.slots))
    (hgood : ∀ p ∈ pods, p.healthy = true ∧ p.rev = upd ∧ p.idOk = true ∧ p.stOk = true)
    (hrev : ∀ n, newPodRev v cur upd n = upd) :
    ∃ n, desired (r + 1) v.slots = desired r v.slots ++ [n] ∧
      (updateStatefulSet v cur upd pods f).1.acts = [.create n upd] ∧
      (f.hit 0 n = false → (updateStatefulSet v cur upd pods f).2 = .ok) ∧
      (f.hit 0 n = true → (updateStatefulSet v cur upd pods f).2 = .err) := by
  obtain ⟨n, hn, -, -, hlt⟩ := desired_succ r v.slots h0
  have hnot : n ∉ desired r v.slots := fun h => by have := hlt n h; omega
  refine ⟨n, hn, slot_out_only_gen v cur upd pods f (r + 1) n hr (by rw [hn]; simp) hdel ?_ hgood (hrev n)⟩
  rw [hn, List.erase_append_right _ hnot]
  simpa using hperm

/-- **plain scale-in by one from a converged set**: the pods are exactly those of `desired (r + 1) S`, `replicas` becomes `r`
    with the annotation untouched; the next reconcile deletes the pod at the top ordinal (`scale_in_removes_top`) and does
    nothing else — under either policy, every strategy and every fault plan -/
theorem scale_in_edit_deletes_only_top (v : SetView) (cur upd : String) (pods : List Pod) (f : Faults) (r : Int)
    (h0 : 0 ≤ r) (hr : v.replicas = some r) (hdel : v.deleting = false)
    (hperm : (pods.map Pod.ord).Perm (desired (r + 1) v.slots))
    (hgood : ∀ p ∈ pods, p.healthy = true ∧ p.rev = upd ∧ p.idOk = true ∧ p.stOk = true) :
    ∃ n, desired (r + 1) v.slots = desired r v.slots ++ [n] ∧ ∃ pk ∈ pods, pk.ord = n ∧
      (updateStatefulSet v cur upd pods f).1.acts = [.delete n pk.id .scaleDown] ∧
      (f.hit 1 n = false → (updateStatefulSet v cur upd pods f).2 = .ok) := by
  obtain ⟨n, hn, hn0, -, hlt⟩ := desired_succ r v.slots h0
  have hnot : n ∉ desired r v.slots := fun h => by have := hlt n h; omega
  refine ⟨n, hn, slot_k_only_core v cur upd pods f r n hr hnot (isCondemned_of_not_desired hn0 hnot) hdel ?_ hgood⟩
  rw [hn] at hperm
  exact hperm.trans (List.perm_append_comm.trans (by simp))

/-! non-vacuity: replicas 3, slots [] after the user un-listed 1 (before: replicas 2, slots [1], pods 0 and 2) -/
private def exV : SetView :=
  { replicas := some (2 + 1), slots := [1].filter (fun s => decide (s ≠ 1)), parallel := false, strat := .rolling,
    ru := some (some 0), deleting := false, generation := 2, stCurrentReplicas := 2 }
private def exPods : List Pod := [
  { id := 0, ord := 2, phase := .running, ready := true, terminating := false, rev := "b", idOk := true, stOk := true },
  { id := 1, ord := 0, phase := .running, ready := true, terminating := false, rev := "b", idOk := true, stOk := true }]
example : (1 : Int) ∈ [1] ∧ (1 : Int) ∈ desired (2 + 1) exV.slots ∧ (exPods.map Pod.ord).Perm (desired 2 [1]) ∧
    (∀ p ∈ exPods, p.healthy = true ∧ p.rev = "b" ∧ p.idOk = true ∧ p.stOk = true) ∧ newPodRev exV "a" "b" 1 = "b" := by decide +kernel
example : (updateStatefulSet exV "a" "b" exPods []).1.acts = [.create 1 "b"] := by decide +kernel

end Asts.Edits
