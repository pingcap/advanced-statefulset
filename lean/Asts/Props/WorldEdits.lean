import Asts.Proofs.WE_Edits
import Asts.Proofs.WE_Pause
import Asts.Proofs.WE_History
import Asts.Proofs.WE_Monitor
import Asts.Proofs.WE_Traj
import Asts.Proofs.WE_Revert
import Asts.Proofs.WE_NoRestartModel
import Asts.Proofs.WE_Lossless
import Asts.Proofs.WE_AfterEdits
import Asts.Proofs.WE_Names
import Asts.Props.C08
import Asts.Props.C02

/-! # Histories in which the user edits the set (engine `worldedit`): C08 / C11 / C02 read on `applyEdit` and `runHistory`

Property theorems only; lemmas live in `Asts/Proofs/WE_*.lean`. `applyEdit` / `runHistory` (`Model/WorldEdits.lean`) are tied to
the Go code by the `worldedit` engine (the observation carries, for every round with edits, what the set in the API looks like
after them); `round`, `settle`, `runRounds` are the round semantics of `Model/World.lean`, `syncF` the model of one sync.

Hypotheses that appear: `ViewInStep` (the world's copy of `status.currentReplicas` is the stored one — true of every world a case
describes and of every world a round leaves) and distinct pod names (API objects of one namespace); both only for the
statements that identify a world with its settled form. -/
namespace Asts.WorldEdits
open Asts Asts.WE Asts.C02p

/-! ## (b) C08: scaling edits cannot change the update revision -/

/-- no edit touches anything but the set's spec and annotations: revisions, pods, stored status, collision count, identity
    of the set are as before -/
theorem edit_frame (e : Edit) (i : SyncIn) :
    (applyEdit e i).store = i.store ∧ (applyEdit e i).pods = i.pods ∧ (applyEdit e i).stored = i.stored ∧
    (applyEdit e i).collisionCount = i.collisionCount ∧ (applyEdit e i).fresh = i.fresh ∧
    (applyEdit e i).view.deleting = i.view.deleting ∧ (applyEdit e i).setName = i.setName ∧
    (applyEdit e i).selectorOk = i.selectorOk ∧ (applyEdit e i).historyLimit = i.historyLimit :=
  have f := applyEdit_frame e i
  ⟨f.store, f.pods, f.stored, f.cc, f.fresh, f.deleting, f.setName, f.selectorOk, f.historyLimit⟩

/-- an edit of replicas, delete-slots, the pause annotation, other metadata (or the partition) does not change the template -/
theorem edit_keeps_template (e : Edit) (i : SyncIn) (he : keepsTemplate e = true) : (applyEdit e i).template = i.template :=
  applyEdit_template e i he

/-- … hence leaves everything the resolution of revisions reads (C08's `SameRevisionInputs`) as it is; so does a whole batch
    of such edits, and the `settle` that starts the round -/
theorem edits_keep_revision_inputs (es : List Edit) (i : SyncIn) (hes : ∀ e ∈ es, keepsTemplate e = true) :
    SYb.SameRevisionInputs (settle i) (settle (applyEdits es i)) :=
  settle_sameInputs (applyEdits_sameInputs es i hes)

/-- **C08, no restart**: the sync of the round that follows a batch of replicas / delete-slots / pause / metadata edits
    resolves, when it runs and succeeds, the very update revision the sync of the unedited world resolves (and reports it in
    the status): a scaling edit cannot start a rolling restart. For every hashing, store, pod list and fault plan. -/
theorem scaling_edits_keep_update_revision (h : Hashing) (i : SyncIn) (es : List Edit) (plan : List Fault)
    (hes : ∀ e ∈ es, scalingOnly e = true)
    (hrun : ((settle i).paused || !(settle i).selectorOk) = false)
    (hrun' : ((settle (applyEdits es i)).paused || !(settle (applyEdits es i)).selectorOk) = false)
    (hok : (syncF h (settle i) plan).outcome = .ok) (hok' : (syncF h (settle (applyEdits es i)) plan).outcome = .ok) :
    (syncF h (settle (applyEdits es i)) plan).upd = (syncF h (settle i) plan).upd ∧
    SYb.reportedUpd (settle (applyEdits es i)) (syncF h (settle (applyEdits es i)) plan) =
      SYb.reportedUpd (settle i) (syncF h (settle i) plan) :=
  SYb.scaling_same_update_revision h (settle i) (settle (applyEdits es i)) plan
    (settle_sameInputs (applyEdits_sameInputs es i (fun e he => scalingOnly_keepsTemplate (hes e he)))) hrun hrun' hok hok'

/-- the template edit is the one that reaches the revision resolution: the world records the new template -/
theorem template_edit_sets_template (t : String) (i : SyncIn) : (applyEdit (.template t) i).template = t :=
  applyEdit_template_edit t i

/-- **C08, revert**: the sync of the round that follows an edit of the template to `t`, when some revision the set lists equals
    the fresh revision of `t` (`EqualRevision`: same data, hash labels not contradicting), creates no revision whatever else
    happens; and when it runs and succeeds, the revision it reports records `t`, is stored under that name with a number no
    listed revision exceeds — it is a listed revision itself or a listed one renumbered to `nextRevision` — and every other
    stored revision is as adoption left it -/
theorem revert_reuses_and_renumbers (h : Hashing) (i : SyncIn) (t : String) (plan : List Fault) (r0 : Rev)
    (hr : r0 ∈ SYb.syncListing plan (settle (applyEdit (.template t) i)))
    (heq : equalRev r0 (SYb.freshOf h t ((settle (applyEdit (.template t) i)).collisionCount.getD 0)
      (SYb.syncListing plan (settle (applyEdit (.template t) i)))) = true) :
    (syncF h (settle (applyEdit (.template t) i)) plan).log.filter (SYb.pre "create:rev:") = [] ∧
    (((settle (applyEdit (.template t) i)).paused || !(settle (applyEdit (.template t) i)).selectorOk) = false →
     (syncF h (settle (applyEdit (.template t) i)) plan).outcome = .ok →
     ∃ u ∈ (syncF h (settle (applyEdit (.template t) i)) plan).store,
       u.name = (syncF h (settle (applyEdit (.template t) i)) plan).upd ∧ u.data = t ∧
       (∀ r ∈ SYb.syncListing plan (settle (applyEdit (.template t) i)), r.number ≤ u.number) ∧
       (u ∈ SYb.syncListing plan (settle (applyEdit (.template t) i)) ∨
         (u.number = nextRevision (SYb.syncListing plan (settle (applyEdit (.template t) i))) ∧
          ∃ e ∈ SYb.syncListing plan (settle (applyEdit (.template t) i)), e.name = u.name ∧ e.data = t))) := by
  have ht : (settle (applyEdit (.template t) i)).template = t := applyEdit_template_edit t i
  refine ⟨?_, ?_⟩
  · apply Asts.C08.sync_equal_revision_no_create h _ plan r0 hr
    rw [ht]; exact heq
  · intro hrun hok
    obtain ⟨u, hu, a, b, c, d, _⟩ := Asts.C08.sync_revert_renumbered_above_all h _ plan hrun hok r0 hr (by rw [ht]; exact heq)
    rw [ht] at b d
    exact ⟨u, hu, a, b, c, d⟩

/-! ## (a) C11: a pause interval is lossless -/

/-- a round of a paused world is the environment's `settle` and nothing else: no write, success, revisions and status as
    they were, and the world afterwards is the settled world -/
theorem paused_round_only_settles (h : Hashing) (i : SyncIn) (plan : List Fault) (hp : i.paused = true)
    (hv : ViewInStep i) (hn : (i.pods.map (·.name)).Nodup) :
    (round h i plan).1 = settle i ∧ (round h i plan).2.writes = 0 ∧ (round h i plan).2.out = "ok" ∧
    (round h i plan).2.revs = i.store ∧ (round h i plan).2.status = i.stored :=
  paused_round_is_settle h i plan hp hv (settle_names_nodup i hn)

/-- every round of a pause — the first one under any fault plan — is silent and shows the revisions and the status of the
    world that was paused -/
theorem pause_rounds_silent (h : Hashing) (plan p : List Fault) (i : SyncIn) (hv : ViewInStep i)
    (hn : (i.pods.map (·.name)).Nodup) (n : Nat) :
    (round h (pausedFor h plan n i) p).2.writes = 0 ∧ (round h (pausedFor h plan n i) p).2.out = "ok" ∧
    (round h (pausedFor h plan n i) p).2.revs = i.store ∧ (round h (pausedFor h plan n i) p).2.status = i.stored := by
  have hs := settle_names_nodup (applyEdit (.pause true) i) hn
  cases n with
  | zero => exact (paused_round_is_settle h (applyEdit (.pause true) i) p rfl hv hs).2
  | succ n =>
    rw [pausedFor_eq h plan i hv hn n, round_settle h _ p hs]
    exact (paused_round_is_settle h (applyEdit (.pause true) i) p rfl hv hs).2

/-- however long the pause, the world it leaves is the settled world with the flag up -/
theorem pause_world (h : Hashing) (plan : List Fault) (i : SyncIn) (hv : ViewInStep i) (hn : (i.pods.map (·.name)).Nodup)
    (n : Nat) : pausedFor h plan (n + 1) i = settle (applyEdit (.pause true) i) :=
  pausedFor_eq h plan i hv hn n

/-- **C11, lossless (one round)**: the round that follows the un-pause, after `n + 1` rounds of pause, is the round the world
    would have run had it never been paused — the same observation (outcome, writes, pods, revisions, status) and the same
    next world -/
theorem unpause_resumes (h : Hashing) (plan p : List Fault) (i : SyncIn) (hv : ViewInStep i)
    (hn : (i.pods.map (·.name)).Nodup) (n : Nat) :
    round h (applyEdit (.pause false) (pausedFor h plan (n + 1) i)) p = round h (applyEdit (.pause false) i) p :=
  unpause_round_eq h plan p i hv hn n

/-- **C11, lossless (the run)**: `m + 1` rounds after the un-pause the world is the world `m + 1` rounds of the never-paused
    run reach; in particular it converges to the same `Final` state, in the same number of rounds counted from the un-pause -/
theorem pause_interval_lossless (h : Hashing) (plan : List Fault) (i : SyncIn) (hnp : i.paused = false) (hv : ViewInStep i)
    (hn : (i.pods.map (·.name)).Nodup) (n m : Nat) :
    roundsN h (m + 1) (applyEdit (.pause false) (pausedFor h plan (n + 1) i)) = roundsN h (m + 1) i := by
  have hi : applyEdit (.pause false) i = i := by
    show ({ i with paused := false } : SyncIn) = i
    rw [← hnp]
  show roundsN h m (round h (applyEdit (.pause false) (pausedFor h plan (n + 1) i)) []).1 = roundsN h m (round h i []).1
  rw [unpause_round_eq h plan [] i hv hn n, hi]

theorem pause_interval_same_final (h : Hashing) (plan : List Fault) (i : SyncIn) (hnp : i.paused = false) (hv : ViewInStep i)
    (hn : (i.pods.map (·.name)).Nodup) (n m : Nat) (hf : Final h (roundsN h (m + 1) i)) :
    Final h (roundsN h (m + 1) (applyEdit (.pause false) (pausedFor h plan (n + 1) i))) := by
  rw [pause_interval_lossless h plan i hnp hv hn n m]; exact hf

/-! ### the pause interval on whole histories

`histRoundAt h script 1 plan i n` is round `n + 1` of the history of `script` that never stops; `runHistory` (which stops after
two silent rounds) is a prefix of it. `pauseScript a d` pauses before round `a + 2` and un-pauses before round `a + d + 3`:
exactly the scripts the monitor `C11lossless` judges. -/

/-- `runHistory` is a prefix of the never-stopping history: its `n`-th round, when it has one, is `histRoundAt … n` -/
theorem history_is_prefix_of_trajectory (h : Hashing) (script : Script) (fuel : Nat) (i : SyncIn) (plan : List Fault) (n : Nat)
    (hr : HistRound) (hg : (runHistory h script fuel 1 0 i plan)[n]? = some hr) : hr = histRoundAt h script 1 plan i n :=
  runHistory_get h script fuel 1 0 i plan n hr hg

theorem pauseScript_is_interval (a d : Nat) : pauseInterval (pauseScript a d) = some (a + 2, a + d + 3) :=
  pauseScript_interval a d

/-- **C11, lossless, on whole histories**: a history with one pause interval IS the never-paused history with `d + 1` idle
    rounds spliced in — (1) up to the pause its worlds are those of the never-paused run; (2) every round of the pause is
    silent and shows the revisions and the status the never-paused run had at that point; (3) from the un-pause on, round for
    round, the observation (outcome, writes, pods, revisions, status) and the next world are those of the never-paused run
    from the round in which the pause began. Hence the same final state, reached after the same number of working rounds.
    Hypotheses: the set is not paused to begin with; pod names are distinct in the world the pause finds. -/
theorem pause_interval_trajectory (h : Hashing) (plan : List Fault) (i : SyncIn) (a d : Nat) (hnp : i.paused = false)
    (hn : ((worldFrom h [] 1 plan i (a + 1)).pods.map (·.name)).Nodup) :
    (∀ n, n ≤ a + 1 → worldFrom h (pauseScript a d) 1 plan i n = worldFrom h [] 1 plan i n) ∧
    (∀ k, k ≤ d →
      (histRoundAt h (pauseScript a d) 1 plan i (a + 1 + k)).obs.writes = 0 ∧
      (histRoundAt h (pauseScript a d) 1 plan i (a + 1 + k)).obs.out = "ok" ∧
      (histRoundAt h (pauseScript a d) 1 plan i (a + 1 + k)).obs.revs = (worldFrom h [] 1 plan i (a + 1)).store ∧
      (histRoundAt h (pauseScript a d) 1 plan i (a + 1 + k)).obs.status = (worldFrom h [] 1 plan i (a + 1)).stored) ∧
    (∀ m, (histRoundAt h (pauseScript a d) 1 plan i (a + d + 2 + m)).obs = (histRoundAt h [] 1 plan i (a + 1 + m)).obs ∧
          worldFrom h (pauseScript a d) 1 plan i (a + d + 2 + m + 1) = worldFrom h [] 1 plan i (a + 1 + m + 1)) :=
  ⟨pause_before h plan i a d, pause_rounds' h plan i a d (settle_names_nodup _ hn), pause_after' h plan i a d hnp (settle_names_nodup _ hn)⟩

/-- **C11.pausedsilent, the monitor, is true on the model** — for every hashing, script, budget, initial world and fault
    plan: `observeHist` is what the driver prints of a history (the edits, the spec state after them, the round
    observation); the predicate is the one the driver evaluates on the real code's observation -/
theorem C11_pausedsilent_monitor_true_on_model (h : Hashing) (script : Script) (fuel : Nat) (i : SyncIn) (plan : List Fault) :
    C11pausedSilent i (observeHist (runHistory h script fuel 1 0 i plan)) = true :=
  pausedSilentFrom_runHistory h script fuel 1 0 i plan (specOfWorld i) none rfl (fun _ hp => by cases hp)

/-! ## (c) C02: convergence from the world the last edit produced -/

/-- once the script is exhausted a history is a plain run: the observations of `runHistory` from a round after the last
    edit are those of `runRounds` -/
theorem history_after_script (h : Hashing) (script : Script) (fuel j silent : Nat) (i : SyncIn) (plan : List Fault)
    (hs : ∀ e ∈ script, e.1 < j) :
    (runHistory h script fuel j silent i plan).map (·.obs) = runRounds h fuel silent i plan :=
  runHistory_past h script fuel j silent i plan hs

/-- without a script the `worldedit` model is the `world` model -/
theorem history_without_edits (h : Hashing) (fuel : Nat) (i : SyncIn) (plan : List Fault) :
    (runHistory h [] fuel 1 0 i plan).map (·.obs) = runRounds h fuel 0 i plan :=
  runHistory_nil h fuel 1 0 i plan

/-- **C02 after the last edit**: in the round `j` of the last edits (no edit of the script lies after it) the history becomes
    the plain run of the world `W` those edits produced, and if `W` is inside the premises of C02 (`wfWorld`, the monitor's
    premise, and `extraMB`, see `Props/C02.lean`) that run reaches `Final` — the desired ordinals, each Running and Ready at
    the revision its ordinal calls for, after which nothing is written — within `roundBound W` rounds -/
theorem C02_after_last_edit (h : Hashing) (script : Script) (fuel j silent : Nat) (i : SyncIn) (plan : List Fault)
    (hs : ∀ e ∈ script, e.1 ≤ j)
    (hw : wfWorld h (applyEdits (editsAt script j) i) = true) (hx : extraMB h (applyEdits (editsAt script j) i) = true) :
    (runHistory h script fuel j silent i plan).map (·.obs) =
      runRounds h fuel (if (editsAt script j).isEmpty then silent else 0) (applyEdits (editsAt script j) i) plan ∧
    ∃ n ≤ roundBound (applyEdits (editsAt script j) i), Final h (roundsN h n (applyEdits (editsAt script j) i)) :=
  ⟨runHistory_last h script fuel j silent i plan hs, Asts.C02.C02_converges h _ hw hx⟩

/-! ## the monitors of the `worldedit` engine, true on the model

`observeHist (runHistory h script fuel 1 0 i plan)` is what the driver prints of the model's history; each predicate below is
the one the driver evaluates on the real code's observation. Hypotheses are spelled out at each theorem; where a hypothesis
is an invariant of the model's run that is assumed, not derived (pod names stay distinct along a run — derived, for the empty
fault plan, in the last section — and fewer than `freshId` pod objects) the theorem is named `…_partial`. -/

/-! ### C08.revert -/

/-- **C08.revert, the monitor, is true on the model** — every hashing, script, budget, fault plan and every initial world
    whose stored revisions have distinct names (the monitor looks revisions up by name; one API namespace) -/
theorem C08_revert_monitor_true_on_model (h : Hashing) (script : Script) (fuel : Nat) (i : SyncIn) (plan : List Fault)
    (hn : (i.store.map (·.name)).Nodup) :
    C08revert h i (observeHist (runHistory h script fuel 1 0 i plan)) = true :=
  C08revert_model h script fuel i plan hn

/-- the clause on one round: world `W` after a template edit, not paused, selector in order, a visible stored revision
    records the template under a compatible hash label, the round succeeds -/
theorem C08_revert_round (h : Hashing) (W : SyncIn) (p : List Fault) (hn : (W.store.map (·.name)).Nodup)
    (hnp : W.paused = false) (hsel : W.selectorOk = true) (hok : (round h W p).2.out = "ok")
    (held : W.store.any (fun q => visibleRev q && q.data == W.template &&
      hashCompat q.hashNum (h.hashNumOf W.template (W.collisionCount.getD 0))) = true) :
    ((round h W p).2.revs.all (fun x => W.store.any (·.name == x.name)) &&
     (round h W p).2.revs.any (fun u => u.name == (round h W p).2.status.updateRev && u.data == W.template &&
       ((round h W p).2.revs.filter visibleRev).all (fun v => v.number ≤ u.number) &&
       (W.store.any (fun q => q.name == u.name && q.number == u.number) ||
        ((round h W p).2.revs.filter visibleRev).all (fun v => v.name == u.name || v.number < u.number)))) = true :=
  revert_step h W p hn hnp hsel hok held

/-! ### C08.norestart

The invariant `Inv W` (`Proofs/WE_Inv.lean`): stored revisions have distinct names and are all visible to the set, and the
revision `status.updateRevision` names records the template and is the newest of the store. -/

/-- a successful reconcile of the un-paused set establishes the invariant, whatever was edited before it -/
theorem C08_invariant_established {h : Hashing} (hnum : ∀ d c, h.hashNumOf d c = none) (W : SyncIn) (p : List Fault)
    (hn : (W.store.map (·.name)).Nodup) (hv : AllVis W.store)
    (hrun : (W.paused || !W.selectorOk) = false) (hok : (round h W p).2.out = "ok") : Inv (round h W p).1 :=
  inv_established hnum W p hn hv hrun hok

/-- a round that follows edits other than a template edit preserves it, whatever its outcome -/
theorem C08_invariant_preserved {h : Hashing} (hnum : ∀ d c, h.hashNumOf d c = none) (W : SyncIn) (es : List Edit)
    (p : List Fault) (hes : ∀ e ∈ es, keepsTemplate e = true) (hI : Inv W) : Inv (round h (applyEdits es W) p).1 :=
  inv_preserved hnum W es p hes hI

/-- the status half on one round, from a pinned world (no hypothesis on the hashing): whatever the pods, the fault plan and
    the outcome, `status.updateRevision` stays -/
theorem C08_norestart_status_round (h : Hashing) (W : SyncIn) (es : List Edit) (p : List Fault)
    (hes : ∀ e ∈ es, keepsTemplate e = true) (hpin : Pinned h p W) :
    (round h (applyEdits es W) p).2.status.updateRev = W.stored.updateRev :=
  norestart_status_step h W es p hes hpin

/-- the pods half on one round: a live pod of the (new) desired set at the revision `status.updateRevision` names is still
    there, not terminating, after the round -/
theorem C08_norestart_pods_round {h : Hashing} (hnum : ∀ d c, h.hashNumOf d c = none) (W : SyncIn) (es : List Edit)
    (p : List Fault) (hes : ∀ e ∈ es, keepsTemplate e = true) (hI : Inv W) (hlen : W.pods.length ≤ freshId)
    (c : CPod) (hc : c ∈ W.pods) (hterm : c.pod.terminating = false) (hf : c.pod.failed = false)
    (hs : c.pod.succeeded = false) (hrev : c.pod.rev = W.stored.updateRev)
    (hD : c.pod.ord ∈ desired ((applyEdits es W).view.replicas.getD 0) (applyEdits es W).view.slots) :
    ∃ q ∈ (round h (applyEdits es W) p).1.pods, q.name = c.name ∧ q.pod.terminating = false :=
  norestart_pods_step hnum W es p hes hI hlen c hc hterm hf hs hrev hD

/-- **C08.norestart, the monitor, is true on the model.** `_partial`: the statement for every input is false (a stored
    revision whose hash label contradicts the computed one makes the update revision move without any edit:
    `Props/C02.lean`, `equalRevision_not_transitive_quiet_not_final`), so a premise on the labels is needed; the one used
    here, `hnum` (labels never parse as numbers: the real label is ten characters of a vowel-free alphanumeric alphabet),
    is sufficient, not the weakest. Also assumed: stored revisions have distinct names and are ALL visible to the set
    (no revision of another controller, none without selector labels and marker — such a revision can squat on a probed
    name), and no world of the history holds more than `freshId` = 10^6 pod objects (ids are positions). -/
theorem C08_norestart_monitor_true_on_model_partial (h : Hashing) (script : Script) (fuel : Nat) (i : SyncIn)
    (plan : List Fault) (hnum : ∀ d c, h.hashNumOf d c = none) (hn : (i.store.map (·.name)).Nodup)
    (hv : AllVis i.store) (hsize : ∀ k, (worldFrom h script 1 plan i k).pods.length ≤ freshId) :
    C08noRestart i (observeHist (runHistory h script fuel 1 0 i plan)) = true :=
  C08noRestart_model h script fuel i plan hnum hn hv hsize

/-! ### a silent reconcile changes nothing -/

/-- a sync under the empty fault plan whose log holds no write and that ends `.ok` leaves the revision store as it was,
    writes no status and records no pod-control call -/
theorem silent_sync_changes_nothing (h : Hashing) (i : SyncIn) (hg : i.fresh.gone = false)
    (hok : (syncF h i []).outcome = .ok) (hq : ∀ e ∈ (syncF h i []).log, isWrite e = false) :
    (syncF h i []).store = i.store ∧ (syncF h i []).status = none ∧ (syncF h i []).acts = [] :=
  silent_sync h i hg hok hq

/-- **a silent successful round is a fixed point**: the world after it is the settled world, and every later round shows
    the same observation and leaves the same world -/
theorem silent_round_is_fixed_point (h : Hashing) (W : SyncIn) (hv : ViewInStep W) (hn : (W.pods.map (·.name)).Nodup)
    (hs : silentOk (round h W []).2 = true) :
    (round h W []).1 = settle W ∧ round h (round h W []).1 [] = round h W [] :=
  ⟨silent_round_fix h W hv (settle_names_nodup W hn) hs, silent_round_repeats h W hv (settle_names_nodup W hn) hs⟩

/-! ### C11.lossless -/

/-- **C11.lossless, the monitor, is true on the model** for every script (`ref` is the model's own never-paused run, as in
    the driver). When the script is one pause interval, `pauseInterval script = some (a, b)`, the premises are `2 ≤ a` (the
    case format; a pause before round 1 would swallow the fault plan of round 1) and a budget that reaches round `b` (if the
    budget ends inside the pause the predicate is false on the model too). `_partial`: the hypothesis that pod names are
    distinct in every world of the never-paused run is assumed (`C11_lossless_monitor_true_on_model` derives it, for the empty
    fault plan, from `wfWorld` and `extraMB`). -/
theorem C11_lossless_monitor_true_on_model_partial (h : Hashing) (plan : List Fault) (i : SyncIn) (script : Script)
    (fuel : Nat) (hnp : i.paused = false) (hnod : ∀ n, ((plainWorld h i plan n).pods.map (·.name)).Nodup)
    (hpi : ∀ a b, pauseInterval script = some (a, b) → 2 ≤ a ∧ b ≤ fuel) :
    C11lossless i script (observeHist (runHistory h script fuel 1 0 i plan)) (runRounds h fuel 0 i plan) = true :=
  C11lossless_model_any h plan i script fuel hnp (fun n => settle_names_nodup _ (hnod n)) hpi

/-- what the proof rests on: the observations of a history with one pause interval are the rounds up to the un-pause
    followed by the plain run of the world the pause found -/
theorem pause_history_is_spliced_run (h : Hashing) (plan : List Fault) (i : SyncIn) (a d fuel : Nat) (hnp : i.paused = false)
    (hnod : ∀ n, ((plainWorld h i plan n).pods.map (·.name)).Nodup) (hfuel : a + d + 2 ≤ fuel) :
    (runHistory h (pauseScript a d) fuel 1 0 i plan).map (·.obs) =
      ((List.range (a + d + 2)).map (histRoundAt h (pauseScript a d) 1 plan i)).map (·.obs) ++
        runRounds h (fuel - (a + d + 2)) 0 (plainWorld h i plan (a + 1)) [] :=
  pause_history_obs h plan i a d fuel hnp (fun n => settle_names_nodup _ (hnod n)) hfuel

/-! ### C02: from `Final` within the bound to the Boolean monitor, and C02.afteredits -/

/-- **the monitor `C02converges` is true on the model's run** (the clause `C02.converges` of the `world` engine, empty fault
    plan): world inside `wfWorld` and `extraMB`, budget at least `roundBound + 2`. This is the step from `C02_converges`
    (`∃ n ≤ roundBound, Final`) to the Boolean the driver evaluates on the list `runRounds` returns; it needs that a run
    which has gone quiet is in its final state, which follows from `silent_round_is_fixed_point`. `_partial`: pod names
    distinct along the run is assumed (`C02converges_monitor_true_on_model` derives it from `wfWorld` and `extraMB`). -/
theorem C02converges_monitor_true_on_model_partial (h : Hashing) (W : SyncIn) (fuel : Nat)
    (hw : wfWorld h W = true) (hx : extraMB h W = true) (hv : ViewInStep W)
    (hnod : ∀ n, ((roundsN h n W).pods.map (·.name)).Nodup) (hfuel : roundBound W + 2 ≤ fuel) :
    C02converges h W (runRounds h fuel 0 W []) = true :=
  C02converges_run h W fuel (fun n => settle_names_nodup _ (hnod n)) (Asts.C02.C02_converges h W hw hx) hfuel

/-- **C02.afteredits, the monitor, is true on the model — histories with edits.** The last edits of the script are made
    before round `k + 2`; `W` is the world they produce; `settle W` is inside `wfWorld` and `extraMB`; the budget covers the
    `k + 1` rounds before, `roundBound (settle W)` and 2 more. `_partial`: distinct pod names in `W` and along the run from
    `settle W` are assumed. -/
theorem C02_afteredits_monitor_true_on_model_partial (h : Hashing) (script : Script) (fuel : Nat) (i : SyncIn)
    (plan : List Fault) (k : Nat) (hlast : ∀ e ∈ script, e.1 ≤ k + 2) (hed : (editsAt script (k + 2)).isEmpty = false)
    (hw : wfWorld h (settle (wAt h script plan i (k + 1))) = true)
    (hx : extraMB h (settle (wAt h script plan i (k + 1))) = true)
    (hnW : ((wAt h script plan i (k + 1)).pods.map (·.name)).Nodup)
    (hnod : ∀ n, ((roundsN h n (settle (wAt h script plan i (k + 1)))).pods.map (·.name)).Nodup)
    (hfuel : k + 1 + roundBound (settle (wAt h script plan i (k + 1))) + 2 ≤ fuel) :
    C02afterEdits h i (observeHist (runHistory h script fuel 1 0 i plan)) = true :=
  C02afterEdits_model_edits h script fuel i plan k hlast hed (settle_names_nodup _ hnW)
    (fun n => settle_names_nodup _ (hnod n)) (Asts.C02.C02_converges h _ hw hx) hfuel

/-- … and histories without edits (empty script, empty fault plan) -/
theorem C02_afteredits_monitor_true_on_model_noedits_partial (h : Hashing) (fuel : Nat) (i : SyncIn)
    (hw : wfWorld h i = true) (hx : extraMB h i = true) (hv : ViewInStep i)
    (hnod : ∀ n, ((roundsN h n i).pods.map (·.name)).Nodup) (hfuel : roundBound i + 2 ≤ fuel) :
    C02afterEdits h i (observeHist (runHistory h [] fuel 1 0 i [])) = true :=
  C02afterEdits_model_noedits h fuel i (fun n => settle_names_nodup _ (hnod n)) (Asts.C02.C02_converges h i hw hx) hfuel

/-- the world the monitor rebuilds from the observation at a round with edits IS the model's world of that round -/
theorem monitor_world_is_model_world (h : Hashing) (script : Script) (plan : List Fault) (i : SyncIn) (fuel k : Nat)
    (hk : k + 1 < (runHistory h script fuel 1 0 i plan).length)
    (hed : (histRoundAt h script 1 plan i (k + 1)).edits.isEmpty = false) :
    worldAtEdit i (observeHist (runHistory h script fuel 1 0 i plan)) (k + 1) = wAt h script plan i (k + 1) :=
  worldAtEdit_eq h script plan i fuel k hk hed

/-! ## pod names stay distinct along a run, and the monitor theorems without that hypothesis

A round reads a world only through `settle`; the invariant is about the settled form of every world of the run, which is all
the proofs need (distinct names of a world, the hypothesis of the `…_partial` theorems, give distinct names of its settled
form: `settle_names_nodup`). -/

/-- **pod names are pairwise distinct in every (settled) world of the run**, from `wfWorld` and `extraMB` of the initial world
    alone — members canonically named, one member per ordinal, no non-member under the canonical name of a desired ordinal,
    distinct names to begin with: creates happen only at vacant desired ordinals, deletes and `settle` only remove, adoption,
    release and identity updates keep names. (The convergence proof of `Props/C02.lean` carries exactly this through every
    round: `Stg.pre.podNames` under `stg_rounds`.) -/
theorem pod_names_distinct_along_run (h : Hashing) (i : SyncIn) (hw : wfWorld h i = true) (hx : extraMB h i = true) :
    ∀ n, ((settle (roundsN h n i)).pods.map (·.name)).Nodup :=
  Asts.WE.pod_names_distinct_along_run h i hw hx

/-- edits of the set never touch a pod object: the worlds of a history have the pod objects the rounds left -/
theorem edits_keep_pods (es : List Edit) (i : SyncIn) : (applyEdits es i).pods = i.pods := (applyEdits_frame es i).pods

/-- **a silent successful round leaves the settled world** — whatever the world's derived field was; distinct names of the
    settled form only -/
theorem silent_round_leaves_settled_world (h : Hashing) (W : SyncIn) (hn : ((settle W).pods.map (·.name)).Nodup)
    (hs : silentOk (round h W []).2 = true) : (round h W []).1 = nrm W ∧ settle (nrm W) = nrm W :=
  ⟨silent_round_world h W hn hs, settle_nrm W hn⟩

/-- **`C02converges`, the monitor of the `world` engine, is true on the model's run**: world inside `wfWorld` and `extraMB`,
    budget at least `roundBound + 2`. No other hypothesis. -/
theorem C02converges_monitor_true_on_model (h : Hashing) (W : SyncIn) (fuel : Nat)
    (hw : wfWorld h W = true) (hx : extraMB h W = true) (hfuel : roundBound W + 2 ≤ fuel) :
    C02converges h W (runRounds h fuel 0 W []) = true :=
  C02converges_run h W fuel (Asts.WE.pod_names_distinct_along_run h W hw hx) (Asts.C02.C02_converges h W hw hx) hfuel

/-- **C02.afteredits, the monitor, is true on the model — histories with edits**: the last edits of the script are made
    before round `k + 2`; the world they produce, settled, is inside `wfWorld` and `extraMB`; the budget covers the `k + 1`
    rounds before, the bound of that world and 2 more. No other hypothesis. -/
theorem C02_afteredits_monitor_true_on_model (h : Hashing) (script : Script) (fuel : Nat) (i : SyncIn)
    (plan : List Fault) (k : Nat) (hlast : ∀ e ∈ script, e.1 ≤ k + 2) (hed : (editsAt script (k + 2)).isEmpty = false)
    (hw : wfWorld h (settle (wAt h script plan i (k + 1))) = true)
    (hx : extraMB h (settle (wAt h script plan i (k + 1))) = true)
    (hfuel : k + 1 + roundBound (settle (wAt h script plan i (k + 1))) + 2 ≤ fuel) :
    C02afterEdits h i (observeHist (runHistory h script fuel 1 0 i plan)) = true :=
  C02afterEdits_model_edits h script fuel i plan k hlast hed (extraMB_podNames hx)
    (Asts.WE.pod_names_distinct_along_run h _ hw hx) (Asts.C02.C02_converges h _ hw hx) hfuel

/-- … and histories without edits (empty script, empty fault plan) -/
theorem C02_afteredits_monitor_true_on_model_noedits (h : Hashing) (fuel : Nat) (i : SyncIn)
    (hw : wfWorld h i = true) (hx : extraMB h i = true) (hfuel : roundBound i + 2 ≤ fuel) :
    C02afterEdits h i (observeHist (runHistory h [] fuel 1 0 i [])) = true :=
  C02afterEdits_model_noedits h fuel i (Asts.WE.pod_names_distinct_along_run h i hw hx) (Asts.C02.C02_converges h i hw hx) hfuel

/-- **C11.lossless, the monitor, is true on the model** (empty fault plan): initial world inside `wfWorld` and `extraMB`;
    when the script is one pause interval `(a, b)`: `2 ≤ a` (the case format) and a budget that reaches round `b`. No other
    hypothesis. -/
theorem C11_lossless_monitor_true_on_model (h : Hashing) (i : SyncIn) (script : Script) (fuel : Nat)
    (hw : wfWorld h i = true) (hx : extraMB h i = true)
    (hpi : ∀ a b, pauseInterval script = some (a, b) → 2 ≤ a ∧ b ≤ fuel) :
    C11lossless i script (observeHist (runHistory h script fuel 1 0 i [])) (runRounds h fuel 0 i []) = true :=
  C11lossless_model_any h [] i script fuel (wfWorld_not_paused hw) (plainWorld_names h i hw hx) hpi

/-- the same with a fault plan in round 1 (where `wfWorld` / `extraMB` say nothing about the worlds a faulted round leaves):
    `_partial` — distinct pod names in the settled worlds of the never-paused run are assumed -/
theorem C11_lossless_monitor_true_on_model_faulted_partial (h : Hashing) (plan : List Fault) (i : SyncIn) (script : Script)
    (fuel : Nat) (hnp : i.paused = false) (hnod : ∀ n, ((settle (plainWorld h i plan n)).pods.map (·.name)).Nodup)
    (hpi : ∀ a b, pauseInterval script = some (a, b) → 2 ≤ a ∧ b ≤ fuel) :
    C11lossless i script (observeHist (runHistory h script fuel 1 0 i plan)) (runRounds h fuel 0 i plan) = true :=
  C11lossless_model_any h plan i script fuel hnp hnod hpi

/-! ## non-vacuity -/

private def exH : Hashing := { nameOf := fun d c => s!"web-{d}{c}", hashNumOf := fun _ _ => none }
private def exPod (id : Nat) (ord : Int) (rev : String) : CPod :=
  { name := s!"web-{ord}", owner := .self, selMatch := true, member := true,
    pod := { id := id, ord := ord, phase := .running, ready := true, terminating := false, rev := rev, idOk := true, stOk := true } }
/-- replicas 2 with one pod at an old revision: work is pending when the pause begins -/
private def exW : SyncIn :=
  { setName := "web", paused := false, selectorOk := true
    view := { replicas := some 2, slots := [], parallel := false, strat := .rolling, ru := some (some 0), deleting := false,
              generation := 2, stCurrentReplicas := 1 }
    stored := { replicas := 1, ready := 1, current := 1, updated := 0, currentRev := "web-a0", updateRev := "web-a0", observedGen := 1 }
    collisionCount := none, historyLimit := some 2, template := "b"
    fresh := { gone := false, uidOk := true, deleting := false }
    store := [{ name := "web-a0", number := 1, ctime := 0, data := "a", hashNum := none, owner := .self, selMatch := true, marker := false }]
    pods := [exPod 0 0 "web-a0"] }

example : ViewInStep exW ∧ (exW.pods.map (·.name)).Nodup ∧ exW.paused = false := ⟨rfl, by decide, rfl⟩
/-- the paused rounds write nothing although a revision, a pod and a status are due … -/
example : (round exH (pausedFor exH [] 1 exW) []).2.writes = 0 := by decide +kernel
/-- … and the round after the un-pause does that work -/
example : (round exH (applyEdit (.pause false) (pausedFor exH [] 2 exW)) []).2.writes = 3 := by decide +kernel
/-- the script of `pause_interval_trajectory` is one the monitor `C11lossless` judges (pause before round 2, un-pause before 4) -/
example : pauseInterval (pauseScript 0 1) = some (2, 4) := by decide
/-- the premises of `C08_norestart_monitor_true_on_model_partial` and `C08_revert_monitor_true_on_model` hold of the example
    world: no numeric labels, distinct names, every revision visible -/
example : (∀ d c, exH.hashNumOf d c = none) ∧ (exW.store.map (·.name)).Nodup ∧ AllVis exW.store :=
  ⟨fun _ _ => rfl, by decide, by unfold AllVis; decide⟩
/-- a scaling edit and a template edit, told apart -/
example : scalingOnly (.replicas 3) = true ∧ scalingOnly (.slots (some [1])) = true ∧ scalingOnly (.template "c") = false := by decide
end Asts.WorldEdits
