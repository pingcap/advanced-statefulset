import Asts.Proofs.L1_a_SlotK
import Mathlib.Tactic

/-! # `Prop` reading of C03 on the model's own action list (with the delete reason visible) -/
namespace Asts
open List

/-- C03 read as a proposition: every delete targets a pod of the snapshot that is outside the desired set, or Failed /
    Succeeded, or (strategy ≠ OnDelete) at or above the partition with a revision other than the update revision —
    or the object this same reconcile created earlier at that ordinal with a revision other than the update revision. -/
theorem C03_reading (v : SetView) (cur upd : String) (pods : List Pod) (f : Faults) {o : Int} {id : Nat} {why : Why}
    (h : Action.delete o id why ∈ (updateStatefulSet v cur upd pods f).1.acts) :
    (∃ p ∈ pods, p.id = id ∧ p.ord = o ∧
        ((why = .scaleDown ∧ o ∉ desired (replicasOf v) v.slots) ∨
         (why = .replaceFailed ∧ (p.failed = true ∨ p.succeeded = true)) ∨
         (why = .update ∧ v.strat ≠ .onDelete ∧ partOf v ≤ o ∧ p.rev ≠ upd ∧ p.terminating = false))) ∨
    (why = .update ∧ id = freshId + o.toNat ∧ v.strat ≠ .onDelete ∧ partOf v ≤ o ∧
        ∃ rev, rev ≠ upd ∧ Action.create o rev ∈ (updateStatefulSet v cur upd pods f).1.acts) := by
  obtain ⟨pre, post, hl⟩ := List.append_of_mem h
  have hJ := (uss_seg v cur upd pods f).at hl
  cases why with
  | scaleDown =>
    obtain ⟨p, hp, hid, hord, hnD⟩ := hJ
    exact Or.inl ⟨p, hp, hid, hord, Or.inl ⟨rfl, hnD⟩⟩
  | replaceFailed =>
    obtain ⟨⟨p, hp, hid, hord, -, hfs⟩, -⟩ := hJ
    exact Or.inl ⟨p, hp, hid, hord, Or.inr (Or.inl ⟨rfl, by simpa using hfs⟩)⟩
  | update =>
    obtain ⟨hs, hpart, -, hcases⟩ := hJ
    rcases hcases with ⟨p, hp, hid, hord, hrev, hterm, -⟩ | ⟨hid, rev, hrev, hmem⟩
    · exact Or.inl ⟨p, hp, hid, hord, Or.inr (Or.inr ⟨rfl, hs, hpart, hrev, hterm⟩)⟩
    · refine Or.inr ⟨rfl, hid, hs, hpart, rev, hrev, ?_⟩
      rw [hl]; simp only [List.nil_append] at hmem
      exact List.mem_append_left _ hmem

theorem eq_of_id_eq {pods : List Pod} (hnd : (pods.map Pod.id).Nodup) {p q : Pod} (hp : p ∈ pods) (hq : q ∈ pods)
    (h : p.id = q.id) : p = q := by
  have h1 := podById_of_mem hnd hp
  have h2 := podById_of_mem hnd hq
  rw [h, h2] at h1
  exact (Option.some.inj h1).symm

/-- **A live pod of the desired set that is up to date is never deleted, whatever else is going on**: not Failed, not
    Succeeded, ordinal in the desired set, and (at the update revision, or strategy OnDelete, or below the partition). -/
theorem live_uptodate_never_deleted (v : SetView) (cur upd : String) (pods : List Pod) (f : Faults) (hids : IdsOk pods)
    {p : Pod} (hp : p ∈ pods) (hD : p.ord ∈ desired (replicasOf v) v.slots)
    (hlive : p.failed = false ∧ p.succeeded = false)
    (hup : p.rev = upd ∨ v.strat = .onDelete ∨ p.ord < partOf v) (o : Int) (why : Why) :
    Action.delete o p.id why ∉ (updateStatefulSet v cur upd pods f).1.acts := by
  intro hm
  rcases C03_reading v cur upd pods f hm with ⟨q, hq, hid, hord, hcases⟩ | ⟨-, hid, -⟩
  · have hqp : q = p := eq_of_id_eq hids.nodup hq hp hid
    subst hqp
    rcases hcases with ⟨-, hnD⟩ | ⟨-, hfs⟩ | ⟨-, hs, hpart, hrev, -⟩
    · rw [← hord] at hnD; exact hnD hD
    · rcases hfs with h | h
      · rw [hlive.1] at h; cases h
      · rw [hlive.2] at h; cases h
    · rcases hup with h | h | h
      · exact hrev h
      · exact hs h
      · omega
  · have := hids.small p hp
    omega

end Asts
