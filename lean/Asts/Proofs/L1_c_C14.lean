import Asts.Proofs.Rc_Prep
import Asts.Proofs.Rc_NoPanic
import Asts.Proofs.Desired

/-! C14: under the Parallel policy and without API errors one reconcile issues every creation and every scale-in deletion. -/
namespace Asts.L1c

/-! ### the parallel, fault-free run, action by action -/

def repActs1 (v : SetView) (cur upd : String) (iq : Int × Pod) : List Action :=
  if iq.2.fs then [.delete iq.1 iq.2.id .replaceFailed, .create iq.1 (newPod v cur upd iq.1).rev]
  else if !iq.2.created then [.create iq.1 iq.2.rev]
  else if iq.2.idOk && iq.2.stOk then [] else [.update iq.1]

def repNew (v : SetView) (cur upd : String) (iq : Int × Pod) : Int × Pod :=
  (iq.1, if iq.2.fs then newPod v cur upd iq.1 else iq.2)

def condActs (cs : List Pod) : List Action :=
  (cs.filter (fun c => !c.terminating)).map (fun c => .delete c.ord c.id .scaleDown)


theorem replicaStep_par (v : SetView) (cur upd : String) (s : St) (i : Int) (q : Pod) :
    ∃ s', replicaStep v cur upd [] false s i q = (.next s', (repNew v cur upd (i, q)).2) ∧
      s'.acts = s.acts ++ repActs1 v cur upd (i, q) := by
  unfold repActs1 repNew
  cases hfs : q.fs
  · rw [replicaStep_keep _ _ _ _ _ _ _ hfs]
    simp only [hfs, Bool.false_eq_true, if_false]
    cases hc : q.created
    · rw [ensurePod_vacant _ _ _ _ _ _ hc]
      exact ⟨_, rfl, rfl⟩
    · rw [ensurePod_created _ _ _ _ _ _ hc, Bool.and_false]
      cases q.idOk && q.stOk
      · exact ⟨_, rfl, rfl⟩
      · exact ⟨_, rfl, (List.append_nil _).symm⟩
  · rw [replicaStep_replace _ _ _ _ _ _ _ hfs, ensurePod_vacant _ _ _ _ _ _ (newPod_created ..)]
    simp only [hfs, if_true]
    exact ⟨_, rfl, List.append_assoc ..⟩

theorem replicaLoop_par (v : SetView) (cur upd : String) (reps : List (Int × Pod)) (s : St) :
    ∃ s', replicaLoop v cur upd [] false s reps = (.next s', reps.map (repNew v cur upd)) ∧
      s'.acts = s.acts ++ reps.flatMap (repActs1 v cur upd) := by
  induction reps generalizing s with
  | nil => exact ⟨s, rfl, (List.append_nil _).symm⟩
  | cons iq rest ih =>
    obtain ⟨i, q⟩ := iq
    obtain ⟨s1, h1, h2⟩ := replicaStep_par v cur upd s i q
    obtain ⟨s2, h3, h4⟩ := ih s1
    refine ⟨s2, ?_, ?_⟩
    · rw [replicaLoop, h1]; simp only; rw [h3]; rfl
    · rw [h4, h2, List.flatMap_cons, List.append_assoc]

theorem condemnedLoop_par (cur upd : String) (fu : Option Pod) (cs : List Pod) (s : St) :
    ∃ s', condemnedLoop cur upd [] false fu s cs = .next s' ∧ s'.acts = s.acts ++ condActs cs := by
  induction cs generalizing s with
  | nil => exact ⟨s, rfl, (List.append_nil _).symm⟩
  | cons c rest ih =>
    rcases condemnedLoop_cons cur upd [] false fu s c rest with ⟨h, _⟩ | ⟨_, ht, e⟩ | ⟨_, h, _⟩ | ⟨ht, _, e⟩
    · cases h
    · obtain ⟨s', h1, h2⟩ := ih s
      exact ⟨s', e.trans h1, by rw [h2, condActs, condActs, List.filter_cons_of_neg (by simp [ht])]⟩
    · cases h
    · obtain ⟨s', h1, h2⟩ := ih (stepScale cur upd s c)
      refine ⟨s', e.trans h1, ?_⟩
      rw [h2, condActs, condActs, List.filter_cons_of_pos (by simp [ht])]
      exact List.append_assoc ..

theorem updateStage_par (v : SetView) (cur upd : String) (reps : List (Int × Pod)) (s : St) :
    ∃ s' l, updateStage v cur upd [] reps s = (s', .ok) ∧ s'.acts = s.acts ++ l ∧
      (l = [] ∨ ∃ t q, (t, q) ∈ reps ∧ l = [.delete t q.id .update]) := by
  unfold updateStage
  by_cases hod : (v.strat == StratType.onDelete) = true
  · simp only [hod, if_true]; exact ⟨s, [], rfl, by simp, Or.inl rfl⟩
  · simp only [hod, Bool.false_eq_true, if_false]
    rcases updateWalk_cases cur upd [] (reps.filter (fun ip => partOf v ≤ ip.1)).reverse s with h | ⟨pre, t, q, post, e, _, _, _, h⟩
    · rw [h]; exact ⟨s, [], rfl, by simp, Or.inl rfl⟩
    · rw [h]
      simp only [hit_nil, Bool.false_eq_true, if_false]
      exact ⟨_, [.delete t q.id .update], rfl, rfl,
        Or.inr ⟨t, q, (List.mem_filter.1 (List.mem_reverse.1
          (e ▸ List.mem_append_right _ List.mem_cons_self))).1, rfl⟩⟩

theorem runLoops_par (v : SetView) (cur upd : String) (p : Prepared) (hpar : v.parallel = true) :
    ∃ s l, runLoops v cur upd [] p = (s, .ok) ∧
      s.acts = p.reps.flatMap (repActs1 v cur upd) ++ condActs p.condemned.reverse ++ l ∧
      (l = [] ∨ ∃ t q, (t, q) ∈ p.reps.map (repNew v cur upd) ∧ l = [.delete t q.id .update]) := by
  unfold runLoops
  simp only [hpar, Bool.not_true]
  obtain ⟨s1, h1, h2⟩ := replicaLoop_par v cur upd p.reps { status := p.st0 }
  rw [h1]; simp only
  obtain ⟨s2, h3, h4⟩ := condemnedLoop_par cur upd p.fu p.condemned.reverse s1
  rw [h3]; simp only
  obtain ⟨s3, l, h5, h6, h7⟩ := updateStage_par v cur upd (p.reps.map (repNew v cur upd)) s2
  refine ⟨s3, l, h5, ?_, h7⟩
  rw [h6, h4, h2]; simp

/-- what `wfSnapshot` gives, plus identity of the pod objects (position = id) -/
structure Snap (pods : List Pod) : Prop where
  created : ∀ p ∈ pods, p.created = true
  ordNodup : (pods.map (·.ord)).Nodup
  idpos : ∀ (i : Nat) (p : Pod), pods[i]? = some p → p.id = i
  small : pods.length ≤ freshId

theorem snap_of_wf {pods : List Pod} (hwf : wfSnapshot pods = true)
    (hid : ∀ (i : Nat) (p : Pod), pods[i]? = some p → p.id = i) (hlen : pods.length ≤ freshId) : Snap pods :=
  ⟨(wfSnapshot_spec hwf).1, (wfSnapshot_spec hwf).2, hid, hlen⟩

theorem Snap.id_lt {pods : List Pod} (h : Snap pods) {q : Pod} (hq : q ∈ pods) : q.id < freshId :=
  (ids_of_positions h.idpos h.small).2 q hq

theorem Snap.id_inj {pods : List Pod} (h : Snap pods) {p q : Pod} (hp : p ∈ pods) (hq : q ∈ pods) (he : p.id = q.id) : p = q :=
  (ids_of_positions h.idpos h.small).1 p hp q hq he

/-- `Snap` with the identity of the pod objects in its weaker form: ids identify the pods of the snapshot and are below
    the ids of objects built by the reconcile. Holds for pods numbered by position (`Snap.toI`) and for every sublist of
    such a list — the claimed pods of a sync. The lemmas on deletes below need no more. -/
structure SnapI (pods : List Pod) : Prop where
  created : ∀ p ∈ pods, p.created = true
  ordNodup : (pods.map (·.ord)).Nodup
  idinj : ∀ p ∈ pods, ∀ q ∈ pods, p.id = q.id → p = q
  idlt : ∀ p ∈ pods, p.id < freshId

theorem Snap.toI {pods : List Pod} (h : Snap pods) : SnapI pods :=
  ⟨h.created, h.ordNodup, fun _ hp _ hq he => h.id_inj hp hq he, fun _ hq => h.id_lt hq⟩

theorem snapI_of_wf_ids {pods : List Pod} (hwf : wfSnapshot pods = true)
    (hinj : ∀ p ∈ pods, ∀ q ∈ pods, p.id = q.id → p = q) (hlt : ∀ p ∈ pods, p.id < freshId) : SnapI pods :=
  ⟨(wfSnapshot_spec hwf).1, (wfSnapshot_spec hwf).2, hinj, hlt⟩

theorem SnapI.id_lt {pods : List Pod} (h : SnapI pods) {q : Pod} (hq : q ∈ pods) : q.id < freshId := h.idlt q hq

theorem SnapI.id_inj {pods : List Pod} (h : SnapI pods) {p q : Pod} (hp : p ∈ pods) (hq : q ∈ pods) (he : p.id = q.id) :
    p = q := h.idinj p hp q hq he

theorem filter_ord_length {pods : List Pod} (hnd : (pods.map (·.ord)).Nodup) (o : Int) :
    (pods.filter (fun p => p.ord == o)).length ≤ 1 := by
  induction pods with
  | nil => simp
  | cons p ps ih =>
    rw [List.map_cons, List.nodup_cons] at hnd
    by_cases hp : (p.ord == o) = true
    · rw [List.filter_cons, if_pos hp]
      have : ps.filter (fun p => p.ord == o) = [] := by
        rw [List.filter_eq_nil_iff]
        intro x hx hxo
        apply hnd.1
        rw [List.mem_map]
        exact ⟨x, hx, by rw [beq_iff_eq] at hp hxo; rw [hp, hxo]⟩
      rw [this]; simp
    · rw [List.filter_cons, if_neg hp]; exact ih hnd.2

theorem head?_eq_getLast?_of_length_le_one {α : Type} (l : List α) (h : l.length ≤ 1) : l.head? = l.getLast? := by
  match l, h with
  | [], _ => rfl
  | [a], _ => rfl
  | _ :: _ :: _, h => simp at h

theorem podAt_eq_slotOf {pods : List Pod} (hnd : (pods.map (·.ord)).Nodup) {b : Int} {E : List Int} {o : Int}
    (hr : inRange b E o = true) : podAt pods o = slotOf b E pods o := by
  unfold podAt slotOf
  have hf : pods.filter (fun p => p.ord == o && inRange b E p.ord) = pods.filter (fun p => p.ord == o) := by
    apply List.filter_congr
    intro p _
    by_cases hp : (p.ord == o) = true
    · have : p.ord = o := by simpa using hp
      simp [this, hr]
    · simp [hp]
  rw [hf, ← List.head?_filter]
  exact head?_eq_getLast?_of_length_le_one _ (filter_ord_length hnd o)

theorem updateDeletes_length_le (D : List Int) (pods : List Pod) (a : List OAct) :
    (updateDeletes D pods a).length ≤ a.length := by
  unfold updateDeletes; exact List.length_filterMap_le _ _

/-- the monitors' lists of a run, action by action -/
theorem scaleDeletes_cons (D : List Int) (pods : List Pod) (a : Action) (l : List Action) :
    scaleDeletes D pods (observe (a :: l)) = scaleDeletes D pods (observe [a]) ++ scaleDeletes D pods (observe l) :=
  scaleDeletes_append D pods (observe [a]) (observe l)
theorem updateDeletes_cons (D : List Int) (pods : List Pod) (a : Action) (l : List Action) :
    updateDeletes D pods (observe (a :: l)) = updateDeletes D pods (observe [a]) ++ updateDeletes D pods (observe l) :=
  updateDeletes_append D pods (observe [a]) (observe l)

/-- what the monitors make of a single delete, given its class -/
theorem deletes_delete (D : List Int) (pods : List Pod) (o : Int) (id : Nat) (w : Why) :
    scaleDeletes D pods (observe [.delete o id w]) =
      (if classify D pods (Action.observe (.delete o id w)) == .scale then [o] else []) ∧
    updateDeletes D pods (observe [.delete o id w]) =
      (if classify D pods (Action.observe (.delete o id w)) == .update then [o] else []) := by
  constructor
  · show List.filterMap _ [Action.observe (.delete o id w)] = _
    rw [List.filterMap_cons]
    cases classify D pods (Action.observe (.delete o id w)) <;> rfl
  · show List.filterMap _ [Action.observe (.delete o id w)] = _
    rw [List.filterMap_cons]
    cases classify D pods (Action.observe (.delete o id w)) <;> rfl

/-- creates of one replica step -/
theorem createOrds_repActs1 (v : SetView) (cur upd : String) (iq : Int × Pod) :
    createOrds (observe (repActs1 v cur upd iq)) = if iq.2.fs || !iq.2.created then [iq.1] else [] := by
  unfold repActs1
  cases iq.2.fs
  · cases iq.2.created
    · rfl
    · cases iq.2.idOk && iq.2.stOk <;> rfl
  · rfl

theorem createOrds_repActs (v : SetView) (cur upd : String) (reps : List (Int × Pod)) :
    createOrds (observe (reps.flatMap (repActs1 v cur upd))) =
      (reps.filter (fun iq => iq.2.fs || !iq.2.created)).map (·.1) := by
  induction reps with
  | nil => rfl
  | cons iq rest ih =>
    rw [List.flatMap_cons, observe_append, createOrds_append, ih, createOrds_repActs1, List.filter_cons]
    split_ifs <;> rfl

theorem createOrds_condActs (cs : List Pod) : createOrds (observe (condActs cs)) = [] := by
  unfold condActs observe createOrds
  rw [List.filterMap_eq_nil_iff]
  intro a ha
  simp only [List.map_map, List.mem_map, List.mem_filter, Function.comp] at ha
  obtain ⟨c, _, rfl⟩ := ha
  rfl

/-- deletes of one replica step are classified `.replace` -/
theorem deletes_repActs1 (v : SetView) (cur upd : String) (b : Int) (E : List Int) (pods : List Pod) (hs : SnapI pods)
    (iq : Int × Pod) (hiq : iq ∈ repsOf v cur upd b E pods) :
    scaleDeletes (idxOf b E) pods (observe (repActs1 v cur upd iq)) = [] ∧
    updateDeletes (idxOf b E) pods (observe (repActs1 v cur upd iq)) = [] := by
  unfold repActs1
  cases hfs : iq.2.fs
  · rw [if_neg Bool.false_ne_true]
    cases iq.2.created
    · exact ⟨rfl, rfl⟩
    · cases iq.2.idOk && iq.2.stOk <;> exact ⟨rfl, rfl⟩
  · rw [if_pos rfl, scaleDeletes_cons, updateDeletes_cons]
    rcases repsOf_mem hiq with ⟨hm, hr⟩ | ⟨hn, -⟩
    · have hcl := classify_delete_mem (idxOf b E) hs.idinj hs.idlt hm iq.1 .replaceFailed
      rw [contains_idxOf, hr, hfs] at hcl
      obtain ⟨h1, h2⟩ := deletes_delete (idxOf b E) pods iq.1 iq.2.id .replaceFailed
      rw [h1, h2, hcl]
      exact ⟨rfl, rfl⟩
    · have := fs_created hfs
      rw [hn, newPod_created] at this
      cases this

theorem deletes_repActs (v : SetView) (cur upd : String) (b : Int) (E : List Int) (pods : List Pod) (hs : SnapI pods)
    (reps : List (Int × Pod)) (hsub : ∀ iq ∈ reps, iq ∈ repsOf v cur upd b E pods) :
    scaleDeletes (idxOf b E) pods (observe (reps.flatMap (repActs1 v cur upd))) = [] ∧
    updateDeletes (idxOf b E) pods (observe (reps.flatMap (repActs1 v cur upd))) = [] := by
  induction reps with
  | nil => exact ⟨rfl, rfl⟩
  | cons iq rest ih =>
    obtain ⟨h1, h2⟩ := deletes_repActs1 v cur upd b E pods hs iq (hsub iq List.mem_cons_self)
    obtain ⟨h3, h4⟩ := ih (fun x hx => hsub x (List.mem_cons_of_mem _ hx))
    rw [List.flatMap_cons, observe_append, scaleDeletes_append, updateDeletes_append, h1, h2, h3, h4]
    exact ⟨rfl, rfl⟩

/-- deletes of the condemned loop are classified `.scale` -/
theorem deletes_condActs (b : Int) (E : List Int) (pods : List Pod) (hs : SnapI pods)
    (cs : List Pod) (hsub : ∀ c ∈ cs, c ∈ pods ∧ isCondemned b E c.ord = true) :
    scaleDeletes (idxOf b E) pods (observe (condActs cs)) = (cs.filter (fun c => !c.terminating)).map (·.ord) ∧
    updateDeletes (idxOf b E) pods (observe (condActs cs)) = [] := by
  induction cs with
  | nil => exact ⟨rfl, rfl⟩
  | cons c rest ih =>
    obtain ⟨h3, h4⟩ := ih (fun x hx => hsub x (List.mem_cons_of_mem _ hx))
    obtain ⟨hm, hcond⟩ := hsub c List.mem_cons_self
    cases ht : c.terminating
    · have hnr : inRange b E c.ord = false := by
        cases hr : inRange b E c.ord
        · rfl
        · rw [inRange_not_condemned hr] at hcond; cases hcond
      have hcl := classify_delete_mem (idxOf b E) hs.idinj hs.idlt hm c.ord .scaleDown
      rw [contains_idxOf, hnr] at hcl
      obtain ⟨h1, h2⟩ := deletes_delete (idxOf b E) pods c.ord c.id .scaleDown
      rw [condActs, List.filter_cons_of_pos (by rw [ht]; rfl), List.map_cons, scaleDeletes_cons, updateDeletes_cons,
        h1, h2, hcl, ← condActs, h3, h4]
      exact ⟨rfl, rfl⟩
    · rw [condActs, List.filter_cons_of_neg (by rw [ht]; exact Bool.false_ne_true), ← condActs, h3, h4]
      exact ⟨rfl, rfl⟩

/-- the one delete the update walk can add is never classified `.scale` -/
theorem scaleDeletes_walk (v : SetView) (cur upd : String) (b : Int) (E : List Int) (pods : List Pod) (hs : SnapI pods)
    (t : Int) (q : Pod) (hm : (t, q) ∈ (repsOf v cur upd b E pods).map (repNew v cur upd)) :
    scaleDeletes (idxOf b E) pods (observe [.delete t q.id .update]) = [] := by
  have hnew : ∀ i, scaleDeletes (idxOf b E) pods (observe [.delete t (newPod v cur upd i).id .update]) = [] := by
    intro i
    rw [(deletes_delete ..).1, classify_delete_fresh _ _ _ (show freshId ≤ (newPod v cur upd i).id from Nat.le_add_right ..)]
    rfl
  obtain ⟨iq, hiq, heq⟩ := List.mem_map.1 hm
  obtain ⟨rfl, rfl⟩ := Prod.mk.inj heq
  cases hfs : iq.2.fs
  · rw [if_neg Bool.false_ne_true]
    rcases repsOf_mem hiq with ⟨hmem, hr⟩ | ⟨hn, -⟩
    · rw [(deletes_delete ..).1, classify_delete_mem _ hs.idinj hs.idlt hmem, contains_idxOf, hr, hfs]
      rfl
    · rw [hn]; exact hnew _
  · exact hnew _

theorem mergeSort_eq_of_perm {a b : List Int} (h : a.Perm b) : a.mergeSort = b.mergeSort := by
  have tr : ∀ (x y z : Int), decide (x ≤ y) = true → decide (y ≤ z) = true → decide (x ≤ z) = true := by
    intro x y z h1 h2; simp only [decide_eq_true_eq] at *; omega
  have tot : ∀ (x y : Int), (decide (x ≤ y) || decide (y ≤ x)) = true := by
    intro x y; simp only [Bool.or_eq_true, decide_eq_true_eq]; omega
  apply List.Perm.eq_of_pairwise (le := fun x y => decide (x ≤ y) = true)
  · intro x y _ _ h1 h2; simp only [decide_eq_true_eq] at *; omega
  · exact List.pairwise_mergeSort tr tot a
  · exact List.pairwise_mergeSort tr tot b
  · exact (List.mergeSort_perm a _).trans (h.trans (List.mergeSort_perm b _).symm)

theorem C14_of_acts (v : SetView) (cur upd : String) (pods : List Pod) (r : Int) (hr : v.replicas = some r) (h0 : 0 ≤ r)
    (hs : SnapI pods) (l : List Action)
    (hl : l = [] ∨ ∃ t q, (t, q) ∈ (repsOf v cur upd (maxReplicaAndSlots r v.slots).1 (maxReplicaAndSlots r v.slots).2 pods).map
        (repNew v cur upd) ∧ l = [.delete t q.id .update]) :
    C14 v pods (observe ((repsOf v cur upd (maxReplicaAndSlots r v.slots).1 (maxReplicaAndSlots r v.slots).2 pods).flatMap
        (repActs1 v cur upd) ++
      condActs (condemnedOf (maxReplicaAndSlots r v.slots).1 (maxReplicaAndSlots r v.slots).2 pods).reverse ++ l)) = true := by
  obtain ⟨hb0, hE0⟩ := maxReplica_facts r v.slots h0
  generalize hbdef : (maxReplicaAndSlots r v.slots).1 = b at *
  generalize hEdef : (maxReplicaAndSlots r v.slots).2 = E at *
  have hD : desired (replicasOf v) v.slots = idxOf b E := by
    have : replicasOf v = r := by simp [replicasOf, hr]
    rw [this, desired_eq_idxOf r v.slots, hbdef, hEdef]
  obtain ⟨hrs, hru⟩ := deletes_repActs v cur upd b E pods hs (repsOf v cur upd b E pods) (fun _ h => h)
  obtain ⟨hcs, hcu⟩ := deletes_condActs b E pods hs (condemnedOf b E pods).reverse
    (fun c hc => mem_condemnedOf.1 (List.mem_reverse.1 hc))
  have hlc : createOrds (observe l) = [] := by
    rcases hl with rfl | ⟨t, q, _, rfl⟩ <;> rfl
  have hls : scaleDeletes (idxOf b E) pods (observe l) = [] := by
    rcases hl with rfl | ⟨t, q, hm, rfl⟩
    · rfl
    · exact scaleDeletes_walk v cur upd b E pods hs t q hm
  have hlu : (updateDeletes (idxOf b E) pods (observe l)).length ≤ 1 := by
    refine le_trans (updateDeletes_length_le _ _ _) ?_
    rcases hl with rfl | ⟨t, q, _, rfl⟩ <;> simp [observe]
  unfold C14
  simp only [hD]
  simp only [observe_append, createOrds_append, scaleDeletes_append, updateDeletes_append, createOrds_repActs,
    createOrds_condActs, hlc, hrs, hru, hcs, hcu, hls, List.append_nil, List.nil_append]
  simp only [Bool.and_eq_true, beq_iff_eq, decide_eq_true_eq]
  refine ⟨⟨?_, ?_⟩, hlu⟩
  · -- creations
    unfold repsOf
    rw [List.filter_map, List.map_map]
    have : ((fun x : Int × Pod => x.1) ∘ fun i => (i, (slotOf b E pods i).getD (newPod v cur upd i))) = id := rfl
    rw [this, List.map_id]
    apply List.filter_congr
    intro o ho
    have hro := mem_idxOf.1 ho
    rw [podAt_eq_slotOf hs.ordNodup hro]
    simp only [Function.comp]
    cases hso : slotOf b E pods o with
    | none => simp [Pod.fs, newPod, Pod.failed, Pod.succeeded, Pod.created]
    | some p =>
      have := hs.created p (slotOf_some hso).1
      simp [this, Pod.fs]
  · -- scale-in deletions
    apply mergeSort_eq_of_perm
    apply List.Perm.map
    apply List.Perm.filter
    refine (List.reverse_perm _).trans ((condemnedOf_perm b E pods).trans ?_)
    unfold condemnedSpec
    rw [List.filter_congr (fun p _ => isCondemned_eq hb0 hE0 p.ord)]

theorem updateStatefulSet_par' (v : SetView) (cur upd : String) (pods : List Pod) (r : Int)
    (hr : v.replicas = some r) (h0 : 0 ≤ r) (hpar : v.parallel = true) (hdel : v.deleting = false)
    (hs : SnapI pods) :
    (updateStatefulSet v cur upd pods []).2 = .ok ∧
    C14 v pods (observe (updateStatefulSet v cur upd pods []).1.acts) = true := by
  obtain ⟨s, l, h1, h2, h3⟩ := runLoops_par v cur upd (prepOf v cur upd r pods) hpar
  rw [updateStatefulSet_some hr, hdel, if_neg Bool.false_ne_true, h1]
  refine ⟨rfl, ?_⟩
  simp only [h2]
  exact C14_of_acts v cur upd pods r hr h0 hs l h3

/-- the int32 bounds on the replica count and on the ordinals are not needed: the first-unhealthy scan records the
    first unhealthy pod it meets whatever its ordinal (`firstUnhealthy_some'`) -/
theorem updateStatefulSet_par (v : SetView) (cur upd : String) (pods : List Pod) (r : Int)
    (hr : v.replicas = some r) (h0 : 0 ≤ r) (hpar : v.parallel = true) (hdel : v.deleting = false)
    (hs : Snap pods) (_hb : (maxReplicaAndSlots r v.slots).1 ≤ maxInt32) (_hord : ∀ p ∈ pods, p.ord < maxInt32) :
    (updateStatefulSet v cur upd pods []).2 = .ok ∧
    C14 v pods (observe (updateStatefulSet v cur upd pods []).1.acts) = true :=
  updateStatefulSet_par' v cur upd pods r hr h0 hpar hdel hs.toI

end Asts.L1c
