import Asts.Proofs.Desired
import Mathlib.Tactic

/-! # The algebra of user edits on the desired ordinal set

How `desired r S` moves when the user edits `spec.replicas` and the delete-slots annotation one after the other. Two facts
carry everything: `IsDesired` reads the slot list only where it matters (`IsDesired.of_slots`), so the list is a set of
non-negative numbers; and a prefix of a desired list is the desired list of its length (`desired_take`), so scaling never
renumbers. Listing a desired ordinal while decrementing replicas removes exactly it (`desired_cons_erase`); un-listing it
while incrementing replicas brings exactly it back when it lies below the bound and is a plain scale-out when it does not. -/
namespace Asts
open List

/-! ### edits of the slot list -/

/-- `IsDesired` reads the slot list at the members of `O` (none is a slot) and at the non-negative numbers `O` skips
    (each is a slot); it survives any change of the list that keeps these two readings. -/
theorem IsDesired.of_slots {r : Nat} {S T O : List Int} (h : IsDesired r T O)
    (h1 : ∀ o ∈ O, o ∈ S → o ∈ T) (h2 : ∀ n, 0 ≤ n → n ∈ T → n ∈ S) : IsDesired r S O :=
  ⟨h.sorted, h.len, h.nonneg, fun o ho hS => h.noSlot o ho (h1 o ho hS),
   fun o ho n hn0 hno hnS => h.least o ho n hn0 hno (fun hT => hnS (h2 n hn0 hT))⟩

theorem desired_congr (r : Int) (S T : List Int) (hST : ∀ x, x ∈ S ↔ x ∈ T) : desired r S = desired r T :=
  isDesired_unique ((desired_isDesired r S).of_slots (fun o _ => (hST o).2) (fun n _ => (hST n).1))
    (desired_isDesired r T)

/-- only the non-negative slots matter -/
theorem desired_nonneg_slots (r : Int) (S : List Int) : desired r (S.filter (fun s => decide (0 ≤ s))) = desired r S :=
  isDesired_unique (desired_isDesired r _) <| (desired_isDesired r S).of_slots
    (fun _ _ h => (List.mem_filter.1 h).1) (fun _ hn h => List.mem_filter.2 ⟨h, decide_eq_true hn⟩)

/-- un-listing a slot that lies beyond the bound changes nothing: the desired set is the one of the longer list -/
theorem desired_unlist_ineffective (r : Int) (S : List Int) (k : Int)
    (hk : k ∉ desired r (S.filter (fun s => decide (s ≠ k)))) :
    desired r (S.filter (fun s => decide (s ≠ k))) = desired r S :=
  isDesired_unique ((desired_isDesired r _).of_slots
      (fun _ ho hS => List.mem_filter.2 ⟨hS, decide_eq_true fun e => hk (e ▸ ho)⟩)
      (fun _ _ h => (List.mem_filter.1 h).1))
    (desired_isDesired r S)

/-! ### edits of `replicas` -/

theorem IsDesired.take {r' : Nat} {S O : List Int} (h : IsDesired r' S O) {r : Nat} (hr : r ≤ r') :
    IsDesired r S (O.take r) := by
  have hsub : ∀ a ∈ O.take r, a ∈ O := fun a ha => List.mem_of_mem_take ha
  refine ⟨h.sorted.sublist (List.take_sublist r O), by rw [List.length_take, h.len]; exact Nat.min_eq_left hr,
    fun o ho => h.nonneg o (hsub o ho), fun o ho => h.noSlot o (hsub o ho), ?_⟩
  intro o ho n hn0 hno hnS
  have hn : n ∈ O.take r ++ O.drop r := (List.take_append_drop r O).symm ▸ h.least o (hsub o ho) n hn0 hno hnS
  rcases List.mem_append.1 hn with hn | hn
  · exact hn
  · -- beyond the prefix `n` would be above `o`
    have hs := h.sorted
    rw [← List.take_append_drop r O, List.pairwise_append] at hs
    exact absurd (hs.2.2 o ho n hn) (not_lt.2 hno.le)

/-- **scaling never renumbers**: the desired set of a smaller replica count is a prefix of that of a larger one -/
theorem desired_take (r r' : Int) (S : List Int) (h : r ≤ r') : (desired r' S).take r.toNat = desired r S :=
  isDesired_unique ((desired_isDesired r' S).take (Int.toNat_le_toNat h)) (desired_isDesired r S)

/-- scaling by any amount never renumbers: the smaller desired set is a prefix of the larger one, everything beyond it is higher -/
theorem desired_prefix (r : Int) (S : List Int) (d : Nat) (hr : 0 ≤ r) :
    ∃ L, desired (r + d) S = desired r S ++ L ∧ L.length = d ∧ ∀ o ∈ desired r S, ∀ n ∈ L, o < n := by
  have hO := desired_isDesired (r + d) S
  have hsplit : desired (r + d) S = desired r S ++ (desired (r + d) S).drop r.toNat := by
    rw [← desired_take r (r + d) S (by omega)]
    exact (List.take_append_drop _ _).symm
  refine ⟨_, hsplit, by rw [List.length_drop, hO.len, Int.toNat_add_nat hr, Nat.add_sub_cancel_left], ?_⟩
  have hs := hO.sorted
  rw [hsplit, List.pairwise_append] at hs
  exact hs.2.2

/-- scaling out never drops a desired ordinal, by however much -/
theorem desired_mono (r : Int) (S : List Int) (d : Nat) : ∀ o ∈ desired r S, o ∈ desired (r + d) S :=
  fun _ ho => List.mem_of_mem_take (desired_take r (r + d) S (by omega) ▸ ho)

/-- **plain scale-out** by one appends one ordinal — above every ordinal already desired, not a slot — and keeps the rest -/
theorem desired_succ (r : Int) (S : List Int) (hr : 0 ≤ r) :
    ∃ n, desired (r + 1) S = desired r S ++ [n] ∧ 0 ≤ n ∧ n ∉ S ∧ ∀ o ∈ desired r S, o < n := by
  obtain ⟨L, hL, hlen, hlt⟩ := desired_prefix r S 1 hr
  obtain ⟨n, rfl⟩ := List.length_eq_one_iff.1 hlen
  rw [Nat.cast_one] at hL
  have hn : n ∈ desired (r + 1) S := hL ▸ List.mem_append_right _ List.mem_cons_self
  have h := desired_isDesired (r + 1) S
  exact ⟨n, hL, h.nonneg n hn, h.noSlot n hn, fun o ho => hlt o ho n List.mem_cons_self⟩

/-- **plain scale-in** by one removes the top ordinal and nothing else -/
theorem desired_dropLast (r : Int) (S : List Int) (hr : 0 ≤ r) : (desired (r + 1) S).dropLast = desired r S := by
  obtain ⟨n, hn, -⟩ := desired_succ r S hr
  rw [hn, List.dropLast_concat]

/-! ### listing and un-listing an ordinal -/

/-- **listing a desired ordinal while decrementing replicas removes exactly that ordinal** -/
theorem desired_cons_erase (r : Int) (S : List Int) (k : Int) (h1 : 1 ≤ r) (hk : k ∈ desired r S) :
    desired (r - 1) (k :: S) = (desired r S).erase k := by
  have hO := desired_isDesired r S
  have hnd : (desired r S).Nodup := hO.sorted.imp ne_of_lt
  refine isDesired_unique (desired_isDesired (r - 1) (k :: S))
    ⟨hO.sorted.sublist List.erase_sublist, ?_, fun o ho => hO.nonneg o (List.mem_of_mem_erase ho), ?_, ?_⟩
  · rw [List.length_erase_of_mem hk, hO.len]; omega
  · intro o ho hmem
    rw [hnd.mem_erase_iff] at ho
    rcases List.mem_cons.1 hmem with h | h
    · exact ho.1 h
    · exact hO.noSlot o ho.2 h
  · intro o ho n hn0 hno hnS
    rw [hnd.mem_erase_iff] at ho ⊢
    exact ⟨fun h => hnS (h ▸ List.mem_cons_self),
      hO.least o ho.2 n hn0 hno (fun h => hnS (List.mem_cons_of_mem _ h))⟩

/-- **un-listing an effective slot while incrementing replicas brings back exactly that ordinal** -/
theorem desired_unlist_erase (r : Int) (S : List Int) (k : Int) (hr : 0 ≤ r) (hkS : k ∈ S)
    (hk : k ∈ desired (r + 1) (S.filter (fun s => decide (s ≠ k)))) :
    (desired (r + 1) (S.filter (fun s => decide (s ≠ k)))).erase k = desired r S := by
  rw [← desired_cons_erase (r + 1) (S.filter (fun s => decide (s ≠ k))) k (by omega) hk, add_sub_cancel_right]
  -- `k` together with the other slots is the slot list again, as a set
  apply desired_congr
  intro x
  rw [List.mem_cons, List.mem_filter, decide_eq_true_eq]
  constructor
  · rintro (rfl | ⟨hx, -⟩)
    · exact hkS
    · exact hx
  · exact fun hx => (eq_or_ne x k).imp_right fun hxk => ⟨hx, hxk⟩

/-- list `k` and decrement, then un-list `k` and increment: the desired set is back where it was -/
theorem desired_list_unlist (r : Int) (S : List Int) (k : Int) (hkS : k ∉ S) :
    desired (r - 1 + 1) ((k :: S).filter (fun s => decide (s ≠ k))) = desired r S := by
  rw [sub_add_cancel]
  apply desired_congr
  intro x
  rw [List.mem_filter, List.mem_cons, decide_eq_true_eq]
  constructor
  · rintro ⟨rfl | hx, hne⟩
    · exact absurd rfl hne
    · exact hx
  · exact fun hx => ⟨Or.inr hx, fun h => hkS (h ▸ hx)⟩

/-- **listing a desired ordinal with `replicas` unchanged moves one pod**: the desired set loses `k` and gains one ordinal above
    all the others -/
theorem desired_cons_same (r : Int) (S : List Int) (k : Int) (h1 : 1 ≤ r) (hk : k ∈ desired r S) :
    ∃ n, desired r (k :: S) = (desired r S).erase k ++ [n] ∧ 0 ≤ n ∧ n ∉ k :: S ∧ ∀ o ∈ (desired r S).erase k, o < n := by
  have := desired_succ (r - 1) (k :: S) (by omega)
  rwa [sub_add_cancel, desired_cons_erase r S k h1 hk] at this

end Asts
