import Mathlib.Tactic
import Asts.Proofs.SY_a_Check

/-! # SY_a — the monitors of `Spec/Sync.lean` hold on the model: C11 (deleting), C10 (revisions); what a paused sync returns -/

namespace Asts.SYa
open Asts

/-- names are unique in the revision store (one namespace of the API) -/
def StoreNamesOk (i : SyncIn) : Prop := (i.store.map (·.name)).Nodup

theorem eq_of_name_eq {st : List Rev} (hnd : (st.map (·.name)).Nodup) {x y : Rev} (hx : x ∈ st) (hy : y ∈ st)
    (h : x.name = y.name) : x = y :=
  List.inj_on_of_nodup_map hnd hx hy h

/-! ## C11, paused -/

theorem syncF_paused (h : Hashing) (i : SyncIn) (plan : List Fault) (hp : i.paused = true) :
    syncF h i plan = { store := i.store } := by
  rw [syncF_eq]; simp [hp]

/-! ## C11, deleting -/

theorem reconcileOf_deleting (i : SyncIn) (plan : List Fault) (claimed : List CPod) (cur upd : Rev)
    (hd : i.view.deleting = true) : (reconcileOf i plan claimed cur upd).1.acts = [] :=
  uss_deleting_acts _ _ _ _ _ hd

theorem syncF_deleting_acts (h : Hashing) (i : SyncIn) (plan : List Fault) (hd : i.view.deleting = true) :
    (syncF h i plan).acts = [] := by
  rcases (syncF_shape h i plan).hacts with ha | ⟨cur, upd, ha⟩
  · exact ha
  · rw [ha]; exact reconcileOf_deleting i plan _ cur upd hd

/-- a deleting set: the whole log consists of revision listing, revision bookkeeping (renumber / create / its reads /
    history deletion) and the status update; the store is the old one with numbers changed or one own revision added,
    minus truncated history -/
theorem syncF_deleting_structure (h : Hashing) (i : SyncIn) (plan : List Fault) (hd : i.view.deleting = true) :
    (∃ st2, Resolved i.store st2 ∧ ∀ x ∈ (syncF h i plan).store, x ∈ st2) ∧
    ∀ e ∈ (syncF h i plan).log,
      e = "list:revs" ∨ GetRevEntry (sortRevs (listRevisions i.store)) e ∨ e = "updatestatus" ∨
      (∃ r ∈ sortRevs (listRevisions i.store), r.owner = .self ∧ e = s!"delete:rev:{r.name}") := by
  obtain ⟨st1, _, hdel, hst, hent⟩ := (syncF_shape h i plan).main
  obtain rfl := hdel hd
  refine ⟨hst, ?_⟩
  intro e he
  rcases hent e he with (⟨hd', _⟩ | ⟨hd', _⟩ | h1 | h1 | h1 | h1) | ⟨a, ha, _⟩
  · rw [hd] at hd'; cases hd'
  · rw [hd] at hd'; cases hd'
  · exact Or.inl h1
  · exact Or.inr (Or.inl h1)
  · exact Or.inr (Or.inr (Or.inl h1))
  · exact Or.inr (Or.inr (Or.inr h1))
  · rw [syncF_deleting_acts h i plan hd] at ha; cases ha

/-- every revision of the final store that shares its name with an initial one has the same owner and selector match -/
theorem resolved_keeps {st st2 : List Rev} (hnd : (st.map (·.name)).Nodup) (hr : Resolved st st2)
    {r x : Rev} (hrm : r ∈ st) (hx : x ∈ st2) (hn : x.name = r.name) :
    x.owner = r.owner ∧ x.selMatch = r.selMatch ∧ x.marker = r.marker ∧ x.data = r.data := by
  rcases hr with ⟨g, hg, rfl⟩ | ⟨nr, rfl, _, hfree⟩
  · obtain ⟨y, hy, rfl⟩ := List.mem_map.1 hx
    obtain ⟨h1, _, h3, _, h5, h6, h7⟩ := hg y
    have : y = r := eq_of_name_eq hnd hy hrm (by rw [← h1]; exact hn)
    subst this
    exact ⟨h6, h7, h5, h3⟩
  · rcases mem_insertByName.1 hx with rfl | hx
    · exact absurd hn.symm (hfree r hrm)
    · have : x = r := eq_of_name_eq hnd hx hrm hn
      subst this; exact ⟨rfl, rfl, rfl, rfl⟩

/-- the digest `SyncOut.observe` takes of a stored revision -/
def digest (r : Rev) : RevD :=
  { name := r.name, number := r.number, owner := r.owner, sel := r.selMatch, marker := r.marker, data := r.data }

theorem observe_revs (o : SyncOut) : o.observe.revs = o.store.map digest := rfl

theorem find_digest (store : List Rev) (n : String) :
    (store.map digest).find? (fun d => d.name == n) = (store.find? (fun x => x.name == n)).map digest := by
  induction store with
  | nil => rfl
  | cons x xs ih =>
    simp only [List.map_cons, List.find?_cons]
    have : (digest x).name = x.name := rfl
    rw [this]
    cases hx : (x.name == n)
    · simpa using ih
    · simp

theorem C11deleting_holds (h : Hashing) (i : SyncIn) (plan : List Fault) (hnd : StoreNamesOk i) :
    C11deleting i (syncF h i plan).observe = true := by
  unfold C11deleting
  by_cases hd : i.view.deleting = true
  swap
  · simp [hd]
  obtain ⟨⟨st2, hres, hsub⟩, _⟩ := syncF_deleting_structure h i plan hd
  obtain ⟨st1, _, hdel, _, hent⟩ := (syncF_shape h i plan).main
  obtain rfl := hdel hd
  have hfalse : i.view.deleting = false → False := by rw [hd]; intro hh; cases hh
  simp only [hd, Bool.not_true, Bool.false_or, Bool.and_eq_true]
  refine ⟨?_, ?_⟩
  · -- the log
    apply all_parse
    intro e he
    refine log_check i plan i.store (syncF h i plan).claimed (syncF h i plan).acts
      (fun e => !isPodWrite e && e.verb != "patch") (by decide) (fun hh => (hfalse hh).elim) (by decide) ?_
      (fun hh => (hfalse hh).elim) (fun hh => (hfalse hh).elim) (fun hh => (hfalse hh).elim)
      ?_ ?_ ?_ ?_ ?_ e (hent e he)
    · intro pre v r n hpre hn
      have : pre ++ n ≠ "patch" := pre3_append_ne hpre n "patch" (by decide)
      simp [isPodWrite, this]
    · intro r _ _; simp [isPodWrite]
    · intro n _; simp [isPodWrite]
    · intro n _; simp [isPodWrite]
    · intro r _ _ _; simp [isPodWrite]
    · intro a ha
      rw [syncF_deleting_acts h i plan hd] at ha; cases ha
  · -- the store
    rw [List.all_eq_true]
    intro r hr
    rw [observe_revs, find_digest]
    cases hf : (syncF h i plan).store.find? (fun x => x.name == r.name) with
    | none => simp
    | some x =>
      have hx : x ∈ (syncF h i plan).store := List.mem_of_find?_eq_some hf
      have hn : x.name = r.name := by simpa using List.find?_some hf
      obtain ⟨h1, h2, _, _⟩ := resolved_keeps hnd hres hr (hsub x hx) hn
      simp [digest, h1, h2]

/-! ## C10, revisions -/

theorem find_ok_of_mem {i : SyncIn} (hnd : StoreNamesOk i) {y : Rev} (hy : y ∈ i.store) (ho : y.owner ≠ .other) :
    (i.store.find? (·.name == y.name)).all (fun r => r.owner != .other) = true := by
  cases hf : i.store.find? (fun x => x.name == y.name) with
  | none => simp
  | some x =>
    have hx : x ∈ i.store := List.mem_of_find?_eq_some hf
    have hn : x.name = y.name := by simpa using List.find?_some hf
    obtain rfl := eq_of_name_eq hnd hx hy hn
    simpa using ho

/-- a revision listed after the adoption phase descends from a stored revision of the same name that nobody else owns -/
theorem listed_after_adoption {i : SyncIn} (hnd : StoreNamesOk i) {g : Rev → Rev}
    (hg : ∀ x, AdoptG (listRevisions i.store) x (g x)) {r : Rev} (hr : r ∈ listRevisions (i.store.map g)) :
    ∃ y ∈ i.store, y.name = r.name ∧ y.owner ≠ .other := by
  obtain ⟨hm, _, hno⟩ := mem_listRevisions hr
  obtain ⟨y, hy, rfl⟩ := List.mem_map.1 hm
  obtain ⟨h1, _, _, _, _, _, h7, _⟩ := hg y
  refine ⟨y, hy, h1.symm, ?_⟩
  rcases h7 with h7 | ⟨_, r2, hr2, ho2, hn2⟩
  · rw [← h7]; exact hno
  · have hr2m := (mem_listRevisions hr2).1
    obtain rfl := eq_of_name_eq hnd hr2m hy hn2
    rw [ho2]; simp

theorem C10revs_holds (h : Hashing) (i : SyncIn) (plan : List Fault) (hnd : StoreNamesOk i) :
    C10revs i (syncF h i plan).observe = true := by
  unfold C10revs
  obtain ⟨st1, ⟨g, hg, rfl⟩, _, _, hent⟩ := (syncF_shape h i plan).main
  have hold : ∀ r ∈ listRevisions i.store,
      (i.store.find? (·.name == r.name)).all (fun r => r.owner != .other) = true := fun r hr =>
    find_ok_of_mem hnd (mem_listRevisions hr).1 (mem_listRevisions hr).2.2
  have hnew : ∀ r ∈ sortRevs (listRevisions (i.store.map g)),
      (i.store.find? (·.name == r.name)).all (fun r => r.owner != .other) = true := by
    intro r hr
    obtain ⟨y, hy, hn, ho⟩ := listed_after_adoption hnd hg (mem_sortRevs.1 hr)
    rw [← hn]; exact find_ok_of_mem hnd hy ho
  apply all_parse
  intro e he
  refine log_check i plan (i.store.map g) (syncF h i plan).claimed (syncF h i plan).acts
    (fun e => if isRevWrite e && e.verb != "create" then
      (i.store.find? (·.name == e.name)).all (fun r => r.owner != .other) else true)
    (by simp [isRevWrite]) (fun _ => by simp [isRevWrite]) (by simp [isRevWrite]) ?_ ?_ ?_ ?_ ?_ ?_ ?_ ?_ ?_ e
    (hent e he)
  · intro pre v r n _ _; simp [isRevWrite]
  · intro _ r hr _ _; simp only [hold r hr]; simp
  · intro _ r hr _ _; simp only [hold r hr]; simp
  · intros; simp [isRevWrite]
  · intro r hr _; simp only [hnew r hr]; simp
  · intros; simp [isRevWrite]
  · intros; simp [isRevWrite]
  · intro r hr _ _; simp only [hnew r hr]; simp
  · intro a _
    cases a <;> (intro _; simp [isRevWrite])

end Asts.SYa
