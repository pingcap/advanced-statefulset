import Asts.Spec.Reconcile
import Mathlib.Tactic

/-! What every proof about one reconcile starts from: `prepare` and `updateStatefulSet` by cases on `replicas`
    (`prepare_some`, `updateStatefulSet_some`, `updateStatefulSet_run`), one equation per branch of a loop body
    (`ensurePod_vacant`, `ensurePod_created`, `replicaStep_keep`, `replicaStep_replace`, `condemnedLoop_cons`,
    `updateWalk_cases`), what a loop does on pods that need nothing (`replicaLoop_quiet`, `updateStage_allupd`), what the
    condemned loop and the replica loop append (`condemnedLoop_acts`; `slotActs`, `replicaLoop_acts`) and from there the
    shape of the whole action list (`runLoops_acts`, `updateStatefulSet_acts`), induction over the three loops with the
    invariant as a parameter (`runLoops_induct'`), and the counters of pods and actions. -/
set_option linter.unnecessarySeqFocus false
namespace Asts

def Ctl.st : Ctl → St | .next s => s | .done s _ => s
def Ctl.okFlag : Ctl → Bool | .next _ => true | .done _ o => o == .ok
def Ctl.isNext : Ctl → Bool | .next _ => true | .done _ _ => false

@[simp] theorem Ctl.st_next (s : St) : (Ctl.next s).st = s := rfl
@[simp] theorem Ctl.st_done (s : St) (o : Outcome) : (Ctl.done s o).st = s := rfl
@[simp] theorem Ctl.okFlag_next (s : St) : (Ctl.next s).okFlag = true := rfl
@[simp] theorem Ctl.okFlag_done (s : St) (o : Outcome) : (Ctl.done s o).okFlag = (o == .ok) := rfl
@[simp] theorem Ctl.isNext_next (s : St) : (Ctl.next s).isNext = true := rfl
@[simp] theorem Ctl.isNext_done (s : St) (o : Outcome) : (Ctl.done s o).isNext = false := rfl

end Asts

namespace Asts.L1c

@[simp] theorem hit_nil (verb : Nat) (ord : Int) : Faults.hit [] verb ord = false := by simp [Faults.hit]

theorem healthy_facts {p : Pod} (h : p.healthy = true) :
    p.runningAndReady = true ∧ p.terminating = false ∧ p.created = true ∧ p.failed = false ∧ p.succeeded = false := by
  simp only [Pod.healthy, Pod.runningAndReady, Bool.and_eq_true, beq_iff_eq, Bool.not_eq_true'] at h
  obtain ⟨⟨hph, hrd⟩, ht⟩ := h
  exact ⟨by rw [Pod.runningAndReady, hph, hrd]; rfl, ht, by rw [Pod.created, hph]; rfl, by rw [Pod.failed, hph]; rfl,
    by rw [Pod.succeeded, hph]; rfl⟩

/-! ### the first-unhealthy scan -/

/-- the fold of `firstUnhealthy`, named -/
def fuStep (acc : (Option Pod × Int) × Nat) (p : Pod) : (Option Pod × Int) × Nat :=
  if !p.healthy then
    if acc.1.1.isNone || p.ord < acc.1.2 then ((some p, p.ord), acc.2 + 1) else (acc.1, acc.2 + 1)
  else acc

theorem firstUnhealthy_eq (ps : List Pod) :
    firstUnhealthy ps = ((ps.foldl fuStep ((none, maxInt32), 0)).1.1, (ps.foldl fuStep ((none, maxInt32), 0)).2) := rfl

/-- while no pod is recorded none was counted: the first unhealthy pod met is recorded whatever its ordinal -/
theorem fuStep_none (ps : List Pod) (acc : (Option Pod × Int) × Nat) (hacc : acc.1.1 = none → acc.2 = 0) :
    (ps.foldl fuStep acc).1.1 = none → (ps.foldl fuStep acc).2 = 0 := by
  induction ps generalizing acc with
  | nil => exact hacc
  | cons p rest ih =>
    refine ih _ ?_
    unfold fuStep
    split_ifs with hh hlt
    · exact fun hnone => nomatch hnone
    · intro hnone
      rw [hnone] at hlt
      exact absurd rfl hlt
    · exact hacc

theorem firstUnhealthy_some' (ps : List Pod) :
    (firstUnhealthy ps).2 > 0 → (firstUnhealthy ps).1.isSome = true := by
  rw [firstUnhealthy_eq]
  intro hpos
  cases h : (ps.foldl fuStep ((none, maxInt32), 0)).1.1 with
  | none => exact absurd (fuStep_none ps _ (fun _ => rfl) h) (Nat.pos_iff_ne_zero.1 hpos)
  | some q => rfl

theorem firstUnhealthy_healthy (ps : List Pod) (h : ∀ p ∈ ps, p.healthy = true) : firstUnhealthy ps = (none, 0) := by
  have key : ∀ acc, ps.foldl fuStep acc = acc := by
    induction ps with
    | nil => exact fun _ => rfl
    | cons p rest ih =>
      intro acc
      have hp : fuStep acc p = acc := by
        rw [fuStep, h p List.mem_cons_self]
        rfl
      rw [List.foldl_cons, hp]
      exact ih (fun q hq => h q (List.mem_cons_of_mem _ hq)) acc
  rw [firstUnhealthy_eq, key]

/-! ### `prepare` and `updateStatefulSet`, by cases on `replicas` -/

def idxOf (b : Int) (E : List Int) : List Int :=
  ((List.range b.toNat).map Int.ofNat).filter (fun i => !E.contains i)

def repsOf (v : SetView) (cur upd : String) (b : Int) (E : List Int) (pods : List Pod) : List (Int × Pod) :=
  (idxOf b E).map (fun i => (i, (slotOf b E pods i).getD (newPod v cur upd i)))

def st0Of (v : SetView) (cur upd : String) (pods : List Pod) : Status :=
  { census cur upd pods with observedGen := v.generation, currentRev := cur, updateRev := upd }

/-- what `prepare` computes for a set with `replicas = some r` -/
def prepOf (v : SetView) (cur upd : String) (r : Int) (pods : List Pod) : Prepared :=
  let b := (maxReplicaAndSlots r v.slots).1
  let E := (maxReplicaAndSlots r v.slots).2
  { b := b, reps := repsOf v cur upd b E pods, condemned := condemnedOf b E pods,
    fu := (firstUnhealthy ((repsOf v cur upd b E pods).map (·.2) ++ condemnedOf b E pods)).1,
    st0 := st0Of v cur upd pods }

/-- `prepare` succeeds whenever `replicas` is set: the scan's panic (a pod counted, none recorded) cannot happen -/
theorem prepare_some {v : SetView} {cur upd : String} {pods : List Pod} {r : Int} (hr : v.replicas = some r) :
    prepare v cur upd pods = .ok (prepOf v cur upd r pods) := by
  unfold prepare
  rw [hr]
  simp only
  split
  · next hc =>
    rw [Bool.and_eq_true, decide_eq_true_eq, Option.isNone_iff_eq_none] at hc
    have := firstUnhealthy_some' _ hc.1
    rw [hc.2] at this
    cases this
  · rfl

theorem prepare_none {v : SetView} {cur upd : String} {pods : List Pod} (hr : v.replicas = none) :
    prepare v cur upd pods = .error ({}, .panic "nil *Spec.Replicas (stateful_set_control.go:315)") := by
  unfold prepare
  rw [hr]

theorem updateStatefulSet_some {v : SetView} {cur upd : String} {pods : List Pod} {r : Int} (hr : v.replicas = some r)
    (f : Faults) :
    updateStatefulSet v cur upd pods f =
      if v.deleting then ({ status := st0Of v cur upd pods }, .ok) else runLoops v cur upd f (prepOf v cur upd r pods) := by
  unfold updateStatefulSet
  rw [prepare_some hr]
  rfl

theorem updateStatefulSet_run {v : SetView} {cur upd : String} {pods : List Pod} {r : Int} (f : Faults)
    (hr : v.replicas = some r) (hdel : v.deleting = false) :
    updateStatefulSet v cur upd pods f = runLoops v cur upd f (prepOf v cur upd r pods) := by
  rw [updateStatefulSet_some hr, hdel]
  rfl

/-- `updateStatefulSet_run`, for proofs that use of the prepared state only what the loops start on -/
theorem updateStatefulSet_run_prep {v : SetView} {cur upd : String} {pods : List Pod} {r : Int} (f : Faults)
    (hr : v.replicas = some r) (hdel : v.deleting = false) :
    ∃ p : Prepared, updateStatefulSet v cur upd pods f = runLoops v cur upd f p ∧
      p.reps = repsOf v cur upd (maxReplicaAndSlots r v.slots).1 (maxReplicaAndSlots r v.slots).2 pods ∧
      p.condemned = condemnedOf (maxReplicaAndSlots r v.slots).1 (maxReplicaAndSlots r v.slots).2 pods ∧
      p.st0 = st0Of v cur upd pods :=
  ⟨_, updateStatefulSet_run f hr hdel, rfl, rfl, rfl⟩

theorem updateStatefulSet_none {v : SetView} {cur upd : String} {pods : List Pod} (hr : v.replicas = none) (f : Faults) :
    updateStatefulSet v cur upd pods f = ({}, .panic "nil *Spec.Replicas (stateful_set_control.go:315)") := by
  unfold updateStatefulSet
  rw [prepare_none hr]

theorem updateStatefulSet_ok {v : SetView} {cur upd : String} {pods : List Pod} {f : Faults} {s : St}
    (h : updateStatefulSet v cur upd pods f = (s, .ok)) :
    ∃ r, v.replicas = some r ∧
      ((v.deleting = true ∧ s = { status := st0Of v cur upd pods }) ∨
       (v.deleting = false ∧ runLoops v cur upd f (prepOf v cur upd r pods) = (s, .ok))) := by
  cases hr : v.replicas with
  | none => rw [updateStatefulSet_none hr] at h; cases h
  | some r =>
    refine ⟨r, rfl, ?_⟩
    rw [updateStatefulSet_some hr] at h
    cases hd : v.deleting
    · rw [hd] at h; exact Or.inr ⟨rfl, h⟩
    · rw [hd] at h; exact Or.inl ⟨rfl, (Prod.mk.inj h).1.symm⟩

/-! ### induction principles -/

theorem replicaLoop_induct (v : SetView) (cur upd : String) (f : Faults) (mono : Bool)
    (I : St → List (Int × Pod) → List (Int × Pod) → Prop) (Q : St → Outcome → Prop)
    (hstep : ∀ s i p rest W, I s ((i, p) :: rest) W →
      (∀ s' p', replicaStep v cur upd f mono s i p = (.next s', p') → I s' rest (W ++ [(i, p')])) ∧
      (∀ s' o p', replicaStep v cur upd f mono s i p = (.done s' o, p') → Q s' o)) :
    ∀ reps s W, I s reps W →
      (∀ s' reps', replicaLoop v cur upd f mono s reps = (.next s', reps') → I s' [] (W ++ reps')) ∧
      (∀ s' o reps', replicaLoop v cur upd f mono s reps = (.done s' o, reps') → Q s' o) := by
  intro reps
  induction reps with
  | nil =>
    intro s W hI
    constructor
    · intro s' reps' h
      simp only [replicaLoop, Prod.mk.injEq, Ctl.next.injEq] at h
      obtain ⟨rfl, rfl⟩ := h
      simpa using hI
    · intro s' o reps' h
      simp [replicaLoop] at h
  | cons ip rest ih =>
    obtain ⟨i, p⟩ := ip
    intro s W hI
    have hs := hstep s i p rest W hI
    unfold replicaLoop
    cases hrs : replicaStep v cur upd f mono s i p with
    | mk c p' =>
      cases c with
      | next s1 =>
        have hI1 := hs.1 s1 p' hrs
        have ih1 := ih s1 (W ++ [(i, p')]) hI1
        simp only
        cases hrl : replicaLoop v cur upd f mono s1 rest with
        | mk c2 rest' =>
          simp only
          constructor
          · intro s' reps' h
            simp only [Prod.mk.injEq] at h
            obtain ⟨rfl, rfl⟩ := h
            have := ih1.1 s' rest' hrl
            simpa using this
          · intro s' o reps' h
            simp only [Prod.mk.injEq] at h
            obtain ⟨rfl, rfl⟩ := h
            exact ih1.2 s' o rest' hrl
      | done s1 o1 =>
        simp only
        constructor
        · intro s' reps' h; simp at h
        · intro s' o reps' h
          simp only [Prod.mk.injEq, Ctl.done.injEq] at h
          obtain ⟨⟨rfl, rfl⟩, _⟩ := h
          exact hs.2 s1 o1 p' hrs

/-- state after a condemned pod was deleted -/
def stepScale (cur upd : String) (s : St) (c : Pod) : St :=
  { acts := s.acts ++ [.delete c.ord c.id .scaleDown], status := bump s.status cur upd c.rev (-1) }

/-- one iteration of the condemned loop: the reconcile ends here without a write (OrderedReady, a terminating or unready
    pod), a terminating pod is skipped (Parallel), the delete fails, or the pod is deleted -/
theorem condemnedLoop_cons (cur upd : String) (f : Faults) (mono : Bool) (fu : Option Pod) (s : St) (c : Pod)
    (rest : List Pod) :
    (mono = true ∧ condemnedLoop cur upd f mono fu s (c :: rest) = .done s .ok) ∨
    (mono = false ∧ c.terminating = true ∧
      condemnedLoop cur upd f mono fu s (c :: rest) = condemnedLoop cur upd f mono fu s rest) ∨
    (c.terminating = false ∧ f.hit 1 c.ord = true ∧
      condemnedLoop cur upd f mono fu s (c :: rest)
        = .done { s with acts := s.acts ++ [.delete c.ord c.id .scaleDown] } .err) ∨
    (c.terminating = false ∧ f.hit 1 c.ord = false ∧
      condemnedLoop cur upd f mono fu s (c :: rest)
        = if mono then .done (stepScale cur upd s c) .ok
          else condemnedLoop cur upd f mono fu (stepScale cur upd s c) rest) := by
  rw [condemnedLoop]
  cases ht : c.terminating
  · rw [if_neg Bool.false_ne_true]
    by_cases hw : (!c.runningAndReady && mono && (fu.map (·.id) != some c.id)) = true
    · rw [if_pos hw]
      rw [Bool.and_eq_true, Bool.and_eq_true] at hw
      exact Or.inl ⟨hw.1.2, rfl⟩
    · rw [if_neg hw]
      cases hf : f.hit 1 c.ord
      · exact Or.inr (Or.inr (Or.inr ⟨rfl, rfl, rfl⟩))
      · exact Or.inr (Or.inr (Or.inl ⟨rfl, rfl, rfl⟩))
  · rw [if_pos rfl]
    cases mono
    · exact Or.inr (Or.inl ⟨rfl, rfl, rfl⟩)
    · exact Or.inl ⟨rfl, rfl⟩

/-- the condemned loop appends the scale-down deletes of some of its pods, in order -/
theorem condemnedLoop_acts (cur upd : String) (f : Faults) (mono : Bool) (fu : Option Pod) (cs : List Pod) (s : St) :
    ∃ ds : List Pod, ds.Sublist cs ∧
      (condemnedLoop cur upd f mono fu s cs).st.acts = s.acts ++ ds.map (fun c => Action.delete c.ord c.id .scaleDown) := by
  induction cs generalizing s with
  | nil => exact ⟨[], List.Sublist.slnil, (List.append_nil _).symm⟩
  | cons c rest ih =>
    rcases condemnedLoop_cons cur upd f mono fu s c rest with ⟨-, e⟩ | ⟨-, -, e⟩ | ⟨-, -, e⟩ | ⟨-, -, e⟩
    · rw [e]
      exact ⟨[], List.nil_sublist _, (List.append_nil _).symm⟩
    · rw [e]
      obtain ⟨ds, h1, h2⟩ := ih s
      exact ⟨ds, h1.cons c, h2⟩
    · rw [e]
      exact ⟨[c], List.singleton_sublist.2 List.mem_cons_self, rfl⟩
    · rw [e]
      cases mono
      · rw [if_neg Bool.false_ne_true]
        obtain ⟨ds, h1, h2⟩ := ih (stepScale cur upd s c)
        exact ⟨c :: ds, h1.cons₂ c, h2.trans (List.append_assoc ..)⟩
      · rw [if_pos rfl]
        exact ⟨[c], List.singleton_sublist.2 List.mem_cons_self, rfl⟩

theorem condemnedLoop_induct (cur upd : String) (f : Faults) (mono : Bool) (fu : Option Pod)
    (I : St → List Pod → Prop) (P : St → Prop)
    (hP : ∀ s l, I s l → P s)
    (hskip : ∀ s c rest, I s (c :: rest) → I s rest)
    (hdel : ∀ s c rest, I s (c :: rest) → c.terminating = false → f.hit 1 c.ord = false →
      I { acts := s.acts ++ [.delete c.ord c.id .scaleDown], status := bump s.status cur upd c.rev (-1) } rest) :
    ∀ cs s, I s cs →
      (∀ s', condemnedLoop cur upd f mono fu s cs = .next s' → I s' []) ∧
      (∀ s', condemnedLoop cur upd f mono fu s cs = .done s' .ok → P s') := by
  intro cs
  induction cs with
  | nil =>
    intro s hI
    exact ⟨fun s' h => by cases h; exact hI, fun s' h => (nomatch h)⟩
  | cons c rest ih =>
    intro s hI
    rcases condemnedLoop_cons cur upd f mono fu s c rest with ⟨_, e⟩ | ⟨_, _, e⟩ | ⟨_, _, e⟩ | ⟨ht, hf, e⟩
    · rw [e]
      exact ⟨fun s' h => (nomatch h), fun s' h => by cases h; exact hP _ _ hI⟩
    · rw [e]
      exact ih s (hskip s c rest hI)
    · rw [e]
      exact ⟨fun s' h => (nomatch h), fun s' h => (nomatch h)⟩
    · rw [e]
      have hI' := hdel s c rest hI ht hf
      cases mono
      · exact ih _ hI'
      · exact ⟨fun s' h => (nomatch h), fun s' h => by cases h; exact hP _ _ hI'⟩

/-- what the update walk can return: nothing to do, or it passes pods that are healthy at the update revision and deletes
    the first one it meets that is at another revision and not terminating -/
theorem updateWalk_cases (cur upd : String) (f : Faults) (l : List (Int × Pod)) (s : St) :
    updateWalk cur upd f s l = (s, .ok) ∨
    ∃ pre t q post, l = pre ++ (t, q) :: post ∧ (∀ x ∈ pre, x.2.healthy = true ∧ x.2.rev = upd) ∧
      (q.rev != upd) = true ∧ q.terminating = false ∧
      updateWalk cur upd f s l =
        ({ acts := s.acts ++ [.delete t q.id .update],
           status := if q.rev == cur then { s.status with current := s.status.current - 1 } else s.status },
         if f.hit 1 t then .err else .ok) := by
  induction l with
  | nil => exact Or.inl rfl
  | cons ip rest ih =>
    obtain ⟨t, p⟩ := ip
    rw [updateWalk]
    by_cases h1 : (p.rev != upd && !p.terminating) = true
    · rw [if_pos h1]
      rw [Bool.and_eq_true, Bool.not_eq_true'] at h1
      exact Or.inr ⟨[], t, p, rest, rfl, fun _ h => (nomatch h), h1.1, h1.2, rfl⟩
    · rw [if_neg h1]
      cases hh : p.healthy
      · exact Or.inl rfl
      · rw [Bool.not_true, if_neg Bool.false_ne_true]
        rcases ih with h | ⟨pre, t', q, post, e, hpre, h3, h4, h5⟩
        · exact Or.inl h
        · -- a healthy pod is not terminating, so the walk passed it because it is at the update revision
          have hrev : p.rev = upd := by
            have ht : p.terminating = false := by
              cases ht : p.terminating
              · rfl
              · rw [Pod.healthy, ht, Bool.not_true, Bool.and_false] at hh; cases hh
            rw [ht, Bool.not_false, Bool.and_true, bne_iff_ne, ne_eq, not_not] at h1
            exact h1
          refine Or.inr ⟨(t, p) :: pre, t', q, post, by rw [e]; rfl, fun x hx => ?_, h3, h4, h5⟩
          rcases List.mem_cons.1 hx with rfl | hx
          · exact ⟨hh, hrev⟩
          · exact hpre x hx

/-- Induction over the whole of `runLoops`: an invariant `I s R W C` over the state, the unprocessed slots `R`, the
    processed slots `W` (as stored after their step) and the unprocessed condemned pods `C`. -/
theorem runLoops_induct (v : SetView) (cur upd : String) (f : Faults) (p : Prepared)
    (I : St → List (Int × Pod) → List (Int × Pod) → List Pod → Prop) (P : St → Prop)
    (hP : ∀ s R W C, I s R W C → P s)
    (hrep : ∀ s i q R W C, I s ((i, q) :: R) W C →
      (∀ s' q', replicaStep v cur upd f (!v.parallel) s i q = (.next s', q') → I s' R (W ++ [(i, q')]) C) ∧
      (∀ s' q', replicaStep v cur upd f (!v.parallel) s i q = (.done s' .ok, q') → P s'))
    (hskip : ∀ s c C W, I s [] W (c :: C) → I s [] W C)
    (hdel : ∀ s c C W, I s [] W (c :: C) → c.terminating = false → f.hit 1 c.ord = false →
      I { acts := s.acts ++ [.delete c.ord c.id .scaleDown], status := bump s.status cur upd c.rev (-1) } [] W C)
    (hwalk : ∀ s W t q, I s [] W [] → (t, q) ∈ W → (q.rev != upd) = true → q.terminating = false → f.hit 1 t = false →
      P { acts := s.acts ++ [.delete t q.id .update],
          status := if q.rev == cur then { s.status with current := s.status.current - 1 } else s.status })
    (hinit : I { status := p.st0 } p.reps [] p.condemned.reverse) :
    ∀ s, runLoops v cur upd f p = (s, .ok) → P s := by
  intro sfin hfin
  unfold runLoops at hfin
  simp only at hfin
  have hA := replicaLoop_induct v cur upd f (!v.parallel)
    (fun s R W => I s R W p.condemned.reverse) (fun s o => o = .ok → P s)
    (by
      intro s i q rest W hI
      have := hrep s i q rest W _ hI
      refine ⟨this.1, ?_⟩
      intro s' o p' h ho
      subst ho
      exact this.2 s' p' h)
    p.reps { status := p.st0 } [] hinit
  cases hrl : replicaLoop v cur upd f (!v.parallel) { status := p.st0 } p.reps with
  | mk c reps' =>
    rw [hrl] at hfin
    cases c with
    | done s o =>
      simp only [Prod.mk.injEq] at hfin
      obtain ⟨rfl, rfl⟩ := hfin
      exact hA.2 s .ok reps' hrl rfl
    | next s =>
      simp only at hfin
      have hI1 : I s [] reps' p.condemned.reverse := by simpa using hA.1 s reps' hrl
      have hB := condemnedLoop_induct cur upd f (!v.parallel) p.fu
        (fun s C => I s [] reps' C) P (fun s l h => hP _ _ _ _ h)
        (fun s c rest h => hskip s c rest reps' h)
        (fun s c rest h h1 h2 => hdel s c rest reps' h h1 h2)
        p.condemned.reverse s hI1
      cases hcl : condemnedLoop cur upd f (!v.parallel) p.fu s p.condemned.reverse with
      | done s' o =>
        rw [hcl] at hfin
        simp only [Prod.mk.injEq] at hfin
        obtain ⟨rfl, rfl⟩ := hfin
        exact hB.2 s' hcl
      | next s' =>
        rw [hcl] at hfin
        simp only at hfin
        have hI2 : I s' [] reps' [] := hB.1 s' hcl
        unfold updateStage at hfin
        by_cases hod : (v.strat == StratType.onDelete) = true
        · simp only [hod, if_true, Prod.mk.injEq] at hfin
          rw [← hfin.1]; exact hP _ _ _ _ hI2
        · simp only [hod, Bool.false_eq_true, if_false] at hfin
          rcases updateWalk_cases cur upd f (reps'.filter (fun ip => partOf v ≤ ip.1)).reverse s' with h | ⟨pre, t, q, post, e, _, h3, h4, h5⟩
          · rw [h] at hfin
            simp only [Prod.mk.injEq, and_true] at hfin
            rw [← hfin]; exact hP _ _ _ _ hI2
          · rw [h5] at hfin
            simp only [Prod.mk.injEq] at hfin
            obtain ⟨hs, ho⟩ := hfin
            have hhit : f.hit 1 t = false := by
              by_cases hh : f.hit 1 t = true
              · simp [hh] at ho
              · simpa using hh
            have hmem : (t, q) ∈ reps' :=
              (List.mem_filter.1 (List.mem_reverse.1 (e ▸ List.mem_append_right _ List.mem_cons_self))).1
            rw [← hs]
            exact hwalk s' reps' t q hI2 hmem h3 h4 hhit

/-! ### the replica step, by cases -/

def _root_.Asts.Pod.fs (p : Pod) : Bool := p.failed || p.succeeded

theorem fs_created {p : Pod} (h : p.fs = true) : p.created = true := by
  unfold Pod.fs Pod.failed Pod.succeeded at h
  unfold Pod.created
  revert h
  cases p.phase <;> decide

theorem fs_not_rr {p : Pod} (h : p.fs = true) : p.runningAndReady = false := by
  unfold Pod.fs Pod.failed Pod.succeeded at h
  unfold Pod.runningAndReady
  revert h
  cases p.phase <;> first | exact fun _ => rfl | exact fun h => nomatch h

/-- state after a Failed/Succeeded pod was deleted (a terminating pod was not counted by the census) -/
def stepDelete (cur upd : String) (s : St) (i : Int) (q : Pod) : St :=
  { acts := s.acts ++ [.delete i q.id .replaceFailed],
    status := { (if q.terminating then s.status else bump s.status cur upd q.rev (-1)) with
                replicas := (if q.terminating then s.status else bump s.status cur upd q.rev (-1)).replicas - 1 } }

/-- state after a Failed/Succeeded pod was deleted and its replacement created -/
def stepReplace (v : SetView) (cur upd : String) (s : St) (i : Int) (q : Pod) : St :=
  { acts := s.acts ++ [.delete i q.id .replaceFailed] ++ [.create i (newPod v cur upd i).rev],
    status := bump { (if q.terminating then s.status else bump s.status cur upd q.rev (-1)) with
                     replicas := (if q.terminating then s.status else bump s.status cur upd q.rev (-1)).replicas - 1 + 1 }
                cur upd (newPod v cur upd i).rev 1 }

/-- state after a vacant slot was filled -/
def stepCreate (cur upd : String) (s : St) (i : Int) (q : Pod) : St :=
  { acts := s.acts ++ [.create i q.rev],
    status := bump { s.status with replicas := s.status.replicas + 1 } cur upd q.rev 1 }

theorem stepCreate_stepDelete (v : SetView) (cur upd : String) (s : St) (i : Int) (q : Pod) :
    stepCreate cur upd (stepDelete cur upd s i q) i (newPod v cur upd i) = stepReplace v cur upd s i q := rfl

theorem newPod_created (v cur upd i) : (newPod v cur upd i).created = false := by
  simp [newPod, Pod.created]

/-- how the replica loop hands on the state after a create: OrderedReady ends the reconcile there, Parallel goes on -/
def after (mono : Bool) (s : St) : Ctl := if mono then .done s .ok else .next s

theorem ensurePod_vacant (cur upd : String) (f : Faults) (mono : Bool) (s : St) (i : Int) {p : Pod}
    (hc : p.created = false) :
    ensurePod cur upd f mono s i p =
      if f.hit 0 i then .done { s with acts := s.acts ++ [.create i p.rev] } .err
      else after mono (stepCreate cur upd s i p) := by
  unfold ensurePod
  rw [hc]
  rfl

/-- the two waiting tests of OrderedReady (terminating; not Running and Ready) amount to "not healthy" -/
theorem ensurePod_created (cur upd : String) (f : Faults) (mono : Bool) (s : St) (i : Int) {p : Pod}
    (hc : p.created = true) :
    ensurePod cur upd f mono s i p =
      if !p.healthy && mono then .done s .ok
      else if p.idOk && p.stOk then .next s
      else if f.hit 2 i then .done { s with acts := s.acts ++ [.update i] } .err
      else .next { s with acts := s.acts ++ [.update i] } := by
  unfold ensurePod Pod.healthy
  rw [hc]
  cases p.terminating <;> cases p.runningAndReady <;> cases mono <;> rfl

theorem replicaStep_keep (v : SetView) (cur upd : String) (f : Faults) (mono : Bool) (s : St) (i : Int) {q : Pod}
    (h : q.fs = false) : replicaStep v cur upd f mono s i q = (ensurePod cur upd f mono s i q, q) := by
  unfold replicaStep replaceFailed
  rw [show (q.failed || q.succeeded) = false from h]
  rfl

theorem replicaStep_replace (v : SetView) (cur upd : String) (f : Faults) (mono : Bool) (s : St) (i : Int) {q : Pod}
    (h : q.fs = true) :
    replicaStep v cur upd f mono s i q =
      if f.hit 1 i then (.done { s with acts := s.acts ++ [.delete i q.id .replaceFailed] } .err, q)
      else (ensurePod cur upd f mono (stepDelete cur upd s i q) i (newPod v cur upd i), newPod v cur upd i) := by
  unfold replicaStep replaceFailed
  rw [show (q.failed || q.succeeded) = true from h]
  cases f.hit 1 i <;> rfl

/-- the calls one slot of the replica loop can give rise to, in order -/
def slotActs (v : SetView) (cur upd : String) (ip : Int × Pod) : List Action :=
  if ip.2.fs then [.delete ip.1 ip.2.id .replaceFailed, .create ip.1 (newPod v cur upd ip.1).rev]
  else if ip.2.created then [.update ip.1]
  else [.create ip.1 ip.2.rev]

theorem update_mem_slotActs {v : SetView} {cur upd : String} {ip : Int × Pod} {o : Int}
    (h : Action.update o ∈ slotActs v cur upd ip) : ip.2.fs = false ∧ ip.2.created = true ∧ o = ip.1 := by
  unfold slotActs at h
  cases hfs : ip.2.fs
  · rw [hfs, if_neg Bool.false_ne_true] at h
    cases hc : ip.2.created
    · rw [hc, if_neg Bool.false_ne_true] at h
      simp at h
    · rw [hc, if_pos rfl, List.mem_singleton] at h
      exact ⟨rfl, rfl, Action.update.inj h⟩
  · rw [hfs, if_pos rfl] at h
    simp at h

theorem delete_mem_slotActs {v : SetView} {cur upd : String} {ip : Int × Pod} {o : Int} {id : Nat} {w : Why}
    (h : Action.delete o id w ∈ slotActs v cur upd ip) : ip.2.fs = true ∧ o = ip.1 ∧ id = ip.2.id := by
  unfold slotActs at h
  cases hfs : ip.2.fs
  · rw [hfs, if_neg Bool.false_ne_true] at h
    cases hc : ip.2.created
    · rw [hc, if_neg Bool.false_ne_true] at h
      simp at h
    · rw [hc, if_pos rfl] at h
      simp at h
  · rw [hfs, if_pos rfl] at h
    simp only [List.mem_cons, Action.delete.injEq, reduceCtorEq, List.not_mem_nil, or_false] at h
    exact ⟨rfl, h.1, h.2.1⟩

theorem create_mem_slotActs {v : SetView} {cur upd : String} {ip : Int × Pod} {o : Int} {rev : String}
    (h : Action.create o rev ∈ slotActs v cur upd ip) : o = ip.1 := by
  unfold slotActs at h
  cases hfs : ip.2.fs
  · rw [hfs, if_neg Bool.false_ne_true] at h
    cases hc : ip.2.created
    · rw [hc, if_neg Bool.false_ne_true, List.mem_singleton] at h
      exact (Action.create.inj h).1
    · rw [hc, if_pos rfl] at h
      simp at h
  · rw [hfs, if_pos rfl] at h
    simp only [List.mem_cons, reduceCtorEq, Action.create.injEq, List.not_mem_nil, or_false, false_or] at h
    exact h.1

theorem replicaStep_acts (v : SetView) (cur upd : String) (f : Faults) (mono : Bool) (s : St) (i : Int) (q : Pod) :
    ∃ l : List Action, l.Sublist (slotActs v cur upd (i, q)) ∧
      (replicaStep v cur upd f mono s i q).1.st.acts = s.acts ++ l := by
  unfold slotActs
  cases hfs : q.fs
  · rw [replicaStep_keep _ _ _ _ _ _ _ hfs, if_neg Bool.false_ne_true]
    cases hc : q.created
    · rw [ensurePod_vacant _ _ _ _ _ _ hc, if_neg Bool.false_ne_true]
      refine ⟨_, List.Sublist.refl _, ?_⟩
      cases f.hit 0 i <;> cases mono <;> rfl
    · rw [ensurePod_created _ _ _ _ _ _ hc, if_pos rfl]
      by_cases h1 : (!q.healthy && mono) = true
      · rw [if_pos h1]
        exact ⟨[], List.nil_sublist _, (List.append_nil _).symm⟩
      rw [if_neg h1]
      by_cases h2 : (q.idOk && q.stOk) = true
      · rw [if_pos h2]
        exact ⟨[], List.nil_sublist _, (List.append_nil _).symm⟩
      rw [if_neg h2]
      refine ⟨_, List.Sublist.refl _, ?_⟩
      cases f.hit 2 i <;> rfl
  · rw [replicaStep_replace _ _ _ _ _ _ _ hfs, if_pos rfl]
    cases f.hit 1 i
    · rw [if_neg Bool.false_ne_true, ensurePod_vacant _ _ _ _ _ _ (newPod_created ..)]
      refine ⟨_, List.Sublist.refl _, ?_⟩
      cases f.hit 0 i <;> cases mono <;> exact List.append_assoc ..
    · exact ⟨[.delete i q.id .replaceFailed], List.singleton_sublist.2 List.mem_cons_self, rfl⟩

/-- the replica loop appends, slot by slot and in order, some of the calls of each slot it reaches -/
theorem replicaLoop_acts (v : SetView) (cur upd : String) (f : Faults) (mono : Bool) (R : List (Int × Pod)) (s : St) :
    ∃ l : List Action, l.Sublist (R.flatMap (slotActs v cur upd)) ∧
      (replicaLoop v cur upd f mono s R).1.st.acts = s.acts ++ l := by
  induction R generalizing s with
  | nil => exact ⟨[], List.Sublist.slnil, (List.append_nil _).symm⟩
  | cons ip rest ih =>
    obtain ⟨i, q⟩ := ip
    obtain ⟨l1, hs1, hl1⟩ := replicaStep_acts v cur upd f mono s i q
    rw [replicaLoop, List.flatMap_cons]
    rcases hstep : replicaStep v cur upd f mono s i q with ⟨c, q'⟩
    rw [hstep] at hl1
    cases c with
    | done s' o => exact ⟨l1, hs1.trans (List.sublist_append_left _ _), hl1⟩
    | next s' =>
      obtain ⟨l2, hs2, hl2⟩ := ih s'
      refine ⟨l1 ++ l2, hs1.append hs2, hl2.trans ?_⟩
      rw [show s'.acts = s.acts ++ l1 from hl1, List.append_assoc]

/-- the action list of the three loops: what the replica loop issued for its slots, then deletes only -/
theorem runLoops_acts (v : SetView) (cur upd : String) (f : Faults) (p : Prepared) :
    ∃ l1 l2 : List Action, l1.Sublist (p.reps.flatMap (slotActs v cur upd)) ∧
      (∀ a ∈ l2, ∃ o id w, a = Action.delete o id w) ∧ (runLoops v cur upd f p).1.acts = l1 ++ l2 := by
  obtain ⟨l1, hs1, hl1⟩ := replicaLoop_acts v cur upd f (!v.parallel) p.reps { status := p.st0 }
  rw [runLoops]
  rcases hrl : replicaLoop v cur upd f (!v.parallel) { status := p.st0 } p.reps with ⟨c, reps'⟩
  rw [hrl] at hl1
  cases c with
  | done s o => exact ⟨l1, [], hs1, fun _ h => (nomatch h), hl1.trans (List.append_nil _).symm⟩
  | next s =>
    obtain ⟨ds, -, hl2⟩ := condemnedLoop_acts cur upd f (!v.parallel) p.fu p.condemned.reverse s
    have hds : ∀ a ∈ ds.map (fun c => Action.delete c.ord c.id .scaleDown), ∃ o id w, a = Action.delete o id w := by
      intro a ha
      obtain ⟨c, -, rfl⟩ := List.mem_map.1 ha
      exact ⟨_, _, _, rfl⟩
    rw [show s.acts = l1 from hl1] at hl2
    dsimp only
    rcases hcl : condemnedLoop cur upd f (!v.parallel) p.fu s p.condemned.reverse with s2 | ⟨s2, o⟩
    · rw [hcl] at hl2
      dsimp only
      rw [updateStage]
      by_cases hod : (v.strat == .onDelete) = true
      · rw [if_pos hod]
        exact ⟨l1, _, hs1, hds, hl2⟩
      · rw [if_neg hod]
        rcases updateWalk_cases cur upd f (reps'.filter (fun ip => partOf v ≤ ip.1)).reverse s2 with
          e | ⟨-, t, q, -, -, -, -, -, e⟩
        · rw [e]
          exact ⟨l1, _, hs1, hds, hl2⟩
        · rw [e]
          refine ⟨l1, ds.map (fun c => Action.delete c.ord c.id .scaleDown) ++ [.delete t q.id .update], hs1,
            fun a ha => ?_, ?_⟩
          · rcases List.mem_append.1 ha with ha | ha
            · exact hds a ha
            · exact ⟨_, _, _, List.mem_singleton.1 ha⟩
          · rw [← List.append_assoc]
            exact congrArg (· ++ [Action.delete t q.id .update]) hl2
    · rw [hcl] at hl2
      exact ⟨l1, _, hs1, hds, hl2⟩

/-- every call of a reconcile is a call of one of the replica loop's slots or a delete of one of the later loops -/
theorem updateStatefulSet_acts {v : SetView} {cur upd : String} {pods : List Pod} {f : Faults} {a : Action}
    (h : a ∈ (updateStatefulSet v cur upd pods f).1.acts) :
    ∃ r, v.replicas = some r ∧
      ((∃ ip ∈ (prepOf v cur upd r pods).reps, a ∈ slotActs v cur upd ip) ∨ ∃ o id w, a = Action.delete o id w) := by
  cases hr : v.replicas with
  | none =>
    rw [updateStatefulSet_none hr] at h
    cases h
  | some r =>
    refine ⟨r, rfl, ?_⟩
    rw [updateStatefulSet_some hr] at h
    by_cases hdel : v.deleting = true
    · rw [if_pos hdel] at h
      cases h
    · rw [if_neg hdel] at h
      obtain ⟨l1, l2, hsub, hl2, e⟩ := runLoops_acts v cur upd f (prepOf v cur upd r pods)
      rw [e] at h
      rcases List.mem_append.1 h with h1 | h2
      · exact Or.inl (List.mem_flatMap.1 (hsub.subset h1))
      · exact Or.inr (hl2 a h2)

theorem healthy_not_fs {p : Pod} (h : p.healthy = true) : p.fs = false := by
  obtain ⟨-, -, -, h1, h2⟩ := healthy_facts h
  rw [Pod.fs, h1, h2]
  rfl

theorem replicaStep_quiet (v : SetView) (cur upd : String) (f : Faults) (mono : Bool) (s : St) (i : Int) {p : Pod}
    (hh : p.healthy = true) (hid : p.idOk = true) (hst : p.stOk = true) :
    replicaStep v cur upd f mono s i p = (.next s, p) := by
  rw [replicaStep_keep _ _ _ _ _ _ _ (healthy_not_fs hh), ensurePod_created _ _ _ _ _ _ (healthy_facts hh).2.2.1, hh, hid, hst]
  rfl

theorem replicaLoop_quiet_append (v : SetView) (cur upd : String) (f : Faults) (mono : Bool) (R1 R2 : List (Int × Pod))
    (hR : ∀ ip ∈ R1, ip.2.healthy = true ∧ ip.2.idOk = true ∧ ip.2.stOk = true) (s : St) :
    replicaLoop v cur upd f mono s (R1 ++ R2) =
      ((replicaLoop v cur upd f mono s R2).1, R1 ++ (replicaLoop v cur upd f mono s R2).2) := by
  induction R1 with
  | nil => rfl
  | cons ip rest ih =>
    obtain ⟨hh, hid, hst⟩ := hR ip List.mem_cons_self
    rw [List.cons_append, replicaLoop, replicaStep_quiet v cur upd f mono s ip.1 hh hid hst]
    dsimp only
    rw [ih (fun ip hip => hR ip (List.mem_cons_of_mem _ hip))]
    rfl

theorem replicaLoop_quiet (v : SetView) (cur upd : String) (f : Faults) (mono : Bool) (R : List (Int × Pod))
    (hR : ∀ ip ∈ R, ip.2.healthy = true ∧ ip.2.idOk = true ∧ ip.2.stOk = true) (s : St) :
    replicaLoop v cur upd f mono s R = (.next s, R) := by
  have := replicaLoop_quiet_append v cur upd f mono R [] hR s
  rw [List.append_nil] at this
  exact this.trans (congrArg (Prod.mk _) (List.append_nil R))

/-- the update walk deletes nothing when every pod it may look at is at the update revision (healthy or not) -/
theorem updateWalk_allupd (cur upd : String) (f : Faults) (s : St) (W : List (Int × Pod))
    (h : ∀ tp ∈ W, tp.2.rev = upd) : updateWalk cur upd f s W = (s, .ok) := by
  rcases updateWalk_cases cur upd f W s with e | ⟨pre, t, q, post, rfl, -, hq, -⟩
  · exact e
  · exact absurd (h (t, q) (List.mem_append_right _ List.mem_cons_self)) (bne_iff_ne.1 hq)

theorem updateStage_allupd (v : SetView) (cur upd : String) (f : Faults) (reps : List (Int × Pod)) (s : St)
    (h : ∀ tp ∈ reps, tp.2.rev = upd) : updateStage v cur upd f reps s = (s, .ok) := by
  unfold updateStage
  by_cases hs : (v.strat == .onDelete) = true
  · rw [if_pos hs]
  · rw [if_neg hs]
    exact updateWalk_allupd cur upd f s _ fun tp htp => h tp (List.mem_filter.1 (List.mem_reverse.1 htp)).1

theorem replicaStep_good (v : SetView) (cur upd : String) (f : Faults) (mono : Bool) (s : St) (i : Int) (q : Pod)
    (s' : St) (q' : Pod)
    (h : replicaStep v cur upd f mono s i q = (.next s', q') ∨ replicaStep v cur upd f mono s i q = (.done s' .ok, q')) :
    (q.fs = true ∧ q' = newPod v cur upd i ∧ s' = stepReplace v cur upd s i q) ∨
    (q.fs = false ∧ q.created = false ∧ q' = q ∧ s' = stepCreate cur upd s i q) ∨
    (q.fs = false ∧ q.created = true ∧ q' = q ∧ (s' = s ∨ s' = { s with acts := s.acts ++ [.update i] })) := by
  have hafter : ∀ {t : St} {p : Pod}, (after mono t, p) = (.next s', q') ∨ (after mono t, p) = (.done s' .ok, q') →
      q' = p ∧ s' = t := by
    intro t p h
    cases mono <;> rcases h with h | h <;> cases h <;> exact ⟨rfl, rfl⟩
  cases hfs : q.fs
  · right
    rw [replicaStep_keep _ _ _ _ _ _ _ hfs] at h
    cases hc : q.created
    · left
      rw [ensurePod_vacant _ _ _ _ _ _ hc] at h
      split_ifs at h
      · rcases h with h | h <;> cases h
      · exact ⟨rfl, rfl, hafter h⟩
    · right
      rw [ensurePod_created _ _ _ _ _ _ hc] at h
      split_ifs at h
      · rcases h with h | h <;> cases h
        exact ⟨rfl, rfl, rfl, Or.inl rfl⟩
      · rcases h with h | h <;> cases h
        exact ⟨rfl, rfl, rfl, Or.inl rfl⟩
      · rcases h with h | h <;> cases h
      · rcases h with h | h <;> cases h
        exact ⟨rfl, rfl, rfl, Or.inr rfl⟩
  · left
    rw [replicaStep_replace _ _ _ _ _ _ _ hfs, ensurePod_vacant _ _ _ _ _ _ (newPod_created ..),
      stepCreate_stepDelete] at h
    split_ifs at h
    · rcases h with h | h <;> cases h
    · rcases h with h | h <;> cases h
    · exact ⟨rfl, hafter h⟩

/-- `runLoops_induct` with the replica step already split into its three effects -/
theorem runLoops_induct' (v : SetView) (cur upd : String) (f : Faults) (p : Prepared)
    (I : St → List (Int × Pod) → List (Int × Pod) → List Pod → Prop) (P : St → Prop)
    (hP : ∀ s R W C, I s R W C → P s)
    (hA : ∀ s i q R W C, I s ((i, q) :: R) W C → q.fs = true →
      I (stepReplace v cur upd s i q) R (W ++ [(i, newPod v cur upd i)]) C)
    (hB : ∀ s i q R W C, I s ((i, q) :: R) W C → q.fs = false → q.created = false →
      I (stepCreate cur upd s i q) R (W ++ [(i, q)]) C)
    (hC : ∀ s i q R W C, I s ((i, q) :: R) W C → q.fs = false → q.created = true → I s R (W ++ [(i, q)]) C)
    (hU : ∀ s i R W C, I s R W C → I { s with acts := s.acts ++ [.update i] } R W C)
    (hskip : ∀ s c C W, I s [] W (c :: C) → I s [] W C)
    (hdel : ∀ s c C W, I s [] W (c :: C) → c.terminating = false → f.hit 1 c.ord = false →
      I { acts := s.acts ++ [.delete c.ord c.id .scaleDown], status := bump s.status cur upd c.rev (-1) } [] W C)
    (hwalk : ∀ s W t q, I s [] W [] → (t, q) ∈ W → (q.rev != upd) = true → q.terminating = false → f.hit 1 t = false →
      P { acts := s.acts ++ [.delete t q.id .update],
          status := if q.rev == cur then { s.status with current := s.status.current - 1 } else s.status })
    (hinit : I { status := p.st0 } p.reps [] p.condemned.reverse) :
    ∀ s, runLoops v cur upd f p = (s, .ok) → P s := by
  have key : ∀ s i q R W C s' q', I s ((i, q) :: R) W C →
      (replicaStep v cur upd f (!v.parallel) s i q = (.next s', q') ∨
       replicaStep v cur upd f (!v.parallel) s i q = (.done s' .ok, q')) → I s' R (W ++ [(i, q')]) C := by
    intro s i q R W C s' q' hI h
    rcases replicaStep_good v cur upd f _ s i q s' q' h with ⟨h1, rfl, rfl⟩ | ⟨h1, h2, rfl, rfl⟩ | ⟨h1, h2, rfl, h3⟩
    · exact hA s i q R W C hI h1
    · exact hB s i q' R W C hI h1 h2
    · rcases h3 with rfl | rfl
      · exact hC s' i q' R W C hI h1 h2
      · exact hU s i R _ C (hC s i q' R W C hI h1 h2)
  apply runLoops_induct v cur upd f p I P hP _ hskip hdel hwalk hinit
  intro s i q R W C hI
  exact ⟨fun s' q' h => key s i q R W C s' q' hI (Or.inl h),
         fun s' q' h => hP _ _ _ _ (key s i q R W C s' q' hI (Or.inr h))⟩

/-! ### the monitors' lists of a concatenation -/

theorem createOrds_append (a b : List OAct) : createOrds (a ++ b) = createOrds a ++ createOrds b :=
  List.filterMap_append
theorem scaleDeletes_append (D : List Int) (pods : List Pod) (a b : List OAct) :
    scaleDeletes D pods (a ++ b) = scaleDeletes D pods a ++ scaleDeletes D pods b :=
  List.filterMap_append
theorem updateDeletes_append (D : List Int) (pods : List Pod) (a b : List OAct) :
    updateDeletes D pods (a ++ b) = updateDeletes D pods a ++ updateDeletes D pods b :=
  List.filterMap_append
theorem observe_append (a b : List Action) : observe (a ++ b) = observe a ++ observe b :=
  List.map_append

def cnt (q : Pod → Bool) (l : List Pod) : Int := ((l.countP q : Nat) : Int)

@[simp] theorem cnt_nil (q : Pod → Bool) : cnt q [] = 0 := rfl
theorem cnt_cons (q : Pod → Bool) (p : Pod) (l : List Pod) : cnt q (p :: l) = cnt q l + (if q p then 1 else 0) := by
  unfold cnt; rw [List.countP_cons]; push_cast; split_ifs <;> simp
theorem cnt_append (q : Pod → Bool) (a b : List Pod) : cnt q (a ++ b) = cnt q a + cnt q b := by
  unfold cnt; rw [List.countP_append]; push_cast; rfl
theorem cnt_nonneg (q : Pod → Bool) (l : List Pod) : 0 ≤ cnt q l := by unfold cnt; exact Int.natCast_nonneg _
theorem cnt_le_length (q : Pod → Bool) (l : List Pod) : cnt q l ≤ l.length := by
  unfold cnt; exact_mod_cast List.countP_le_length
theorem cnt_mono {q q' : Pod → Bool} (l : List Pod) (h : ∀ p ∈ l, q p = true → q' p = true) : cnt q l ≤ cnt q' l := by
  unfold cnt; exact_mod_cast List.countP_mono_left h
theorem cnt_perm {q : Pod → Bool} {a b : List Pod} (h : a.Perm b) : cnt q a = cnt q b := by
  unfold cnt; rw [h.countP_eq]
theorem cnt_pos_of_mem {q : Pod → Bool} {l : List Pod} {p : Pod} (hp : p ∈ l) (hq : q p = true) : 1 ≤ cnt q l := by
  unfold cnt
  have : 0 < l.countP q := List.countP_pos_iff.2 ⟨p, hp, hq⟩
  exact_mod_cast this
theorem cnt_eq_filter_length (q : Pod → Bool) (l : List Pod) : cnt q l = ((l.filter q).length : Int) := by
  unfold cnt; rw [List.countP_eq_length_filter]
theorem cnt_eq_length_iff {q : Pod → Bool} {l : List Pod} : cnt q l = l.length ↔ ∀ p ∈ l, q p = true := by
  unfold cnt
  rw [Int.natCast_inj]
  exact List.countP_eq_length

def nCreate : List Action → Int
  | [] => 0
  | .create _ _ :: l => nCreate l + 1
  | _ :: l => nCreate l
def nDelete : List Action → Int
  | [] => 0
  | .delete _ _ _ :: l => nDelete l + 1
  | _ :: l => nDelete l
def nReplace : List Action → Int
  | [] => 0
  | .delete _ _ .replaceFailed :: l => nReplace l + 1
  | _ :: l => nReplace l

theorem counter_eq_countP {n : List Action → Int} {k : Action → Bool} (h0 : n [] = 0)
    (hc : ∀ x l, n (x :: l) = if k x then n l + 1 else n l) : ∀ l, n l = (l.countP k : Nat)
  | [] => h0
  | x :: l => by
    rw [hc, counter_eq_countP h0 hc l, List.countP_cons]
    split_ifs <;> simp

theorem nCreate_eq (l : List Action) : nCreate l = (l.countP fun | .create _ _ => true | _ => false : Nat) :=
  counter_eq_countP rfl (fun x _ => by cases x <;> rfl) l
theorem nDelete_eq (l : List Action) : nDelete l = (l.countP fun | .delete _ _ _ => true | _ => false : Nat) :=
  counter_eq_countP rfl (fun x _ => by cases x <;> rfl) l
theorem nReplace_eq (l : List Action) :
    nReplace l = (l.countP fun | .delete _ _ .replaceFailed => true | _ => false : Nat) :=
  counter_eq_countP rfl (fun x _ => by rcases x with _ | ⟨_, _, _ | _ | _⟩ | _ <;> rfl) l

theorem nCreate_append (a b : List Action) : nCreate (a ++ b) = nCreate a + nCreate b := by
  simp only [nCreate_eq, List.countP_append, Nat.cast_add]
theorem nDelete_append (a b : List Action) : nDelete (a ++ b) = nDelete a + nDelete b := by
  simp only [nDelete_eq, List.countP_append, Nat.cast_add]
theorem nReplace_append (a b : List Action) : nReplace (a ++ b) = nReplace a + nReplace b := by
  simp only [nReplace_eq, List.countP_append, Nat.cast_add]
theorem nCreate_nonneg (a : List Action) : 0 ≤ nCreate a := nCreate_eq a ▸ Int.natCast_nonneg _
theorem nDelete_nonneg (a : List Action) : 0 ≤ nDelete a := nDelete_eq a ▸ Int.natCast_nonneg _
theorem nReplace_nonneg (a : List Action) : 0 ≤ nReplace a := nReplace_eq a ▸ Int.natCast_nonneg _

@[simp] theorem nCreate_nil : nCreate [] = 0 := rfl
@[simp] theorem nDelete_nil : nDelete [] = 0 := rfl
@[simp] theorem nReplace_nil : nReplace [] = 0 := rfl
@[simp] theorem nCreate_create (o r) : nCreate [.create o r] = 1 := rfl
@[simp] theorem nCreate_delete (o i w) : nCreate [.delete o i w] = 0 := rfl
@[simp] theorem nCreate_update (o) : nCreate [.update o] = 0 := rfl
@[simp] theorem nDelete_create (o r) : nDelete [.create o r] = 0 := rfl
@[simp] theorem nDelete_delete (o i w) : nDelete [.delete o i w] = 1 := rfl
@[simp] theorem nDelete_update (o) : nDelete [.update o] = 0 := rfl
@[simp] theorem nReplace_create (o r) : nReplace [.create o r] = 0 := rfl
@[simp] theorem nReplace_replace (o i) : nReplace [.delete o i .replaceFailed] = 1 := rfl
@[simp] theorem nReplace_scale (o i) : nReplace [.delete o i .scaleDown] = 0 := rfl
@[simp] theorem nReplace_updateDel (o i) : nReplace [.delete o i .update] = 0 := rfl
@[simp] theorem nReplace_update (o) : nReplace [.update o] = 0 := rfl

theorem nCreate_zero_iff (a : List Action) : nCreate a = 0 ↔ ∀ x ∈ a, ∀ o r, x ≠ .create o r := by
  rw [nCreate_eq, Int.natCast_eq_zero, List.countP_eq_zero]
  refine forall₂_congr fun x _ => ?_
  cases x
  · exact ⟨fun h => absurd rfl h, fun h => absurd rfl (h _ _)⟩
  · exact ⟨fun _ _ _ h => (nomatch h), fun _ h => (nomatch h)⟩
  · exact ⟨fun _ _ _ h => (nomatch h), fun _ h => (nomatch h)⟩

theorem nDelete_zero_iff (a : List Action) : nDelete a = 0 ↔ ∀ x ∈ a, ∀ o i w, x ≠ .delete o i w := by
  rw [nDelete_eq, Int.natCast_eq_zero, List.countP_eq_zero]
  refine forall₂_congr fun x _ => ?_
  cases x
  · exact ⟨fun _ _ _ _ h => (nomatch h), fun _ h => (nomatch h)⟩
  · exact ⟨fun h => absurd rfl h, fun h => absurd rfl (h _ _ _)⟩
  · exact ⟨fun _ _ _ _ h => (nomatch h), fun _ h => (nomatch h)⟩

/-! ### `bump`, field by field -/

theorem bump_eq (st : Status) (cur upd rev : String) (d : Int) :
    bump st cur upd rev d = { st with current := st.current + (if rev == cur then d else 0),
                                      updated := st.updated + (if rev == upd then d else 0) } := by
  unfold bump
  cases rev == cur <;> cases rev == upd <;> simp

@[simp] theorem bump_replicas (st cur upd rev d) : (bump st cur upd rev d).replicas = st.replicas := by rw [bump_eq]
@[simp] theorem bump_ready (st cur upd rev d) : (bump st cur upd rev d).ready = st.ready := by rw [bump_eq]
@[simp] theorem bump_observedGen (st cur upd rev d) : (bump st cur upd rev d).observedGen = st.observedGen := by
  rw [bump_eq]
@[simp] theorem bump_currentRev (st cur upd rev d) : (bump st cur upd rev d).currentRev = st.currentRev := by
  rw [bump_eq]
@[simp] theorem bump_updateRev (st cur upd rev d) : (bump st cur upd rev d).updateRev = st.updateRev := by
  rw [bump_eq]
theorem bump_current (st cur upd rev d) :
    (bump st cur upd rev d).current = st.current + (if rev == cur then d else 0) := by rw [bump_eq]
theorem bump_updated (st cur upd rev d) :
    (bump st cur upd rev d).updated = st.updated + (if rev == upd then d else 0) := by rw [bump_eq]

end Asts.L1c
