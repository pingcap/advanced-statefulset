import Asts.Proofs.C02_BOwn
import Asts.Proofs.C02_BCtx

/-! C02, normalising rounds: the prepared world (the same world with the revision work done and every pod owned) is
    normal; its update revision, current revision and deleted history in terms of the world it was prepared from. -/
namespace Asts.C02p
open Asts Asts.L1c

section
variable {h : Hashing} {j : SyncIn} {G : List Rev} {upd : Rev} {cc : Int}

theorem prep_eq (hp : PreC j) (hpick : PickOut h j.template (j.collisionCount.getD 0) (adoptS j.store) G upd cc) :
    prepStore h j = G ∧
    prepCC h j = (if cc == j.collisionCount.getD 0 then j.collisionCount else some cc) := by
  obtain ⟨lgA, _, hadopt⟩ := adopt_nil j.fresh hp.gone hp.uid hp.fdel j.store []
  obtain ⟨lgP, _, hrun⟩ := hpick.run j.stored.currentRev ([] ++ lgA)
  have e0 : ({ store := j.store } : RevSt) = { store := j.store, tr := { log := [] } } := rfl
  constructor
  · unfold prepStore
    simp only [hp.spec.del, e0, hadopt, hrun]
  · unfold prepCC
    simp only [hp.spec.del, e0, hadopt, hrun]

/-- the prepared world, field by field: only the store, the collision count and the owners of the pods change -/
theorem prepW_eq (h : Hashing) (j : SyncIn) :
    prepW h j = { j with store := prepStore h j, collisionCount := prepCC h j, pods := j.pods.map own } := by
  unfold prepW ownS; dsimp only; rfl

theorem prepW_setName (h : Hashing) (j : SyncIn) : (prepW h j).setName = j.setName := by simp only [prepW_eq]
theorem prepW_view (h : Hashing) (j : SyncIn) : (prepW h j).view = j.view := by simp only [prepW_eq]
theorem prepW_stored (h : Hashing) (j : SyncIn) : (prepW h j).stored = j.stored := by simp only [prepW_eq]

theorem prepW_store (hp : PreC j) (hpick : PickOut h j.template (j.collisionCount.getD 0) (adoptS j.store) G upd cc) :
    (prepW h j).store = G := by
  simp only [prepW_eq]; exact (prep_eq hp hpick).1

theorem prepW_cc (hp : PreC j) (hpick : PickOut h j.template (j.collisionCount.getD 0) (adoptS j.store) G upd cc) :
    (prepW h j).collisionCount = (if cc == j.collisionCount.getD 0 then j.collisionCount else some cc) := by
  simp only [prepW_eq]; exact (prep_eq hp hpick).2

theorem prepW_cc_getD (hp : PreC j) (hpick : PickOut h j.template (j.collisionCount.getD 0) (adoptS j.store) G upd cc) :
    (prepW h j).collisionCount.getD 0 = cc := by
  rw [prepW_cc hp hpick]
  by_cases hc : cc = j.collisionCount.getD 0
  · rw [hc]; simp
  · have : (cc == j.collisionCount.getD 0) = false := by simpa using hc
    rw [this]; rfl

theorem prepW_listed (hp : PreC j) (hpick : PickOut h j.template (j.collisionCount.getD 0) (adoptS j.store) G upd cc) :
    listedRevs (prepW h j) = sortRevs (listRevisions G) := by
  unfold listedRevs
  rw [prepW_store hp hpick]

/-- **the prepared world is normal** -/
theorem prepW_norm (hp : PreC j) (hpick : PickOut h j.template (j.collisionCount.getD 0) (adoptS j.store) G upd cc) :
    NormC h (prepW h j) := by
  have hl := prepW_listed hp hpick
  have hst := prepW_store hp hpick
  have hcc := prepW_cc_getD hp hpick
  rw [prepW_eq] at hl hst hcc ⊢
  refine ⟨hp.spec.of_eq rfl rfl rfl rfl rfl rfl,
    ?_, ?_, ?_, ?_, ?_, hp.smallR, hp.gone⟩
  · intro c hc
    rw [List.mem_map] at hc
    obtain ⟨c0, hc0, rfl⟩ := hc
    obtain ⟨_, a2, a3, a4, a5, a7, a8⟩ := hp.pods c0 hc0
    exact ⟨rfl, a2, a3, a4, a5, a7, a8⟩
  · show ((j.pods.map own).map (·.pod.ord)).Nodup
    rw [List.map_map]
    exact hp.ords
  · refine ⟨upd, by rw [hl]; exact hpick.last, ?_⟩
    rw [hl]
    unfold freshRev
    rw [hcc]
    exact hpick.eqv
  · rw [hst, List.any_eq_false]
    intro x hx
    rw [hpick.owned x hx]
    simp
  · show (j.pods.map own).length ≤ freshId
    rw [List.length_map]; exact hp.small

theorem prepW_updRev (hp : PreC j) (hpick : PickOut h j.template (j.collisionCount.getD 0) (adoptS j.store) G upd cc)
    (hn : NormC h (prepW h j)) : hn.updRev = upd := by
  have := hn.updRev_spec.1
  rw [prepW_listed hp hpick, hpick.last] at this
  exact (Option.some.inj this).symm

theorem prepW_curName (hp : PreC j) (hpick : PickOut h j.template (j.collisionCount.getD 0) (adoptS j.store) G upd cc)
    (hn : NormC h (prepW h j)) :
    hn.curRev.name =
      (((sortRevs (listRevisions (adoptS j.store))).find? (·.name == j.stored.currentRev)).getD upd).name := by
  unfold NormC.curRev
  rw [prepW_updRev hp hpick hn, prepW_listed hp hpick, find_getD_name, find_getD_name]
  rw [prepW_stored]
  have := hpick.lnames j.stored.currentRev
  by_cases h1 : j.stored.currentRev ∈ (sortRevs (listRevisions (adoptS j.store))).map (·.name)
  · rw [if_pos h1, if_pos (this.2 (Or.inl h1))]
  · rw [if_neg h1]
    by_cases h2 : j.stored.currentRev = upd.name
    · rw [if_pos (this.2 (Or.inr h2))]; exact h2
    · rw [if_neg]
      intro hm
      rcases this.1 hm with h3 | h3
      · exact h1 h3
      · exact h2 h3

/-- the same history is deleted -/
theorem prepW_victims (hp : PreC j) (hpick : PickOut h j.template (j.collisionCount.getD 0) (adoptS j.store) G upd cc)
    (hn : NormC h (prepW h j)) (lim : Int) (hlim : j.historyLimit = some lim) :
    hn.victims = victimsOf lim (j.pods.map (·.pod.rev)) (sortRevs (listRevisions (adoptS j.store)))
      (((sortRevs (listRevisions (adoptS j.store))).find? (·.name == j.stored.currentRev)).getD upd) upd := by
  unfold NormC.victims
  have hl : (prepW h j).historyLimit = some lim := hlim
  have hpr : (prepW h j).pods.map (·.pod.rev) = j.pods.map (·.pod.rev) := by
    show (j.pods.map own).map (·.pod.rev) = _
    rw [List.map_map]; rfl
  rw [hl, hpr, prepW_listed hp hpick]
  simp only [Option.getD_some]
  have hh : histOf (j.pods.map (·.pod.rev)) (sortRevs (listRevisions G)) hn.curRev hn.updRev =
      histOf (j.pods.map (·.pod.rev)) (sortRevs (listRevisions (adoptS j.store)))
        (((sortRevs (listRevisions (adoptS j.store))).find? (·.name == j.stored.currentRev)).getD upd) upd := by
    unfold histOf
    rw [prepW_curName hp hpick hn, prepW_updRev hp hpick hn]
    apply hpick.hist
    · simp
    · intro r r' h1 h2
      rw [h1, h2]
  unfold victimsOf
  rw [hh]

theorem syncIn_ext (a b : SyncIn) (h1 : a.setName = b.setName) (h2 : a.paused = b.paused) (h3 : a.selectorOk = b.selectorOk)
    (h4 : a.view = b.view) (h5 : a.stored = b.stored) (h6 : a.collisionCount = b.collisionCount)
    (h7 : a.historyLimit = b.historyLimit) (h8 : a.template = b.template) (h9 : a.fresh = b.fresh)
    (h10 : a.store = b.store) (h11 : a.pods = b.pods) : a = b := by
  cases a; cases b; simp_all

/-- overriding the fields the preparation touches forgets the preparation -/
theorem prepW_with (h : Hashing) (j : SyncIn) (S : List Rev) (st : Status) (c : Option Int) (v : SetView) (P : List CPod) :
    ({ prepW h j with store := S, stored := st, collisionCount := c, view := v, pods := P } : SyncIn) =
      { j with store := S, stored := st, collisionCount := c, view := v, pods := P } := by
  unfold prepW ownS; rfl

end

end Asts.C02p
