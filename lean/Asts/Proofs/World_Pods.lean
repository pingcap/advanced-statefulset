import Asts.Model.World
import Mathlib.Tactic
import Mathlib.Data.String.Basic

/-! # The pod list of a world — base of the glue files (`GL_*`) and of C02

`sortPods` is an insertion sort by name, `reindex` gives every pod its position as id (`IdPos`); `settle` and `applySync`
both end with `reindex (sortPods …)`. -/
namespace Asts

theorem insertPodByName_perm (c : CPod) (l : List CPod) : (insertPodByName c l).Perm (c :: l) := by
  induction l with
  | nil => exact List.Perm.refl _
  | cons q qs ih =>
    unfold insertPodByName
    by_cases hlt : c.name < q.name
    · rw [if_pos hlt]
    · rw [if_neg hlt]
      exact (ih.cons q).trans (List.Perm.swap c q qs)

theorem mem_insertPodByName {c x : CPod} {l : List CPod} : x ∈ insertPodByName c l ↔ x = c ∨ x ∈ l :=
  (insertPodByName_perm c l).mem_iff.trans List.mem_cons

theorem sortPods_cons (a : CPod) (l : List CPod) : sortPods (a :: l) = insertPodByName a (sortPods l) := by
  unfold sortPods
  rw [List.reverse_cons, List.foldl_append]
  rfl

theorem sortPods_perm (l : List CPod) : (sortPods l).Perm l := by
  induction l with
  | nil => exact List.Perm.refl _
  | cons a l ih =>
    rw [sortPods_cons]
    exact (insertPodByName_perm a _).trans (ih.cons a)

@[simp] theorem length_sortPods (l : List CPod) : (sortPods l).length = l.length := (sortPods_perm l).length_eq

theorem insertPodByName_sorted (c : CPod) (l : List CPod) (hl : l.Pairwise (fun a b => ¬ b.name < a.name)) :
    (insertPodByName c l).Pairwise (fun a b => ¬ b.name < a.name) := by
  induction l with
  | nil => exact List.pairwise_singleton _ _
  | cons q qs ih =>
    unfold insertPodByName
    rw [List.pairwise_cons] at hl
    by_cases hlt : c.name < q.name
    · rw [if_pos hlt, List.pairwise_cons]
      refine ⟨?_, List.pairwise_cons.2 hl⟩
      intro x hx
      rcases List.mem_cons.1 hx with rfl | hx
      · exact String.lt_asymm hlt
      · exact fun hxc => hl.1 x hx (String.lt_trans hxc hlt)
    · rw [if_neg hlt, List.pairwise_cons]
      refine ⟨?_, ih hl.2⟩
      intro x hx
      rcases mem_insertPodByName.1 hx with rfl | hx
      · exact hlt
      · exact hl.1 x hx

theorem sortPods_sorted (l : List CPod) : (sortPods l).Pairwise (fun a b => ¬ b.name < a.name) := by
  induction l with
  | nil => exact List.Pairwise.nil
  | cons a l ih => rw [sortPods_cons]; exact insertPodByName_sorted a _ ih

/-- pods with pairwise distinct names come out of `sortPods` with strictly increasing names -/
theorem sortPods_names_sorted {l : List CPod} (hn : (l.map (·.name)).Nodup) :
    ((sortPods l).map (·.name)).Pairwise (· < ·) := by
  have hn' := ((sortPods_perm l).map (·.name)).nodup_iff.2 hn
  rw [List.nodup_iff_pairwise_ne, List.pairwise_map] at hn'
  rw [List.pairwise_map]
  refine ((sortPods_sorted l).and hn').imp ?_
  intro a b hab
  rcases lt_trichotomy a.name b.name with h | h | h
  · exact h
  · exact absurd h hab.2
  · exact absurd h hab.1

/-- `sortPods` leaves a list with strictly increasing names as it is -/
theorem sortPods_of_sorted {l : List CPod} (hl : (l.map (·.name)).Pairwise (· < ·)) : sortPods l = l := by
  induction l with
  | nil => rfl
  | cons a l ih =>
    rw [List.map_cons, List.pairwise_cons] at hl
    rw [sortPods_cons, ih hl.2]
    cases l with
    | nil => rfl
    | cons q qs =>
      unfold insertPodByName
      rw [if_pos (hl.1 q.name (List.mem_map_of_mem List.mem_cons_self))]

@[simp] theorem length_reindex (l : List CPod) : (reindex l).length = l.length := by
  simp [reindex]

theorem reindex_names (l : List CPod) : (reindex l).map (·.name) = l.map (·.name) := by
  unfold reindex
  rw [List.map_map]
  exact (List.map_map (g := fun c : CPod => c.name) (f := Prod.fst) (l := l.zipIdx)).symm.trans
    (congrArg _ (List.zipIdx_map_fst 0 l))

end Asts

namespace Asts.C02p
open Asts

/-- pod ids are list positions (what `reindex` establishes) -/
def IdPos (pods : List CPod) : Prop := ∀ (k : Nat) (c : CPod), pods[k]? = some c → c.pod.id = k

theorem reindex_idPos (l : List CPod) : IdPos (reindex l) := by
  intro k c hk
  unfold reindex at hk
  rw [List.getElem?_map, List.getElem?_zipIdx] at hk
  cases hl : l[k]? with
  | none => rw [hl] at hk; cases hk
  | some a =>
    rw [hl] at hk
    simp only [Option.map_some, Option.some.injEq] at hk
    rw [← hk]
    simp

theorem settle_idPos (i : SyncIn) : IdPos (settle i).pods := reindex_idPos _

theorem applySync_idPos (i : SyncIn) (plan : List Fault) (o : SyncOut) : IdPos (applySync i plan o).pods :=
  reindex_idPos _

end Asts.C02p

namespace Asts

theorem settle_length_le (i : SyncIn) : (settle i).pods.length ≤ i.pods.length := by
  unfold settle
  simp only [length_reindex, length_sortPods, List.length_map]
  exact List.length_filter_le _ _

/-- the sync a round runs is the sync of the settled world -/
theorem round_fst (h : Hashing) (i : SyncIn) (plan : List Fault) :
    (round h i plan).1 = applySync (settle i) plan (syncF h (settle i) plan) := rfl

end Asts
