import Asts.Proofs.C02_BSync

/-! C02, normalising rounds: forgetting who owns a pod (`ownS`) commutes with everything a round does to the pod list. -/
namespace Asts.C02p
open Asts Asts.L1c

def own (c : CPod) : CPod := { c with owner := .self }

theorem ownS_pods (j : SyncIn) : (ownS j).pods = j.pods.map own := rfl

theorem insertPodByName_map (g : CPod → CPod) (hg : ∀ c, (g c).name = c.name) (c : CPod) (l : List CPod) :
    (insertPodByName c l).map g = insertPodByName (g c) (l.map g) := by
  induction l with
  | nil => rfl
  | cons q qs ih =>
    rw [List.map_cons]
    unfold insertPodByName
    rw [hg, hg]
    split_ifs
    · rfl
    · rw [List.map_cons, ih]

theorem sortPods_map (g : CPod → CPod) (hg : ∀ c, (g c).name = c.name) (l : List CPod) :
    (sortPods l).map g = sortPods (l.map g) := by
  induction l with
  | nil => rfl
  | cons a l ih => rw [sortPods_cons, insertPodByName_map g hg, ih, List.map_cons, sortPods_cons]

theorem reindex_sort_map (g : CPod → CPod) (hg : ∀ c, (g c).name = c.name) (hk : ∀ c k, g (setId c k) = setId (g c) k)
    (l : List CPod) : (reindex (sortPods l)).map g = reindex (sortPods (l.map g)) := by
  rw [reindex_eq, reindexFrom_map g hk, sortPods_map g hg, reindex_eq]

theorem own_reindex_sort_map (l : List CPod) : (reindex (sortPods l)).map own = reindex (sortPods (l.map own)) :=
  reindex_sort_map own (fun _ => rfl) (fun _ _ => rfl) l

theorem setPod_map_own (pods : List CPod) (p : CPod → Bool) (f f' : CPod → CPod) (hp : ∀ c, p (own c) = p c)
    (hf : ∀ c, own (f c) = f' (own c)) : (setPod pods p f).map own = setPod (pods.map own) p f' := by
  unfold setPod
  rw [List.map_map, List.map_map]
  apply List.map_congr_left
  intro c _
  simp only [Function.comp, hp]
  split_ifs
  · exact hf c
  · rfl

/-- the pod-control calls do the same to a pod list whoever owns the pods -/
theorem own_applyActs (setName : String) (orig : List CPod) (acts : List Action) (pods : List CPod) :
    (applyActs setName orig pods acts).map own = applyActs setName (orig.map own) (pods.map own) acts := by
  induction acts generalizing pods with
  | nil => rfl
  | cons a rest ih =>
    cases a with
    | create o rev =>
      unfold applyActs
      rw [ih, List.map_append]
      rfl
    | delete o id w =>
      unfold applyActs
      rw [ih]
      congr 1
      rw [setPod_map_own _ _ _ (fun c => { c with pod := { c.pod with terminating := true } }) (fun _ => rfl) (fun _ => rfl),
        List.filter_map]
      rfl
    | update o =>
      unfold applyActs
      rw [ih]
      congr 1
      apply setPod_map_own _ _ _ _ (fun _ => rfl)
      intro c
      have : ((orig.map own).find? (·.name == canonicalName setName o)).any (·.owner == .none) = false := by
        cases hf : (orig.map own).find? (·.name == canonicalName setName o) with
        | none => rfl
        | some x =>
          have hx := List.mem_of_find?_eq_some hf
          rw [List.mem_map] at hx
          obtain ⟨y, _, rfl⟩ := hx
          rfl
      simp only [this, Bool.false_eq_true, if_false]
      rfl

/-- the adoption / release patches change owners only -/
theorem own_patchGo (plan : List Fault) (seen log : List String) (pods : List CPod) :
    (applyPatches.go plan seen log pods).map own = pods.map own := by
  induction log generalizing seen pods with
  | nil => rfl
  | cons e rest ih =>
    unfold applyPatches.go
    rw [ih]
    split
    · split_ifs
      · rfl
      · unfold setPod
        rw [List.map_map]
        apply List.map_congr_left
        intro c _
        simp only [Function.comp]
        split_ifs
        · cases hco : c.owner <;> simp [own]
        · rfl
    · rfl

theorem own_own (l : List CPod) : (l.map own).map own = l.map own := by
  rw [List.map_map]; rfl

theorem map_own_pod (l : List CPod) : (l.map own).map (·.pod) = l.map (·.pod) := by
  rw [List.map_map]; rfl

theorem map_own_of_self {l : List CPod} (h : ∀ c ∈ l, c.owner = .self) : l.map own = l := by
  conv_rhs => rw [← List.map_id l]
  apply List.map_congr_left
  intro c hc
  have := h c hc
  cases c
  simp only [own, id]
  simp_all

end Asts.C02p
