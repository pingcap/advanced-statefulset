import Asts.Proofs.C02_BPick
import Asts.Proofs.C02_BClaim
import Asts.Proofs.C02_LStep
import Std.Data.String.ToInt

/-! C02, normalising rounds: the premise `PreC` on worlds whose pods may be orphans and whose revisions may need work. -/
namespace Asts.C02p
open Asts Asts.L1c

/-- a world before its normalising rounds (the pods part; the revisions part is `RevPrem`) -/
structure PreC (j : SyncIn) : Prop where
  spec : SpecOk j
  pods : ∀ c ∈ j.pods, (c.owner = .self ∨ c.owner = .none) ∧ c.member = true ∧ c.selMatch = true ∧
    c.name = canonicalName j.setName c.pod.ord ∧ 0 ≤ c.pod.ord ∧ c.pod.stOk = true ∧ c.pod.created = true
  ords : (j.pods.map (·.pod.ord)).Nodup
  small : j.pods.length ≤ freshId
  smallR : (replicasOf j.view).toNat ≤ freshId
  gone : j.fresh.gone = false
  uid : j.fresh.uidOk = true
  fdel : j.fresh.deleting = false

end Asts.C02p
