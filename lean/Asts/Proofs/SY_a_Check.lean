import Mathlib.Tactic
import Asts.Proofs.LogEntries
import Asts.Proofs.SY_a_Sync

/-! # SY_a — from the classification of log entries to the string-level monitors -/

namespace Asts.SYa
open Asts

theorem pre3_append_ne {pre v r : String} (h : Pre3 pre v r) (n w : String) (hw : NoColon w) : pre ++ n ≠ w := by
  intro he
  have hm : ':' ∈ (pre ++ n).toList := by rw [String.toList_append, h.toList_eq]; simp
  rw [he] at hm
  have := hw _ hm
  simp at this

/-- a check on a three-part key: it is enough to look at the parsed triple when the name has no colon, and at the
    degenerate entry (verb = the whole string, resource empty) when it has one -/
theorem check_key {pre v r : String} (h : Pre3 pre v r) (n : String) (f : Entry → Bool)
    (h1 : NoColon n → f { verb := v, res := r, name := n } = true)
    (h2 : ¬NoColon n → f { verb := pre ++ n, res := "", name := "" } = true) :
    f (parseEntry (pre ++ n)) = true := by
  by_cases hn : NoColon n
  · rw [parseEntry_pre3 h n hn]; exact h1 hn
  · rw [parseEntry_pre3_colon h n hn]; exact h2 hn

theorem all_parse {log : List String} {f : Entry → Bool} (h : ∀ e ∈ log, f (parseEntry e) = true) :
    (log.map parseEntry).all f = true := by
  rw [List.all_eq_true]
  intro p hp
  obtain ⟨e, he, rfl⟩ := List.mem_map.1 hp
  exact h e he

/-- **case analysis over everything a sync can log**, for a check `f` on parsed entries -/
theorem log_check (i : SyncIn) (plan : List Fault) (st1 : List Rev) (claimed : List CPod) (acts : List Action)
    (f : Entry → Bool)
    (hlist : f { verb := "list", res := "revs", name := "" } = true)
    (hgetset : i.view.deleting = false → f { verb := "get", res := "set", name := "" } = true)
    (hstatus : f { verb := "updatestatus", res := "", name := "" } = true)
    (hcolon : ∀ pre v r n, Pre3 pre v r → ¬NoColon n → f { verb := pre ++ n, res := "", name := "" } = true)
    (hlabel : i.view.deleting = false → ∀ r ∈ listRevisions i.store, r.marker = true → NoColon r.name →
      f { verb := "update", res := "rev", name := r.name } = true)
    (hadopt : i.view.deleting = false → ∀ r ∈ listRevisions i.store, r.owner = .none → NoColon r.name →
      f { verb := "patch", res := "rev", name := r.name } = true)
    (hclaim : i.view.deleting = false → ∀ c ∈ i.pods, c.owner ≠ .other →
      (claimDecision i.view.deleting c = .release ∨ claimDecision i.view.deleting c = .adopt) → NoColon c.name →
      f { verb := "patch", res := "pod", name := c.name } = true)
    (hrenum : ∀ r ∈ sortRevs (listRevisions st1), NoColon r.name →
      f { verb := "update", res := "rev", name := r.name } = true)
    (hgetrev : ∀ n, NoColon n → f { verb := "get", res := "rev", name := n } = true)
    (hcreate : ∀ n, NoColon n → f { verb := "create", res := "rev", name := n } = true)
    (hdelete : ∀ r ∈ sortRevs (listRevisions st1), r.owner = .self → NoColon r.name →
      f { verb := "delete", res := "rev", name := r.name } = true)
    (hact : ∀ a ∈ acts, match a with
      | .create o rv => NoColon (actName i.setName claimed (.create o rv)) →
          f { verb := "create", res := "pod", name := actName i.setName claimed (.create o rv) } = true
      | .delete o id w => NoColon (actName i.setName claimed (.delete o id w)) →
          f { verb := "delete", res := "pod", name := actName i.setName claimed (.delete o id w) } = true
      | .update o => NoColon (canonicalName i.setName o) →
          f { verb := "update", res := "pod", name := canonicalName i.setName o } = true) :
    ∀ e, PreEntry i st1 e ∨ ActEntry i plan claimed acts e → f (parseEntry e) = true := by
  intro e he
  rcases he with (⟨hd, he⟩ | ⟨hd, he⟩ | he | he | he | he) | he
  · -- adoption phase
    rcases he with rfl | rfl | ⟨r, hr, hm, _, rfl⟩ | ⟨r, hr, ho, rfl⟩
    · rw [parseEntry_list_revs]; exact hlist
    · rw [parseEntry_get_set]; exact hgetset hd
    · exact check_key pre_update_rev r.name f (hlabel hd r hr hm) (hcolon _ _ _ _ pre_update_rev)
    · exact check_key pre_patch_rev r.name f (hadopt hd r hr ho) (hcolon _ _ _ _ pre_patch_rev)
  · -- claim pass
    rcases he with rfl | ⟨c, hc, rfl, hno, hdec⟩
    · rw [parseEntry_get_set]; exact hgetset hd
    · exact check_key pre_patch_pod c.name f (hclaim hd c hc hno hdec) (hcolon _ _ _ _ pre_patch_pod)
  · subst he; rw [parseEntry_list_revs]; exact hlist
  · rcases he with ⟨r, hr, rfl⟩ | ⟨n, rfl⟩ | ⟨n, rfl⟩
    · exact check_key pre_update_rev r.name f (hrenum r hr) (hcolon _ _ _ _ pre_update_rev)
    · exact check_key pre_get_rev n f (hgetrev n) (hcolon _ _ _ _ pre_get_rev)
    · exact check_key pre_create_rev n f (hcreate n) (hcolon _ _ _ _ pre_create_rev)
  · subst he; rw [parseEntry_updatestatus]; exact hstatus
  · obtain ⟨r, hr, ho, rfl⟩ := he
    exact check_key pre_delete_rev r.name f (hdelete r hr ho) (hcolon _ _ _ _ pre_delete_rev)
  · obtain ⟨a, ha, hea⟩ := he
    have := hact a ha
    cases a with
    | create o rv =>
      simp only [actLog, List.mem_singleton] at hea
      subst hea
      exact check_key pre_create_pod _ f this (hcolon _ _ _ _ pre_create_pod)
    | delete o id w =>
      simp only [actLog, List.mem_singleton] at hea
      subst hea
      exact check_key pre_delete_pod _ f this (hcolon _ _ _ _ pre_delete_pod)
    | update o =>
      simp only [actLog] at hea
      obtain rfl := (List.mem_replicate.1 hea).2
      exact check_key pre_update_pod _ f this (hcolon _ _ _ _ pre_update_pod)

end Asts.SYa
