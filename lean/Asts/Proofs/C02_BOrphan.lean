import Asts.Proofs.C02_BSim
import Asts.Proofs.C02_LConverge

/-! C02, normalising rounds: what becomes of orphan pods. A pod adopted in a sync is an orphan again afterwards only if the
    same sync also repaired its identity (the Update call writes back the copy taken from the cache, which had no
    controller reference); its identity is then in order, so the next sync adopts it for good. -/
namespace Asts.C02p
open Asts Asts.L1c

/-! ### quiet revisions: the revision stages change nothing -/

theorem adoptS_quiet {S : List Rev} (hno : (listRevisions S).any (·.owner == .none) = false) : adoptS S = S := by
  unfold adoptS; rw [hno]; rfl

/-- the revision stages on a store whose newest listed revision records the template and whose listed revisions are all
    the set's own -/
theorem pick_quiet {h : Hashing} {tmpl : String} {cc0 : Int} {S : List Rev} (hn : (S.map (·.name)).Nodup)
    (hno : (listRevisions S).any (·.owner == .none) = false) {l : Rev}
    (hl : (sortRevs (listRevisions S)).getLast? = some l)
    (heq : equalRev l (SYb.freshOf h tmpl cc0 (sortRevs (listRevisions S))) = true) :
    PickOut h tmpl cc0 (adoptS S) S l cc0 := by
  rw [adoptS_quiet hno]
  have hlm : l ∈ sortRevs (listRevisions S) := List.mem_of_getLast? hl
  refine ⟨hn, ?_, hl, heq, ?_, fun _ _ _ => rfl, ?_, ?_⟩
  · intro x hx
    rw [List.any_eq_false] at hno
    have h1 := hno x hx
    have h2 := (mem_listRevisions hx).2.2
    cases hxo : x.owner with
    | self => rfl
    | none => rw [hxo] at h1; simp at h1
    | other => exact absurd hxo h2
  · intro n
    constructor
    · exact Or.inl
    · rintro (hm | rfl)
      · exact hm
      · exact List.mem_map_of_mem hlm
  · intro r hr
    exact any_name_of_mem (listed_sub hr) rfl
  · intro curName l0
    refine ⟨[], (by intro x hx; cases hx), ?_⟩
    rw [getRevisionsF_final h tmpl curName cc0 _ _ l hl heq]
    simp

/-! ### who owns the pods after a sync -/

/-- owned, or an orphan whose identity is in order -/
def OwnP (c : CPod) : Prop := c.owner = .self ∨ (c.owner = .none ∧ c.pod.idOk = true)

theorem setPod_mem {pods : List CPod} {p : CPod → Bool} {f : CPod → CPod} {c : CPod} (hc : c ∈ setPod pods p f) :
    ∃ c0 ∈ pods, c = f c0 ∨ c = c0 := by
  unfold setPod at hc
  rw [List.mem_map] at hc
  obtain ⟨c0, hc0, rfl⟩ := hc
  refine ⟨c0, hc0, ?_⟩
  split_ifs
  · exact Or.inl rfl
  · exact Or.inr rfl

theorem applyActs_ownP (setName : String) (orig : List CPod) (acts : List Action) (pods : List CPod)
    (hP : ∀ c ∈ pods, OwnP c) : ∀ c ∈ applyActs setName orig pods acts, OwnP c := by
  induction acts generalizing pods with
  | nil => exact hP
  | cons a rest ih =>
    cases a with
    | create o rev =>
      unfold applyActs
      apply ih
      intro c hc
      rw [List.mem_append, List.mem_singleton] at hc
      rcases hc with hc | rfl
      · exact hP c hc
      · exact Or.inl rfl
    | delete o id w =>
      unfold applyActs
      apply ih
      intro c hc
      obtain ⟨c0, hc0, hcc⟩ := setPod_mem hc
      have := hP c0 (List.mem_of_mem_filter hc0)
      rcases hcc with rfl | rfl
      · exact this
      · exact this
    | update o =>
      unfold applyActs
      apply ih
      intro c hc
      obtain ⟨c0, hc0, hcc⟩ := setPod_mem hc
      have := hP c0 hc0
      rcases hcc with rfl | rfl
      · simp only
        split_ifs
        · exact Or.inr ⟨rfl, rfl⟩
        · rcases this with h1 | h1
          · exact Or.inl h1
          · exact Or.inr ⟨h1.1, rfl⟩
      · exact this

theorem applyActs_noOrphan (setName : String) (orig : List CPod) (acts : List Action) (pods : List CPod)
    (hP : ∀ c ∈ pods, c.owner = .self) (hno : ∀ o, Action.update o ∈ acts → wasOrphan setName orig o = false) :
    ∀ c ∈ applyActs setName orig pods acts, c.owner = .self := by
  induction acts generalizing pods with
  | nil => exact hP
  | cons a rest ih =>
    have hno' : ∀ o, Action.update o ∈ rest → wasOrphan setName orig o = false :=
      fun o ho => hno o (List.mem_cons_of_mem _ ho)
    cases a with
    | create o rev =>
      unfold applyActs
      apply ih _ _ hno'
      intro c hc
      rw [List.mem_append, List.mem_singleton] at hc
      rcases hc with hc | rfl
      · exact hP c hc
      · rfl
    | delete o id w =>
      unfold applyActs
      apply ih _ _ hno'
      intro c hc
      obtain ⟨c0, hc0, hcc⟩ := setPod_mem hc
      have := hP c0 (List.mem_of_mem_filter hc0)
      rcases hcc with rfl | rfl
      · exact this
      · exact this
    | update o =>
      unfold applyActs
      apply ih _ _ hno'
      intro c hc
      obtain ⟨c0, hc0, hcc⟩ := setPod_mem hc
      have := hP c0 hc0
      have hw := hno o List.mem_cons_self
      unfold wasOrphan at hw
      rcases hcc with rfl | rfl
      · simp only [hw, Bool.false_eq_true, if_false]
        exact this
      · exact this

/-! ### where identity updates come from -/

theorem reps_created_src {setName : String} {P : List CPod} (hc : PodsCtx setName P) {v : SetView} {cur upd : String}
    {b : Int} {E : List Int} {i : Int} {q : Pod} (hm : (i, q) ∈ repsOf v cur upd b E (P.map (·.pod)))
    (hcr : q.created = true) : ∃ c ∈ P, c.pod = q ∧ c.pod.ord = i := by
  obtain ⟨_, hq⟩ := mem_repsOf.1 hm
  simp only at hq
  cases hsl : slotOf b E (P.map (·.pod)) i with
  | none =>
    rw [hsl] at hq
    simp only [Option.getD_none] at hq
    rw [hq, newPod_created] at hcr
    cases hcr
  | some q' =>
    rw [hsl] at hq
    simp only [Option.getD_some] at hq
    obtain ⟨c, hcm, hcp, hco, _⟩ := hc.slot_some hsl
    exact ⟨c, hcm, by rw [hcp, hq], hco⟩

theorem par_update_src {setName : String} {P : List CPod} (hc : PodsCtx setName P) {v : SetView} {cur upd : String}
    {b : Int} {E : List Int} {o : Int} (hu : Action.update o ∈ actsOf v cur upd b E P) :
    ∃ c ∈ P, c.pod.ord = o ∧ c.pod.idOk = false := by
  rw [actsOf_split, List.mem_append] at hu
  rcases hu with hu | hu
  · unfold actsA at hu
    rw [List.mem_append] at hu
    rcases hu with hu | hu
    · rw [List.mem_flatMap] at hu
      obtain ⟨⟨i, q⟩, hm, hq⟩ := hu
      unfold repActs1 at hq
      simp only at hq
      split_ifs at hq with h1 h2 h3
      · simp at hq
      · simp at hq
      · cases hq
      · simp only [List.mem_singleton, Action.update.injEq] at hq
        subst hq
        have hcr : q.created = true := by simpa using h2
        obtain ⟨c, hcm, hcp, hco⟩ := reps_created_src hc hm hcr
        refine ⟨c, hcm, hco, ?_⟩
        have hst := (hc.own c hcm).2.2.2.2.2.1
        rw [hcp] at hst ⊢
        cases hid : q.idOk
        · rfl
        · rw [hid, hst] at h3; simp at h3
    · unfold condActs at hu
      rw [List.mem_map] at hu
      obtain ⟨x, _, hx⟩ := hu
      cases hx
  · exact absurd hu (walkActs_no_update _ _)

theorem monoRep_update_src (v : SetView) (cur upd : String) (reps : List (Int × Pod)) {o : Int}
    (hu : Action.update o ∈ (monoRep v cur upd reps).1) :
    ∃ q, (o, q) ∈ reps ∧ q.created = true ∧ (q.idOk && q.stOk) = false := by
  induction reps with
  | nil => simp [monoRep] at hu
  | cons iq rest ih =>
    obtain ⟨i, q⟩ := iq
    unfold monoRep at hu
    split_ifs at hu with h1 h2
    · simp at hu
    · simp at hu
    · simp only [List.mem_append] at hu
      rcases hu with hu | hu
      · obtain ⟨he, hb⟩ := mem_idUpd hu
        simp only [Action.update.injEq] at he
        subst he
        exact ⟨q, List.mem_cons_self, by simpa using h2, hb⟩
      · obtain ⟨q', hq', h3⟩ := ih hu
        exact ⟨q', List.mem_cons_of_mem _ hq', h3⟩

theorem mono_update_src {setName : String} {P : List CPod} (hc : PodsCtx setName P) {v : SetView} {cur upd : String}
    {b : Int} {E : List Int} {o : Int} (hu : Action.update o ∈ monoActsOf v cur upd b E P) :
    ∃ c ∈ P, c.pod.ord = o ∧ c.pod.idOk = false := by
  rw [monoActsOf_split, List.mem_append] at hu
  rcases hu with hu | hu
  · unfold monoA at hu
    rw [List.mem_append] at hu
    rcases hu with hu | hu
    · obtain ⟨q, hm, hcr, hb⟩ := monoRep_update_src _ _ _ _ hu
      obtain ⟨c, hcm, hcp, hco⟩ := reps_created_src hc hm hcr
      refine ⟨c, hcm, hco, ?_⟩
      have hst := (hc.own c hcm).2.2.2.2.2.1
      rw [hcp] at hst ⊢
      cases hid : q.idOk
      · rfl
      · rw [hid, hst] at hb; simp at hb
    · split_ifs at hu
      · cases hu
      · cases hcl : (condemnedOf b E (P.map (·.pod))).reverse with
        | nil => rw [hcl] at hu; simp [monoCond] at hu
        | cons c0 r => rw [hcl] at hu; simp [monoCond] at hu
      · cases hu
  · exact absurd hu (walkActs_no_update _ _)

end Asts.C02p
