import Mathlib.Tactic
import Asts.Proofs.WE_Runs
import Asts.Proofs.C02_Quiet
import Asts.Proofs.Sync_Stages
import Asts.Proofs.LogEntries
import Asts.Proofs.C02_Round
import Asts.Proofs.SY_b_AdoptExact
import Asts.Proofs.SY_b_Truncate

/-! # WE — a silent successful sync (empty fault plan) changes nothing

If the log of `syncF h i []` holds no write (every entry starts with `list:` or `get:`) and the outcome is `.ok`, then the
revision store is untouched, no status is written, no pod-control call is recorded and no entry of the log is an
adoption / release patch: `applySync` is the normalisation of the pod list and nothing else. -/
namespace Asts.WE
open Asts

def Quiet (l : List String) : Prop := ∀ e ∈ l, isWrite e = false

theorem isWrite_patch_pod (n : String) : isWrite s!"patch:pod:{n}" = true := isWrite_prefix "patch:pod:" n (by decide +kernel)

theorem Quiet.append_left {a b : List String} (h : Quiet (a ++ b)) : Quiet a := fun e he => h e (List.mem_append_left _ he)
theorem Quiet.append_right {a b : List String} (h : Quiet (a ++ b)) : Quiet b := fun e he => h e (List.mem_append_right _ he)

theorem quiet_not_mem {l : List String} (h : Quiet l) {e : String} (hw : isWrite e = true) : e ∉ l := by
  intro he; rw [h e he] at hw; exact absurd hw (by decide)

theorem filter_true_names (S : List Rev) : S.filter (fun x => !(([] : List Rev).map (·.name)).contains x.name) = S := by
  apply List.filter_eq_self.mpr
  intro x _; simp

/-- the end of a silent successful sync: no status write, no truncation, the recorded actions are the reconcile's -/
theorem finishCore_quiet (i : SyncIn) (claimed : List CPod) (revs : List Rev) (cur upd : Rev) (cc : Int) (s : RevSt)
    (st : St) (out : Outcome) (hg : i.fresh.gone = false)
    (hok : (SYa.finishCore i [] claimed revs cur upd cc s st out).outcome = .ok)
    (hq : Quiet (SYa.finishCore i [] claimed revs cur upd cc s st out).log) :
    (SYa.finishCore i [] claimed revs cur upd cc s st out).status = none ∧
    (SYa.finishCore i [] claimed revs cur upd cc s st out).store = s.store ∧
    (SYa.finishCore i [] claimed revs cur upd cc s st out).acts = st.acts ∧ Quiet s.tr.log := by
  unfold SYa.finishCore SYa.reached at hok hq ⊢
  cases out with
  | err => simp at hok
  | panic m => simp at hok
  | ok =>
    simp only at hok hq ⊢
    by_cases hinc : inconsistentStatus i.stored (completeRollingUpdate i.view st.status) = true
    · rw [if_pos hinc] at hq
      rw [hg, SYa.statusWriteF_nil] at hq
      simp only [Bool.not_false, Bool.not_true, Bool.false_eq_true, if_false] at hq
      rw [SYb.truncateF_log] at hq
      exact (quiet_not_mem hq isWrite_updatestatus (by simp)).elim
    · rw [if_neg hinc] at hok hq ⊢
      simp only at hok hq ⊢
      rw [SYb.truncateF_log] at hq
      have hd : SYb.truncDeletes [] i.historyLimit (claimed.map (·.pod.rev)) revs cur upd s = [] := by
        cases hdl : SYb.truncDeletes [] i.historyLimit (claimed.map (·.pod.rev)) revs cur upd s with
        | nil => rfl
        | cons r rest =>
          rw [hdl] at hq
          exact (quiet_not_mem hq (e := SYb.delKey r) (isWrite_prefix "delete:rev:" r.name (by decide +kernel)) (by simp)).elim
      refine ⟨trivial, ?_, trivial, hq.append_left⟩
      cases hlim : i.historyLimit with
      | none => rw [hlim, SYb.truncateF_none] at hok; simp at hok
      | some lim =>
        rw [hlim] at hd
        obtain ⟨_, _, d, hd1, _, _, _, hst⟩ := SYb.truncateF_result [] lim (claimed.map (·.pod.rev)) revs cur upd s
        rw [hst, hd]
        simp

theorem updateResult_nil_fst (setName : String) (pods claimed : List CPod) (b : Int) (E : List Int) (o : Int) :
    (updateResult setName [] pods claimed b E o).1 = 1 := by
  unfold updateResult
  split
  · split
    · simp
    · rw [SYa.updateAttempts_nil]
  · rw [SYa.updateAttempts_nil]

/-- every pod-control call leaves a write in the log (empty fault plan) -/
theorem actLog_has_write (setName : String) (pods claimed : List CPod) (b : Int) (E : List Int) (a : Action) :
    ∃ e ∈ actLog setName [] pods claimed b E a, isWrite e = true := by
  cases a with
  | create o r => exact ⟨_, by unfold actLog; exact List.mem_singleton.mpr rfl, isWrite_prefix "create:pod:" _ (by decide +kernel)⟩
  | delete o id w => exact ⟨_, by unfold actLog; exact List.mem_singleton.mpr rfl, isWrite_prefix "delete:pod:" _ (by decide +kernel)⟩
  | update o =>
    refine ⟨s!"update:pod:{canonicalName setName o}", ?_, isWrite_prefix "update:pod:" _ (by decide +kernel)⟩
    show _ ∈ List.replicate (updateResult setName [] pods claimed b E o).1 s!"update:pod:{canonicalName setName o}"
    rw [updateResult_nil_fst]
    simp

/-- the reconcile stage of a silent successful sync records no action -/
theorem finishF_quiet (i : SyncIn) (claimed : List CPod) (revs : List Rev) (cur upd : Rev) (cc : Int) (s : RevSt)
    (hg : i.fresh.gone = false)
    (hok : (SYa.finishF i [] claimed revs cur upd cc s).outcome = .ok)
    (hq : Quiet (SYa.finishF i [] claimed revs cur upd cc s).log) :
    (SYa.finishF i [] claimed revs cur upd cc s).status = none ∧
    (SYa.finishF i [] claimed revs cur upd cc s).store = s.store ∧
    (SYa.finishF i [] claimed revs cur upd cc s).acts = [] ∧ Quiet s.tr.log := by
  unfold SYa.finishF SYa.reconcileOf SYa.rangeOf at hok hq ⊢
  obtain ⟨h1, h2, h3, h4⟩ := finishCore_quiet i claimed revs cur upd cc _ _ _ hg hok hq
  simp only at h4
  refine ⟨h1, h2, ?_, h4.append_left⟩
  rw [h3]
  cases hacts : (updateStatefulSet i.view cur.name upd.name (claimed.map (·.pod))
      (podFaults i.setName [] i.pods claimed (maxReplicaAndSlots (i.view.replicas.getD 0) i.view.slots).1
        (maxReplicaAndSlots (i.view.replicas.getD 0) i.view.slots).2)).1.acts with
  | nil => rfl
  | cons a rest =>
    exfalso
    rw [hacts] at h4
    obtain ⟨e, he, hw⟩ := actLog_has_write i.setName i.pods claimed
      (maxReplicaAndSlots (i.view.replicas.getD 0) i.view.slots).1 (maxReplicaAndSlots (i.view.replicas.getD 0) i.view.slots).2 a
    have := h4.append_right e (by simp only [List.map_cons, List.flatten_cons]; exact List.mem_append_left _ he)
    rw [this] at hw; exact absurd hw (by decide)

end Asts.WE

namespace Asts.WE
open Asts Asts.SYb

theorem renumberCalls_head (plan : List Fault) (name : String) (fuel : Nat) (t : Tr) :
    ∃ rest, renumberCalls plan name (fuel + 1) t = .update name :: rest := by
  unfold renumberCalls
  split
  · exact ⟨_, rfl⟩
  · split <;> exact ⟨_, rfl⟩

theorem createCalls_head (h : Hashing) (plan : List Fault) (fresh : Rev) (fuel : Nat) (cc : Int) (s : RevSt) :
    ∃ rest, createCalls h plan fresh (fuel + 1) cc s = .create (h.nameOf fresh.data cc) :: rest := by
  unfold createCalls
  split
  · exact ⟨_, rfl⟩
  · split
    · split <;> exact ⟨_, rfl⟩
    · exact ⟨_, rfl⟩
  · exact ⟨_, rfl⟩

/-- a resolution of the revisions that logs no write leaves the store alone -/
theorem pickF_quiet_store (h : Hashing) (plan : List Fault) (t : String) (cc0 : Int) (revs : List Rev) (s : RevSt)
    (hq : Quiet ((pickCalls h plan t cc0 revs s).map RevCall.key)) : (pickF h plan t cc0 revs s).1.store = s.store := by
  rcases pickF_cases h plan t cc0 revs s with ⟨_, _, hc⟩ | ⟨e, l, _, _, ⟨_, hp, _⟩ | ⟨_, _, hp, _⟩ | ⟨_, _, _, hc⟩⟩
  · -- the create loop starts with a create
    exfalso
    have hlen : s.store.length + 8 = (s.store.length + 7) + 1 := by omega
    rw [hc, hlen] at hq
    obtain ⟨rest, hr⟩ := createCalls_head h plan (freshOf h t cc0 revs) (s.store.length + 7) cc0 s
    rw [hr] at hq
    exact quiet_not_mem hq (e := (RevCall.create (h.nameOf (freshOf h t cc0 revs).data cc0)).key)
      (isWrite_prefix "create:rev:" _ (by decide +kernel)) (by simp)
  · rw [hp]
  · rw [hp]
  · -- the renumbering starts with an update
    exfalso
    obtain ⟨rest, hr⟩ := renumberCalls_head plan e.name 3 s.tr
    rw [hc, hr] at hq
    exact quiet_not_mem hq (e := (RevCall.update e.name).key) (isWrite_prefix "update:rev:" _ (by decide +kernel)) (by simp)

theorem afterClaimF_quiet (h : Hashing) (i : SyncIn) (claimed : List CPod) (s : RevSt) (hg : i.fresh.gone = false)
    (hok : (SYa.afterClaimF h i [] s false claimed).outcome = .ok)
    (hq : Quiet (SYa.afterClaimF h i [] s false claimed).log) :
    (SYa.afterClaimF h i [] s false claimed).status = none ∧ (SYa.afterClaimF h i [] s false claimed).store = s.store ∧
    (SYa.afterClaimF h i [] s false claimed).acts = [] ∧ Quiet s.tr.log := by
  unfold SYa.afterClaimF at hok hq ⊢
  simp only [Bool.false_eq_true, if_false] at hok hq ⊢
  rw [listRevsF_nil] at hok hq ⊢
  simp only at hok hq ⊢
  rw [SYb.getRevisionsF_eq] at hok hq ⊢
  have hlog := pickF_log h [] i.template (i.collisionCount.getD 0) (sortRevs (listRevisions s.store))
    { s with tr := { log := s.tr.log ++ ["list:revs", "list:revs"] } }
  have hstore := pickF_quiet_store h [] i.template (i.collisionCount.getD 0) (sortRevs (listRevisions s.store))
    { s with tr := { log := s.tr.log ++ ["list:revs", "list:revs"] } }
  generalize pickF h [] i.template (i.collisionCount.getD 0) (sortRevs (listRevisions s.store))
    { s with tr := { log := s.tr.log ++ ["list:revs", "list:revs"] } } = pk at hok hq hlog hstore ⊢
  obtain ⟨sG, ro⟩ := pk
  cases ro with
  | none => simp at hok
  | some t =>
    obtain ⟨upd, cc⟩ := t
    simp only [Option.map_some] at hok hq ⊢
    obtain ⟨h1, h2, h3, h4⟩ := finishF_quiet i claimed _ _ upd cc sG hg hok hq
    simp only at hlog hstore
    rw [hlog] at h4
    refine ⟨h1, ?_, h3, h4.append_left.append_left⟩
    rw [h2, hstore h4.append_right]

/-- **a silent successful sync changes nothing** (empty fault plan; the API copy of the set is there) -/
theorem silent_sync (h : Hashing) (i : SyncIn) (hg : i.fresh.gone = false)
    (hok : (syncF h i []).outcome = .ok) (hq : Quiet (syncF h i []).log) :
    (syncF h i []).store = i.store ∧ (syncF h i []).status = none ∧ (syncF h i []).acts = [] := by
  rw [SYa.syncF_eq] at hok hq ⊢
  by_cases hrun : (i.paused || !i.selectorOk) = true
  · rw [if_pos hrun]; exact ⟨rfl, rfl, rfl⟩
  · rw [if_neg hrun] at hok hq ⊢
    cases hA : adoptOrphanRevisionsF [] i.view.deleting i.fresh { store := i.store } with
    | mk A out =>
      rw [hA] at hok hq
      cases out with
      | err => simp at hok
      | panic m => simp at hok
      | ok =>
        simp only at hok hq ⊢
        cases hf : (claimPodsF [] i.view.deleting i.fresh i.pods A.tr).failed with
        | true => rw [hf] at hok; unfold SYa.afterClaimF at hok; simp at hok
        | false =>
          rw [hf] at hok hq
          obtain ⟨h1, h2, h3, h4⟩ := afterClaimF_quiet h i _ _ hg hok hq
          simp only at h2 h4
          refine ⟨?_, h1, h3⟩
          rw [h2]
          obtain ⟨m, hm, _⟩ := claim_log [] i.view.deleting i.fresh i.pods A.tr
          rw [hm] at h4
          have hqA : Quiet A.tr.log := h4.append_left
          rcases adopt_ok_exact [] i.view.deleting i.fresh { store := i.store } A hA with ⟨_, hst, _⟩ | ⟨_, hany, _, _, hsucc⟩
          · exact hst
          · exfalso
            obtain ⟨r, hr, hro⟩ := List.any_eq_true.mp hany
            have hro' : r.owner = .none := by simpa using hro
            obtain ⟨pre, post, hlog, _⟩ := hsucc r hr hro'
            exact quiet_not_mem hqA (e := patchRevKey r) (isWrite_prefix "patch:rev:" r.name (by decide +kernel)) (by rw [hlog]; simp)

end Asts.WE
