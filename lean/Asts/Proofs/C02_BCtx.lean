import Asts.Proofs.C02_BPick

/-! C02, normalising rounds: what the adoption stage leaves (`RevCtx`), and the hashing premise carried over to it. -/
namespace Asts.C02p
open Asts

/-- what the adoption stage does to one stored revision -/
def adoptG (S : List Rev) (x : Rev) : Rev :=
  if (listRevisions S).any (·.owner == .none) then
    ownAll (((listRevisions S).filter (·.owner == .none)).map (·.name))
      (selAll (((listRevisions S).filter (·.marker)).map (·.name)) x)
  else x

theorem adoptS_map (S : List Rev) : adoptS S = S.map (adoptG S) := by
  unfold adoptS adoptG
  split_ifs
  · rw [List.map_map]; rfl
  · simp

theorem adoptG_owner (S : List Rev) (x : Rev) (ho : (listRevisions S).any (·.owner == .none) = true) :
    (adoptG S x).owner =
      if (((listRevisions S).filter (·.owner == .none)).map (·.name)).contains x.name then .self else x.owner := by
  unfold adoptG
  rw [if_pos ho, ownAll_eq, selAll_eq, SYb.ownAll_owner, (SYb.selAll_fields _ x).1, (SYb.selAll_fields _ x).2.2.2.2.2.2]

theorem adoptG_fields (S : List Rev) (x : Rev) :
    (adoptG S x).name = x.name ∧ (adoptG S x).data = x.data ∧ (adoptG S x).hashNum = x.hashNum ∧
    (adoptG S x).marker = x.marker := by
  unfold adoptG
  split_ifs
  · obtain ⟨a1, _, _, a4, a5, a6, _⟩ := SYb.ownAll_fields (((listRevisions S).filter (·.owner == .none)).map (·.name))
      (selAll (((listRevisions S).filter (·.marker)).map (·.name)) x)
    obtain ⟨b1, _, _, b4, b5, b6, _⟩ := SYb.selAll_fields (((listRevisions S).filter (·.marker)).map (·.name)) x
    exact ⟨a1.trans b1, a4.trans b4, a5.trans b5, a6.trans b6⟩
  · exact ⟨rfl, rfl, rfl, rfl⟩

theorem adoptS_names (S : List Rev) : (adoptS S).map (·.name) = S.map (·.name) := by
  rw [adoptS_map, List.map_map]
  apply List.map_congr_left
  intro x _
  exact (adoptG_fields S x).1

theorem adoptS_length (S : List Rev) : (adoptS S).length = S.length := by
  rw [adoptS_map, List.length_map]

/-- the adoption stage does not change what the listing can see -/
theorem adoptG_vis {S : List Rev} (hn : (S.map (·.name)).Nodup) {x : Rev} (hx : x ∈ S) : Vis (adoptG S x) ↔ Vis x := by
  unfold adoptG
  split_ifs with ho
  · set M := ((listRevisions S).filter (·.marker)).map (·.name) with hM
    set O := ((listRevisions S).filter (·.owner == .none)).map (·.name) with hO
    have hMx : x.name ∈ M → x.marker = true := by
      intro hm
      rw [hM, List.mem_map] at hm
      obtain ⟨y, hy, hye⟩ := hm
      rw [List.mem_filter] at hy
      have hyS := (mem_listRevisions hy.1).1
      have : y = x := List.inj_on_of_nodup_map hn hyS hx hye
      rw [← this]; exact hy.2
    have hOx : x.name ∈ O → x.owner = .none := by
      intro hm
      rw [hO, List.mem_map] at hm
      obtain ⟨y, hy, hye⟩ := hm
      rw [List.mem_filter] at hy
      have hyS := (mem_listRevisions hy.1).1
      have : y = x := List.inj_on_of_nodup_map hn hyS hx hye
      rw [← this]; simpa using hy.2
    have e1 : (ownAll O (selAll M x)).selMatch = (x.selMatch || M.contains x.name) := by
      rw [ownAll_eq, selAll_eq, (SYb.ownAll_fields O _).2.2.2.2.2.2, SYb.selAll_selMatch]
    have e2 : (ownAll O (selAll M x)).marker = x.marker := by
      rw [ownAll_eq, selAll_eq, (SYb.ownAll_fields O _).2.2.2.2.2.1, (SYb.selAll_fields M x).2.2.2.2.2.1]
    have e3 : (ownAll O (selAll M x)).owner = if O.contains x.name then .self else x.owner := by
      rw [ownAll_eq, selAll_eq, SYb.ownAll_owner, (SYb.selAll_fields M x).1, (SYb.selAll_fields M x).2.2.2.2.2.2]
    unfold Vis
    rw [e1, e2, e3]
    constructor
    · rintro ⟨hv1, hv2⟩
      refine ⟨?_, ?_⟩
      · rcases hv1 with hv1 | hv1
        · simp only [Bool.or_eq_true] at hv1
          rcases hv1 with hv1 | hv1
          · exact Or.inl hv1
          · exact Or.inr (hMx (by simpa using hv1))
        · exact Or.inr hv1
      · by_cases h2 : O.contains x.name = true
        · rw [hOx (by simpa using h2)]; simp
        · rw [if_neg h2] at hv2; exact hv2
    · rintro ⟨hv1, hv2⟩
      refine ⟨?_, ?_⟩
      · rcases hv1 with hv1 | hv1
        · left; simp [hv1]
        · exact Or.inr hv1
      · split_ifs
        · simp
        · exact hv2
  · rfl

/-- after the adoption stage every listed revision is the set's own -/
theorem adoptS_owned {S : List Rev} (hn : (S.map (·.name)).Nodup) : ∀ x ∈ listRevisions (adoptS S), x.owner = .self := by
  intro x' hx'
  obtain ⟨hmem, hv1, hv2⟩ := mem_listRevisions hx'
  rw [adoptS_map, List.mem_map] at hmem
  obtain ⟨x, hx, rfl⟩ := hmem
  have hvx : Vis x := (adoptG_vis hn hx).1 ⟨hv1, hv2⟩
  have hxl : x ∈ listRevisions S := (mem_listRevisions_iff hn).2 ⟨hx, hvx.1, hvx.2⟩
  by_cases ho : (listRevisions S).any (·.owner == .none) = true
  · rw [adoptG_owner S x ho]
    by_cases hno : x.owner = .none
    · have : (((listRevisions S).filter (·.owner == .none)).map (·.name)).contains x.name = true := by
        rw [List.contains_iff_mem, List.mem_map]
        exact ⟨x, List.mem_filter.2 ⟨hxl, by simp [hno]⟩, rfl⟩
      rw [if_pos this]
    · have hs : x.owner = .self := by
        cases hxo : x.owner with
        | self => rfl
        | none => exact absurd hxo hno
        | other => exact absurd hxo hvx.2
      split_ifs
      · rfl
      · exact hs
  · have hall : (listRevisions S).any (·.owner == .none) = false := by simpa using ho
    have hid : adoptG S x = x := by unfold adoptG; rw [if_neg ho]
    rw [hid]
    rw [List.any_eq_false] at hall
    have := hall x hxl
    cases hxo : x.owner with
    | self => rfl
    | none => rw [hxo] at this; simp at this
    | other => exact absurd hxo hvx.2

/-- **the premise on the revisions** (the hashing premise of `C02_BDefs`, as a proposition): hash labels of the revisions
    that record the template parse (or the fresh one does not), and either a visible revision records the template, or the
    probe walk ends on a free name after `n` names taken by revisions recording something else — in which case, when the
    collision count moves, the stored status does not already name the revision about to be created -/
structure RevPrem (h : Hashing) (j : SyncIn) : Prop where
  labels : h.hashNumOf j.template (j.collisionCount.getD 0) = none ∨ ∀ r ∈ j.store, r.data = j.template → r.hashNum ≠ none
  hash : (∃ r ∈ j.store, Vis r ∧ equalRev r (SYb.freshOf h j.template (j.collisionCount.getD 0) []) = true) ∨
    ∃ n, n < j.store.length + 8 ∧
      (∀ k < n, ∃ ex ∈ j.store, ex.name = h.nameOf j.template (j.collisionCount.getD 0 + k) ∧ ex.data ≠ j.template) ∧
      (∀ r ∈ j.store, r.name ≠ h.nameOf j.template (j.collisionCount.getD 0 + n)) ∧
      (n ≠ 0 → j.stored.updateRev ≠ h.nameOf j.template (j.collisionCount.getD 0 + n))

theorem equalRev_adoptG (S : List Rev) (x f : Rev) : equalRev (adoptG S x) f = equalRev x f := by
  unfold equalRev
  rw [(adoptG_fields S x).2.2.1, (adoptG_fields S x).2.1]

theorem revCtx_of {h : Hashing} {j : SyncIn} (hn : (j.store.map (·.name)).Nodup) (hr : RevPrem h j) :
    RevCtx h j.template (j.collisionCount.getD 0) (adoptS j.store) := by
  refine ⟨by rw [adoptS_names]; exact hn, adoptS_owned hn, ?_⟩
  rcases hr.labels with h1 | h2
  · exact Or.inl h1
  · right
    intro r' hr' hd
    rw [adoptS_map, List.mem_map] at hr'
    obtain ⟨r, hrS, rfl⟩ := hr'
    rw [(adoptG_fields _ r).2.2.1]
    rw [(adoptG_fields _ r).2.1] at hd
    exact h2 r hrS hd

/-- **the revision stages under the premise**: a store `G`, an update revision and a collision count come out; when the
    collision count moved the stored status does not name the update revision -/
theorem pick_of_prem {h : Hashing} {j : SyncIn} (hn : (j.store.map (·.name)).Nodup) (hr : RevPrem h j) :
    ∃ G upd cc, PickOut h j.template (j.collisionCount.getD 0) (adoptS j.store) G upd cc ∧
      (cc ≠ j.collisionCount.getD 0 → j.stored.updateRev ≠ upd.name) := by
  have ctx := revCtx_of hn hr
  by_cases hE : ∃ r ∈ sortRevs (listRevisions (adoptS j.store)),
      equalRev r (SYb.freshOf h j.template (j.collisionCount.getD 0) []) = true
  · obtain ⟨G, upd, hpo⟩ := pick_equal ctx hE
    exact ⟨G, upd, _, hpo, fun hne => absurd rfl hne⟩
  · have hne : ∀ r ∈ sortRevs (listRevisions (adoptS j.store)),
        equalRev r (SYb.freshOf h j.template (j.collisionCount.getD 0) []) = false := by
      intro r hr'
      cases he : equalRev r (SYb.freshOf h j.template (j.collisionCount.getD 0) [])
      · rfl
      · exact absurd ⟨r, hr', he⟩ hE
    rcases hr.hash with ⟨r, hrS, hv, he⟩ | ⟨n, hnl, hwalk, hfree, hst⟩
    · exfalso
      apply hE
      refine ⟨adoptG j.store r, ?_, ?_⟩
      · rw [mem_listing ctx.names]
        exact ⟨by rw [adoptS_map]; exact List.mem_map_of_mem hrS, (adoptG_vis hn hrS).2 hv⟩
      · rw [equalRev_adoptG]; exact he
    · have hwalk' : ∀ k < n, ∃ ex ∈ adoptS j.store, ex.name = h.nameOf j.template (j.collisionCount.getD 0 + k) ∧
          ex.data ≠ j.template := by
        intro k hk
        obtain ⟨ex, h1, h2, h3⟩ := hwalk k hk
        refine ⟨adoptG j.store ex, by rw [adoptS_map]; exact List.mem_map_of_mem h1, ?_, ?_⟩
        · rw [(adoptG_fields _ ex).1]; exact h2
        · rw [(adoptG_fields _ ex).2.1]; exact h3
      have hfree' : ∀ r ∈ adoptS j.store, r.name ≠ h.nameOf j.template (j.collisionCount.getD 0 + n) := by
        intro r' hr'
        rw [adoptS_map, List.mem_map] at hr'
        obtain ⟨r, hrS, rfl⟩ := hr'
        rw [(adoptG_fields _ r).1]
        exact hfree r hrS
      have hpo := pick_create ctx hne n (by rw [adoptS_length]; exact hnl) hwalk' hfree'
      refine ⟨_, _, _, hpo, ?_⟩
      intro hcc
      have hn0 : n ≠ 0 := by
        intro h0; apply hcc; rw [h0]; simp
      exact hst hn0

end Asts.C02p
