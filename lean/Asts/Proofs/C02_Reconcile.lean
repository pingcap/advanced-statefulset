import Asts.Proofs.C02_Defs
import Asts.Proofs.L1_c_C14

/-! C02, reconcile level: on a snapshot whose pods are exactly the occupied range, all healthy, with identity and storage,
    and at the update revision wherever the update walk looks, `updateStatefulSet` issues no action, ends `.ok` and returns
    the census — for every fault plan (no call is made, so no fault can be hit). -/
namespace Asts.C02p
open Asts Asts.L1c

structure GoodPods (v : SetView) (upd : String) (b : Int) (E : List Int) (pods : List Pod) : Prop where
  good : ∀ p ∈ pods, p.healthy = true ∧ p.idOk = true ∧ p.stOk = true ∧ inRange b E p.ord = true ∧
         (v.strat ≠ .onDelete → partOf v ≤ p.ord → p.rev = upd)
  full : ∀ o, inRange b E o = true → ∃ p ∈ pods, p.ord = o

theorem repsOf_good {v : SetView} {cur upd : String} {b : Int} {E : List Int} {pods : List Pod}
    (hg : GoodPods v upd b E pods) : ∀ ip ∈ repsOf v cur upd b E pods, ip.2 ∈ pods ∧ ip.2.ord = ip.1 := by
  intro ip hip
  refine ⟨?_, repsOf_ord hip⟩
  rcases repsOf_mem hip with h | ⟨-, hnone⟩
  · exact h.1
  · have hi : ip.1 ∈ idxOf b E := repsOf_fst v cur upd b E pods ▸ List.mem_map_of_mem hip
    obtain ⟨p, hp, hpo⟩ := hg.full ip.1 (mem_idxOf.1 hi)
    exact absurd hpo (hnone p hp)

theorem condemnedOf_good {v : SetView} {upd : String} {b : Int} {E : List Int} {pods : List Pod}
    (hg : GoodPods v upd b E pods) : condemnedOf b E pods = [] := by
  rw [List.eq_nil_iff_forall_not_mem]
  intro c hc
  rw [mem_condemnedOf] at hc
  have := (hg.good c hc.1).2.2.2.1
  rw [inRange_not_condemned this] at hc
  exact absurd hc.2 (by simp)

theorem updateStatefulSet_quiet (v : SetView) (cur upd : String) (pods : List Pod) (f : Faults) (r : Int)
    (hr : v.replicas = some r) (hdel : v.deleting = false)
    (hg : GoodPods v upd (maxReplicaAndSlots r v.slots).1 (maxReplicaAndSlots r v.slots).2 pods) :
    updateStatefulSet v cur upd pods f = ({ acts := [], status := st0Of v cur upd pods }, .ok) := by
  have hreps := repsOf_good (cur := cur) hg
  have hcond := condemnedOf_good hg
  rw [updateStatefulSet_run f hr hdel]
  unfold runLoops prepOf
  simp only
  rw [replicaLoop_quiet, hcond]
  · simp only [List.reverse_nil, condemnedLoop]
    unfold updateStage
    by_cases hod : v.strat = .onDelete
    · rw [if_pos (beq_iff_eq.2 hod)]
    · rw [if_neg (fun h => hod (beq_iff_eq.1 h))]
      apply updateWalk_allupd
      intro ip hip
      rw [List.mem_reverse, List.mem_filter] at hip
      have h1 := hreps ip hip.1
      refine (hg.good _ h1.1).2.2.2.2 hod ?_
      rw [h1.2]
      exact of_decide_eq_true hip.2
  · intro ip hip
    have h2 := hg.good _ (hreps ip hip).1
    exact ⟨h2.1, h2.2.1, h2.2.2.1⟩

end Asts.C02p
