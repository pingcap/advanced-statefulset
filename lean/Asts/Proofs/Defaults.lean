import Asts.Model.Defaults
import Asts.Spec.Defaults
import Asts.Gen.Defaulters
import Mathlib.Tactic

namespace Asts.Defaults
open List

/-! Every rule is "if zero then constant" or an idempotent rounding, so one more pass changes nothing. -/

@[simp] theorem orS_idem (d s : String) : orS d (orS d s) = orS d s := by
  unfold orS; split_ifs <;> simp_all

@[simp] theorem orI_idem (d n : Int) : orI d (orI d n) = orI d n := by
  unfold orI; split_ifs <;> simp_all

@[simp] theorem orO_idem {α : Type} (d : α) (o : Option α) : orO d (orO d o) = orO d o := by
  cases o <;> rfl

theorem orO_isSome {α : Type} (d : α) (o : Option α) : (orO d o).isSome = true := by
  cases o <;> rfl

theorem map_idem {α : Type} {f : α → α} (h : ∀ x, f (f x) = f x) (l : List α) : (l.map f).map f = l.map f := by
  rw [List.map_map]; congr 1; funext x; exact h x

theorem omap_idem {α : Type} {f : α → α} (h : ∀ x, f (f x) = f x) (o : Option α) : (o.map f).map f = o.map f := by
  cases o <;> simp [h]

/-- the rounded value is a multiple of 10^-3, at least as large in magnitude, and less than one step away -/
theorem roundUpMilli_spec (n : Int) :
    roundUpMilli n % 1000000 = 0 ∧ (0 ≤ n → n ≤ roundUpMilli n ∧ roundUpMilli n < n + 1000000) ∧
    (n < 0 → roundUpMilli n ≤ n ∧ n - 1000000 < roundUpMilli n) := by
  unfold roundUpMilli
  split_ifs <;> omega

theorem roundUpMilli_of_multiple {n : Int} (h : n % 1000000 = 0) : roundUpMilli n = n := by
  unfold roundUpMilli
  split_ifs <;> omega

@[simp] theorem roundUpMilli_idem (n : Int) : roundUpMilli (roundUpMilli n) = roundUpMilli n :=
  roundUpMilli_of_multiple (roundUpMilli_spec n).1

@[simp] theorem dRes_idem (l : ResList) : dRes (dRes l) = dRes l := by
  unfold dRes; exact map_idem (fun e => by simp) l

@[simp] theorem dHttp_idem (h : HttpGet) : dHttp (dHttp h) = dHttp h := by simp [dHttp]

@[simp] theorem dProbe_idem (p : Probe) : dProbe (dProbe p) = dProbe p := by
  simp [dProbe, omap_idem dHttp_idem]

@[simp] theorem dRef_idem (r : Option String) : dRef (dRef r) = dRef r := by
  unfold dRef; exact omap_idem (fun s => by simp) r

def dPortAll (hn : Bool) (p : Port) : Port := dPort (if hn then dHostPort p else p)

theorem dPortAll_idem (hn : Bool) (p : Port) : dPortAll hn (dPortAll hn p) = dPortAll hn p := by
  cases hn <;> simp [dPortAll, dPort, dHostPort]

theorem dContainer_ports (hn : Bool) (c : Container) : (dContainer hn c).ports = c.ports.map (dPortAll hn) := by
  cases hn <;> simp [dContainer, dCommon, dContainerOnly, dHostPorts, dPortAll, List.map_map, Function.comp_def]

@[simp] theorem dCommon_idem (c : Container) : dCommon (dCommon c) = dCommon c := by
  simp [dCommon, map_idem (f := dPort) (fun p => by simp [dPort]), map_idem dRef_idem, omap_idem dProbe_idem, omap_idem dHttp_idem]

theorem dContainer_eq (hn : Bool) (c : Container) : dContainer hn c =
    { image := c.image,
      pullPolicy := if c.pullPolicy = "" then pullPolicyOf c.image else c.pullPolicy,
      termPath := orS "/dev/termination-log" c.termPath, termPolicy := orS "File" c.termPolicy,
      ports := c.ports.map (dPortAll hn), envRefs := c.envRefs.map dRef, limits := dRes c.limits, requests := dRes c.requests,
      liveness := c.liveness.map dProbe, readiness := c.readiness.map dProbe, startup := c.startup.map dProbe,
      postStart := c.postStart.map dHttp, preStop := c.preStop.map dHttp } := by
  cases hn <;> simp [dContainer, dCommon, dContainerOnly, dHostPorts, dPortAll, List.map_map, Function.comp_def]

theorem dContainer_idem (hn : Bool) (c : Container) : dContainer hn (dContainer hn c) = dContainer hn c := by
  rw [dContainer_eq hn (dContainer hn c), dContainer_eq hn c]
  simp only [map_idem (dPortAll_idem hn), map_idem dRef_idem, dRes_idem, omap_idem dProbe_idem, omap_idem dHttp_idem, orS_idem]
  congr 1
  split_ifs <;> simp_all

@[simp] theorem dProj_idem (s : ProjSource) : dProj (dProj s) = dProj s := by
  simp only [dProj]
  congr 1
  · exact omap_idem (fun items => map_idem dRef_idem items) _
  · exact omap_idem (fun e => orO_idem 3600 e) _

theorem dVolume_noModelledSource (v : Volume) : (dVolume v).noModelledSource = v.noModelledSource := by
  simp [Volume.noModelledSource, dVolume]

theorem dVolume_allNil (v : Volume) : (dVolume v).allNil = false := by
  have h := dVolume_noModelledSource v
  unfold Volume.allNil
  rw [h]
  simp only [dVolume, Volume.allNil]
  cases v.other <;> cases v.emptyDir <;> cases v.noModelledSource <;> rfl

theorem dVolume_idem (v : Volume) : dVolume (dVolume v) = dVolume v := by
  have h := dVolume_allNil v
  obtain ⟨o, e, hp, se, is, rbd, dw, cm, az, pr, sio⟩ := v
  simp only [dVolume] at h
  simp only [dVolume, Volume.mk.injEq, h, Bool.or_false, true_and]
  refine ⟨?_, ?_, ?_, ?_, ?_, ?_, ?_, ?_, ?_⟩
  · exact omap_idem (fun x => orO_idem "" x) _
  · exact omap_idem (fun x => orO_idem 420 x) _
  · exact omap_idem (fun x => orS_idem "default" x) _
  · exact omap_idem (fun r => by simp) _
  · exact omap_idem (fun d => by simp [map_idem dRef_idem]) _
  · exact omap_idem (fun x => orO_idem 420 x) _
  · exact omap_idem (fun a => by simp) _
  · exact omap_idem (fun p => by simp [map_idem dProj_idem]) _
  · exact omap_idem (fun s => by simp) _

@[simp] theorem dClaim_idem (c : Claim) : dClaim (dClaim c) = dClaim c := by simp [dClaim]

theorem dStrategy_idem (t : String) (ru : Option (Option Int)) :
    dStrategy (dStrategy t ru).1 (dStrategy t ru).2 = dStrategy t ru := by
  have hne : ("RollingUpdate" : String) ≠ "" := by decide
  by_cases ht : t = ""
  · subst ht
    rcases ru with _ | (_ | p) <;> simp [dStrategy, orS, orO, hne]
  · by_cases hr : t = "RollingUpdate"
    · subst hr; simp [dStrategy, orS, hne, omap_idem (fun x => orO_idem (0 : Int) x)]
    · simp [dStrategy, orS, ht, hr]

/-- **client-side defaulting applied twice equals applying it once**, for every defaulting view -/
theorem defaults_idem (v : View) : defaults (defaults v) = defaults v := by
  have hs := dStrategy_idem v.stratType v.rollingUpdate
  have h1 : (dStrategy (dStrategy v.stratType v.rollingUpdate).1 (dStrategy v.stratType v.rollingUpdate).2).1 =
      (dStrategy v.stratType v.rollingUpdate).1 := by rw [hs]
  have h2 : (dStrategy (dStrategy v.stratType v.rollingUpdate).1 (dStrategy v.stratType v.rollingUpdate).2).2 =
      (dStrategy v.stratType v.rollingUpdate).2 := by rw [hs]
  simp only [defaults, h1, h2, orS_idem, orO_idem, dRes_idem, map_idem dVolume_idem, map_idem (dContainer_idem v.hostNetwork),
    map_idem dCommon_idem, map_idem dClaim_idem]

open Spec
@[simp] theorem keptS_orS (d s : String) : keptS s (orS d s) = true := by
  unfold keptS orS; split_ifs <;> simp_all
@[simp] theorem keptI_orI (d n : Int) : keptI n (orI d n) = true := by
  unfold keptI orI; split_ifs <;> simp_all
@[simp] theorem keptS_self (s : String) : keptS s s = true := by simp [keptS]
@[simp] theorem keptI_self (n : Int) : keptI n n = true := by simp [keptI]
@[simp] theorem sameI_self (n : Int) : sameI n n = true := by simp [sameI]
@[simp] theorem sameS_self (n : String) : sameS n n = true := by simp [sameS]
@[simp] theorem sameB_self (n : Bool) : sameB n n = true := by simp [sameB]
@[simp] theorem keptB_self (b : Bool) : keptB b b = true := by cases b <;> rfl
@[simp] theorem keptB_or (a b : Bool) : keptB a (a || b) = true := by cases a <;> cases b <;> rfl

theorem keptO_map {α : Type} {f : α → α → Bool} {g : α → α} (h : ∀ x, f x (g x) = true) (o : Option α) :
    keptO f o (o.map g) = true := by
  cases o <;> simp [keptO, h]

theorem keptO_orO {α : Type} {f : α → α → Bool} (h : ∀ x, f x x = true) (d : α) (o : Option α) :
    keptO f o (orO d o) = true := by
  cases o <;> simp [keptO, orO, h]

theorem keptL_map {α : Type} {f : α → α → Bool} {g : α → α} (h : ∀ x, f x (g x) = true) :
    ∀ l : List α, keptL f l (l.map g) = true
  | [] => rfl
  | x :: xs => by simp [keptL, h, keptL_map h xs]

@[simp] theorem roundedUp_roundUpMilli (q : Int) : roundedUp q (roundUpMilli q) = true := by
  have h := roundUpMilli_spec q
  unfold roundedUp
  by_cases hq : 0 ≤ q
  · have := h.2.1 hq
    simp [hq, h.1, this.1, this.2]
  · have := h.2.2 (by omega)
    simp [hq, h.1, this.1, this.2]

@[simp] theorem keptRes_dRes (l : ResList) : keptRes l (dRes l) = true := by
  unfold keptRes dRes; exact keptL_map (fun e => by simp) l

@[simp] theorem keptHttp_dHttp (h : HttpGet) : keptHttp h (dHttp h) = true := by simp [keptHttp, dHttp]
@[simp] theorem keptProbe_dProbe (p : Probe) : keptProbe p (dProbe p) = true := by
  simp [keptProbe, dProbe, keptO_map keptHttp_dHttp]
@[simp] theorem keptRef_dRef (r : Option String) : keptRef r (dRef r) = true := by
  unfold keptRef dRef; exact keptO_map (fun s => keptS_orS "v1" s) r

theorem keptPort_dPortAll (hn : Bool) (p : Port) : keptPort p (dPortAll hn p) = true := by
  cases hn <;> simp [keptPort, dPortAll, dPort, dHostPort]

theorem keptContainer_dContainer (hn : Bool) (c : Container) : keptContainer c (dContainer hn c) = true := by
  rw [dContainer_eq]
  simp only [keptContainer, sameS_self, keptS_orS, keptL_map (keptPort_dPortAll hn), keptL_map keptRef_dRef, keptRes_dRes,
    keptO_map keptProbe_dProbe, keptO_map keptHttp_dHttp, Bool.and_true, Bool.true_and]
  unfold keptS; split_ifs <;> simp_all

theorem keptContainer_dCommon (c : Container) : keptContainer c (dCommon c) = true := by
  simp [keptContainer, dCommon, keptL_map (f := keptPort) (g := dPort) (fun p => by simp [keptPort, dPort]), keptL_map keptRef_dRef,
    keptO_map keptProbe_dProbe, keptO_map keptHttp_dHttp]

theorem keptProj_dProj (s : ProjSource) : keptProj s (dProj s) = true := by
  simp [keptProj, dProj, keptO_map (f := keptL keptRef) (fun items => keptL_map keptRef_dRef items),
    keptO_map (f := keptO sameI) (fun e => keptO_orO sameI_self 3600 e)]

theorem keptVolume_dVolume (v : Volume) : keptVolume v (dVolume v) = true := by
  simp only [keptVolume, dVolume, sameB_self, keptB_or, Bool.true_and, Bool.and_eq_true]
  refine ⟨⟨⟨⟨⟨⟨⟨⟨?_, ?_⟩, ?_⟩, ?_⟩, ?_⟩, ?_⟩, ?_⟩, ?_⟩, ?_⟩
  · exact keptO_map (fun x => keptO_orO sameS_self "" x) _
  · exact keptO_map (fun x => keptO_orO sameI_self 420 x) _
  · exact keptO_map (fun x => keptS_orS "default" x) _
  · exact keptO_map (fun r => by simp) _
  · exact keptO_map (fun d => by simp [keptO_orO sameI_self, keptL_map keptRef_dRef]) _
  · exact keptO_map (fun x => keptO_orO sameI_self 420 x) _
  · exact keptO_map (fun a => by simp [keptO_orO sameS_self, keptO_orO sameB_self]) _
  · exact keptO_map (fun p => by simp [keptO_orO sameI_self, keptL_map keptProj_dProj]) _
  · exact keptO_map (fun s => by simp) _

theorem keptClaim_dClaim (c : Claim) : keptClaim c (dClaim c) = true := by simp [keptClaim, dClaim]

theorem kept_dStrategy (t : String) (ru : Option (Option Int)) :
    keptS t (dStrategy t ru).1 = true ∧ keptO (keptO sameI) ru (dStrategy t ru).2 = true := by
  refine ⟨by simp [dStrategy], ?_⟩
  rcases ru with _ | (_ | p) <;> simp [dStrategy, keptO, orO] <;> split_ifs <;> simp

/-- **one pass of defaulting keeps every value that was set** (quantities rounded up to 10^-3), for every view -/
theorem keptView_defaults (v : View) : keptView v (defaults v) = true := by
  have hs := kept_dStrategy v.stratType v.rollingUpdate
  simp only [keptView, defaults, keptS_orS, hs.1, hs.2, keptO_orO sameI_self, sameB_self, keptL_map keptVolume_dVolume,
    keptL_map (keptContainer_dContainer v.hostNetwork), keptL_map keptContainer_dCommon, keptRes_dRes, keptL_map keptClaim_dClaim,
    Bool.and_true, Bool.true_and]
  cases v.secCtx <;> rfl

/-- the monitor of the `defaults` engine is true on the model's observation of every view -/
theorem clauses_model (v : View) : ∀ c ∈ Spec.clauses (Spec.observe v), c.2 = true := by
  intro c hc
  simp only [Spec.clauses, Spec.observe, Spec.idempotent, Spec.templateKept, Spec.neverFails, Spec.setValuesKept, defaults_idem, keptView_defaults,
    beq_self_eq_true, Bool.and_self, List.mem_cons, List.not_mem_nil, or_false] at hc
  rcases hc with rfl | rfl | rfl | rfl <;> rfl

end Asts.Defaults
