import Asts.Proofs.Rc_Frame
import Asts.Proofs.Ordinals

/-! The fault invariant of the reconcile loops, `SYc.runLoops_good` (stated with the `SYc` definitions `hitAct`, `Clean`,
    `GoodNext`, `GoodRes`, `GoodCtl`, hence the namespace): every action is checked against the failing pod-control calls
    at the moment it is issued, so the loops end `.ok` only if no performed action was hit, and `.err` exactly when the
    last one was. From it: no panic (`L1c.runLoops_calm`, `updateStatefulSet_calm'`: C15, reconcile part) and the bounds
    of the replica count. -/
namespace Asts.SYc

/-- is this pod-control call one of the failing ones? -/
def hitAct (f : Faults) : Action → Bool
  | .create o _ => f.hit 0 o
  | .delete o _ _ => f.hit 1 o
  | .update o => f.hit 2 o

def Clean (f : Faults) (l : List Action) : Prop := ∀ a ∈ l, hitAct f a = false

theorem clean_nil (f : Faults) : Clean f [] := by intro a h; cases h
theorem clean_append {f : Faults} {a b : List Action} (ha : Clean f a) (hb : Clean f b) : Clean f (a ++ b) := by
  intro x hx
  rcases List.mem_append.1 hx with h | h
  · exact ha x h
  · exact hb x h
theorem clean_single {f : Faults} {a : Action} (h : hitAct f a = false) : Clean f [a] := by
  intro x hx; simp only [List.mem_singleton] at hx; subst hx; exact h

/-- the loop goes on: what was appended was not hit -/
def GoodNext (f : Faults) (s s' : St) : Prop := ∃ l, s'.acts = s.acts ++ l ∧ Clean f l

/-- the loop ended: `.ok` with nothing hit, or `.err` with exactly the last appended action hit -/
def GoodRes (f : Faults) (s s' : St) (o : Outcome) : Prop :=
  (o = .ok ∧ ∃ l, s'.acts = s.acts ++ l ∧ Clean f l) ∨
  (o = .err ∧ ∃ l a, s'.acts = s.acts ++ l ++ [a] ∧ Clean f l ∧ hitAct f a = true)

def GoodCtl (f : Faults) (s : St) : Ctl → Prop
  | .next s' => GoodNext f s s'
  | .done s' o => GoodRes f s s' o

theorem goodNext_refl (f : Faults) (s : St) : GoodNext f s s := ⟨[], by simp, clean_nil f⟩

theorem goodNext_trans {f : Faults} {s s1 s2 : St} (h1 : GoodNext f s s1) (h2 : GoodNext f s1 s2) : GoodNext f s s2 := by
  obtain ⟨l1, e1, c1⟩ := h1
  obtain ⟨l2, e2, c2⟩ := h2
  exact ⟨l1 ++ l2, by rw [e2, e1, List.append_assoc], clean_append c1 c2⟩

theorem goodRes_trans {f : Faults} {s s1 s2 : St} {o : Outcome} (h1 : GoodNext f s s1) (h2 : GoodRes f s1 s2 o) :
    GoodRes f s s2 o := by
  obtain ⟨l1, e1, c1⟩ := h1
  rcases h2 with ⟨ho, l2, e2, c2⟩ | ⟨ho, l2, a, e2, c2, ha⟩
  · exact Or.inl ⟨ho, l1 ++ l2, by rw [e2, e1, List.append_assoc], clean_append c1 c2⟩
  · exact Or.inr ⟨ho, l1 ++ l2, a, by rw [e2, e1]; simp, clean_append c1 c2, ha⟩

theorem goodCtl_trans {f : Faults} {s s1 : St} {c : Ctl} (h1 : GoodNext f s s1) (h2 : GoodCtl f s1 c) : GoodCtl f s c := by
  cases c with
  | next s' => exact goodNext_trans h1 h2
  | done s' o => exact goodRes_trans h1 h2

theorem goodRes_ok_refl (f : Faults) (s : St) : GoodRes f s s .ok := Or.inl ⟨rfl, [], by simp, clean_nil f⟩

theorem goodRes_err_of {f : Faults} {s s' : St} {a : Action} (hacts : s'.acts = s.acts ++ [a])
    (h : hitAct f a = true) : GoodRes f s s' .err :=
  Or.inr ⟨rfl, [], a, by simpa using hacts, clean_nil f, h⟩

theorem goodNext_of {f : Faults} {s s' : St} {a : Action} (hacts : s'.acts = s.acts ++ [a])
    (h : hitAct f a = false) : GoodNext f s s' := ⟨[a], hacts, clean_single h⟩

theorem goodRes_ok_of {f : Faults} {s s' : St} {a : Action} (hacts : s'.acts = s.acts ++ [a])
    (h : hitAct f a = false) : GoodRes f s s' .ok := Or.inl ⟨rfl, [a], hacts, clean_single h⟩

theorem after_good {f : Faults} {mono : Bool} {s t : St} {a : Action} (hacts : t.acts = s.acts ++ [a])
    (h : hitAct f a = false) : GoodCtl f s (L1c.after mono t) := by
  cases mono
  · exact goodNext_of hacts h
  · exact goodRes_ok_of hacts h

theorem ensurePod_good (cur upd : String) (f : Faults) (mono : Bool) (s : St) (i : Int) (p : Pod) :
    GoodCtl f s (ensurePod cur upd f mono s i p) := by
  cases hc : p.created
  · rw [L1c.ensurePod_vacant _ _ _ _ _ _ hc]
    by_cases hf : f.hit 0 i = true
    · rw [if_pos hf]
      exact goodRes_err_of rfl hf
    · rw [if_neg hf]
      exact after_good rfl (eq_false_of_ne_true hf)
  · rw [L1c.ensurePod_created _ _ _ _ _ _ hc]
    by_cases h1 : (!p.healthy && mono) = true
    · rw [if_pos h1]
      exact goodRes_ok_refl f s
    rw [if_neg h1]
    by_cases h2 : (p.idOk && p.stOk) = true
    · rw [if_pos h2]
      exact goodNext_refl f s
    rw [if_neg h2]
    by_cases hf : f.hit 2 i = true
    · rw [if_pos hf]
      exact goodRes_err_of rfl hf
    · rw [if_neg hf]
      exact goodNext_of rfl (eq_false_of_ne_true hf)

theorem replicaStep_good (v : SetView) (cur upd : String) (f : Faults) (mono : Bool) (s : St) (i : Int) (p0 : Pod) :
    GoodCtl f s (replicaStep v cur upd f mono s i p0).1 := by
  cases hfs : p0.fs
  · rw [L1c.replicaStep_keep _ _ _ _ _ _ _ hfs]
    exact ensurePod_good cur upd f mono s i p0
  · rw [L1c.replicaStep_replace _ _ _ _ _ _ _ hfs]
    by_cases hf : f.hit 1 i = true
    · rw [if_pos hf]
      exact goodRes_err_of rfl hf
    · rw [if_neg hf]
      exact goodCtl_trans (goodNext_of (a := .delete i p0.id .replaceFailed) rfl (eq_false_of_ne_true hf))
        (ensurePod_good cur upd f mono (L1c.stepDelete cur upd s i p0) i (newPod v cur upd i))

theorem replicaLoop_good (v : SetView) (cur upd : String) (f : Faults) (mono : Bool) (reps : List (Int × Pod)) (s : St) :
    GoodCtl f s (replicaLoop v cur upd f mono s reps).1 := by
  induction reps generalizing s with
  | nil => exact goodNext_refl f s
  | cons ip rest ih =>
    obtain ⟨i, p⟩ := ip
    have h := replicaStep_good v cur upd f mono s i p
    unfold replicaLoop
    cases hr : replicaStep v cur upd f mono s i p with
    | mk c p' =>
      rw [hr] at h
      cases c with
      | next s' => exact goodCtl_trans h (ih s')
      | done s' o => exact h

theorem condemnedLoop_good (cur upd : String) (f : Faults) (mono : Bool) (fu : Option Pod) (cs : List Pod) (s : St) :
    GoodCtl f s (condemnedLoop cur upd f mono fu s cs) := by
  induction cs generalizing s with
  | nil => exact goodNext_refl f s
  | cons c rest ih =>
    rcases L1c.condemnedLoop_cons cur upd f mono fu s c rest with ⟨-, e⟩ | ⟨-, -, e⟩ | ⟨-, hf, e⟩ | ⟨-, hf, e⟩
    · rw [e]
      exact goodRes_ok_refl f s
    · rw [e]
      exact ih s
    · rw [e]
      exact goodRes_err_of rfl hf
    · rw [e]
      have hn : GoodNext f s (L1c.stepScale cur upd s c) :=
        goodNext_of (a := .delete c.ord c.id .scaleDown) rfl hf
      cases mono
      · exact goodCtl_trans hn (ih _)
      · exact goodRes_trans hn (goodRes_ok_refl f _)

theorem updateWalk_good (cur upd : String) (f : Faults) (l : List (Int × Pod)) (s : St) :
    GoodRes f s (updateWalk cur upd f s l).1 (updateWalk cur upd f s l).2 := by
  rcases L1c.updateWalk_cases cur upd f l s with e | ⟨pre, t, q, post, -, -, -, -, e⟩
  · rw [e]
    exact goodRes_ok_refl f s
  · rw [e]
    by_cases hf : f.hit 1 t = true
    · rw [if_pos hf]
      exact goodRes_err_of rfl hf
    · rw [if_neg hf]
      exact goodRes_ok_of rfl (eq_false_of_ne_true hf)

theorem runLoops_good (v : SetView) (cur upd : String) (f : Faults) (p : Prepared) :
    GoodRes f { status := p.st0 } (runLoops v cur upd f p).1 (runLoops v cur upd f p).2 := by
  unfold runLoops
  simp only
  have h1 := replicaLoop_good v cur upd f (!v.parallel) p.reps { status := p.st0 }
  cases hr : replicaLoop v cur upd f (!v.parallel) { status := p.st0 } p.reps with
  | mk c reps =>
    rw [hr] at h1
    cases c with
    | done s o => exact h1
    | next s =>
      simp only
      have h2 := condemnedLoop_good cur upd f (!v.parallel) p.fu p.condemned.reverse s
      cases hc : condemnedLoop cur upd f (!v.parallel) p.fu s p.condemned.reverse with
      | done s' o => rw [hc] at h2; exact goodRes_trans h1 h2
      | next s' =>
        rw [hc] at h2
        simp only
        refine goodRes_trans (goodNext_trans h1 h2) ?_
        unfold updateStage
        by_cases hod : (v.strat == .onDelete) = true
        · rw [if_pos hod]
          exact goodRes_ok_refl f s'
        · rw [if_neg hod]
          exact updateWalk_good cur upd f _ s'

/-- in a run of the loops only the last call issued can have been hit -/
theorem runLoops_not_last (v : SetView) (cur upd : String) (f : Faults) (p : Prepared) {pre post : List Action}
    {a : Action} (h : (runLoops v cur upd f p).1.acts = pre ++ a :: post) (hpost : post ≠ []) : hitAct f a = false := by
  rcases runLoops_good v cur upd f p with ⟨-, l, e, c⟩ | ⟨-, l, b, e, c, -⟩
  · have e' : pre ++ a :: post = l := h.symm.trans e
    exact c a (e' ▸ List.mem_append_right _ List.mem_cons_self)
  · obtain ⟨post', x, rfl⟩ := (List.eq_nil_or_concat post).resolve_left hpost
    have e' : (pre ++ a :: post') ++ [x] = l ++ [b] := by
      rw [List.append_assoc, List.cons_append, ← List.concat_eq_append]
      exact h.symm.trans e
    exact c a (List.append_inj_left' e' rfl ▸ List.mem_append_right _ List.mem_cons_self)

end Asts.SYc

namespace Asts.L1c

def _root_.Asts.Outcome.calm (o : Outcome) : Prop := o = .ok ∨ o = .err

theorem _root_.Asts.Outcome.calm_ne_panic {o : Outcome} (h : o.calm) (site : String) : o ≠ .panic site := by
  rcases h with rfl | rfl <;> exact fun h => nomatch h

theorem runLoops_calm (v cur upd f p) : (runLoops v cur upd f p).2.calm := by
  rcases SYc.runLoops_good v cur upd f p with ⟨ho, -⟩ | ⟨ho, -⟩
  · exact Or.inl ho
  · exact Or.inr ho

theorem fuStep_count (ps : List Pod) (acc : (Option Pod × Int) × Nat) :
    (ps.foldl fuStep acc).2 = acc.2 + (ps.filter (fun p => !p.healthy)).length := by
  induction ps generalizing acc with
  | nil => rfl
  | cons p rest ih =>
    rw [List.foldl_cons, ih, List.filter_cons]
    unfold fuStep
    cases !p.healthy
    · rfl
    · simp only [if_true, List.length_cons]
      split_ifs
      all_goals omega

theorem extend_fst_le (l : List Int) (b : Int) : (extend b l).1 ≤ b + l.length := by
  induction l generalizing b with
  | nil => simp [extend]
  | cons s ss ih =>
    unfold extend
    split_ifs
    · have := ih (b + 1); simp only [List.length_cons, Nat.cast_add, Nat.cast_one]; omega
    · have := ih b; simp only [List.length_cons, Nat.cast_add, Nat.cast_one]; omega

theorem maxReplica_le (r : Int) (S : List Int) : (maxReplicaAndSlots r S).1 ≤ r + S.length := by
  unfold maxReplicaAndSlots
  have h1 := extend_fst_le (dedupSort S) r
  have h2 := length_dedupSort_le S
  omega

/-- C15, reconcile part, without any bound on ordinals or on the replica count -/
theorem updateStatefulSet_calm' (v : SetView) (cur upd : String) (pods : List Pod) (f : Faults) (r : Int)
    (hr : v.replicas = some r) :
    (updateStatefulSet v cur upd pods f).2.calm := by
  rw [updateStatefulSet_some hr]
  split_ifs
  · exact Or.inl rfl
  · exact runLoops_calm ..

/-- C15, reconcile part -/
theorem updateStatefulSet_calm (v : SetView) (cur upd : String) (pods : List Pod) (f : Faults) (r : Int)
    (hr : v.replicas = some r) (hb : (maxReplicaAndSlots r v.slots).1 ≤ maxInt32)
    (hord : ∀ p ∈ pods, p.ord < maxInt32) :
    (updateStatefulSet v cur upd pods f).2.calm :=
  updateStatefulSet_calm' v cur upd pods f r hr

end Asts.L1c
