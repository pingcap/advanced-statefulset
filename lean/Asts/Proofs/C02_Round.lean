import Asts.Proofs.C02_SyncAny
import Asts.Proofs.L1_a_Final

/-! C02 / C09: a round (any fault plan) followed by the fairness step keeps a world inside the premises. -/
namespace Asts.C02p
open Asts Asts.L1c

theorem setPod_all {P : CPod → Prop} {pods : List CPod} (p : CPod → Bool) (f : CPod → CPod)
    (hP : ∀ c ∈ pods, P c) (hf : ∀ c, P c → P (f c)) : ∀ c ∈ setPod pods p f, P c := by
  intro c hc
  unfold setPod at hc
  rw [List.mem_map] at hc
  obtain ⟨c0, hc0, rfl⟩ := hc
  split_ifs
  · exact hf c0 (hP c0 hc0)
  · exact hP c0 hc0

theorem wfPod0_owner (i : SyncIn) (c : CPod) (o : Owner) (ho : o ≠ .other) (hc : wfPod0 i c = true) :
    wfPod0 i { c with owner := o } = true := by
  unfold wfPod0 at hc ⊢
  split_ifs at hc ⊢ with hm
  · simp only [Bool.and_eq_true] at hc ⊢
    obtain ⟨⟨⟨⟨a1, a2⟩, a3⟩, -⟩, a6⟩ := hc
    exact ⟨⟨⟨⟨a1, a2⟩, a3⟩, by simpa using ho⟩, a6⟩
  · rfl

theorem wfPod0_owner_ne {i : SyncIn} {c : CPod} (hm : c.member = true) (hc : wfPod0 i c = true) : c.owner ≠ .other := by
  unfold wfPod0 at hc
  simp only [hm, if_true, Bool.and_eq_true] at hc
  simpa using hc.1.2

theorem applyPatches_go_wf (i : SyncIn) (plan : List Fault) (seen log : List String) (pods : List CPod)
    (hP : ∀ c ∈ pods, wfPod0 i c = true) : ∀ c ∈ applyPatches.go plan seen log pods, wfPod0 i c = true := by
  induction log generalizing seen pods with
  | nil => exact hP
  | cons e rest ih =>
    unfold applyPatches.go
    apply ih
    split
    · split_ifs
      · exact hP
      · apply setPod_all _ _ hP
        intro c hc
        split
        · exact wfPod0_owner i c .self (by simp) hc
        · exact wfPod0_owner i c .none (by simp) hc
        · exact hc
    · exact hP

theorem applyActs_wf (i : SyncIn) (orig : List CPod) (acts : List Action) (pods : List CPod)
    (hP : ∀ c ∈ pods, wfPod0 i c = true) (hcreate : ∀ o rev, Action.create o rev ∈ acts → 0 ≤ o) :
    ∀ c ∈ applyActs i.setName orig pods acts, wfPod0 i c = true := by
  induction acts generalizing pods with
  | nil => exact hP
  | cons a rest ih =>
    have hrest : ∀ o rev, Action.create o rev ∈ rest → 0 ≤ o := fun o rev h => hcreate o rev (List.mem_cons_of_mem _ h)
    cases a with
    | create o rev =>
      unfold applyActs
      apply ih _ _ hrest
      intro c hc
      rw [List.mem_append, List.mem_singleton] at hc
      rcases hc with hc | rfl
      · exact hP c hc
      · have := hcreate o rev List.mem_cons_self
        simp [wfPod0, this, Pod.failed, Pod.succeeded]
    | delete o id w =>
      unfold applyActs
      apply ih _ _ hrest
      apply setPod_all
      · intro c hc; exact hP c (List.mem_of_mem_filter hc)
      · intro c hc; exact hc
    | update o =>
      unfold applyActs
      apply ih _ _ hrest
      apply setPod_all _ _ hP
      intro c hc
      by_cases hm : c.member = true
      · have hne := wfPod0_owner_ne hm hc
        have : wfPod0 i { c with owner := (if ((orig.find? (·.name == canonicalName i.setName o)).any (·.owner == .none)) then .none else c.owner) } = true := by
          apply wfPod0_owner _ _ _ _ hc
          split_ifs
          · simp
          · exact hne
        exact this
      · unfold wfPod0; simp [hm]

/-- no revision the listing cannot see sits on ANY name the controller may still probe (`wfWorld` asks this of the next
    eight probes only, which is not inductive: the collision count can move) -/
def RevProbeFree (h : Hashing) (i : SyncIn) : Prop :=
  ∀ r ∈ i.store, visB r = true ∨ ∀ k : Nat, h.nameOf i.template (i.collisionCount.getD 0 + k) ≠ r.name

theorem wfRev_of_probeFree {h : Hashing} {i : SyncIn} (hp : RevProbeFree h i) : ∀ r ∈ i.store, wfRev h i r = true := by
  intro r hr
  unfold wfRev
  rcases hp r hr with hv | hk
  · unfold visB at hv; rw [hv]; rfl
  · simp only [Bool.or_eq_true, List.all_eq_true, List.mem_range, bne_iff_ne, ne_eq]
    right
    intro k _
    exact hk k

/-- **a round keeps the world inside the premises** (any fault plan; the state is looked at after the next fairness step,
    when the pods created in the round have been admitted) -/
theorem wf_round (h : Hashing) (i : SyncIn) (plan : List Fault) (hw : wfWorld h i = true) (hp : RevProbeFree h i) :
    wfWorld h (settle (round h i plan).1) = true ∧ RevProbeFree h (settle (round h i plan).1) := by
  have hwj := wfWorld_settle h i hw
  have hok := syncF_ok h (settle i) plan
  rw [round_fst]
  set j := settle i with hj
  set o := syncF h j plan with ho
  have hpj : RevProbeFree h j := hp
  -- the revision clause
  have hprobe : RevProbeFree h (settle (applySync j plan o)) := by
    intro r' hr'
    have hr'' : r' ∈ o.store := hr'
    rcases hok.store r' hr'' with hv | ⟨r, hr, hvr, hn⟩
    · exact Or.inl hv
    · right
      rcases hpj r hr with hv | hk
      · rw [hvr] at hv; cases hv
      · intro k
        rw [← hn]
        show h.nameOf j.template ((if o.status.isSome then o.cc else j.collisionCount).getD 0 + k) ≠ r.name
        split_ifs with hs
        · obtain ⟨c, hc, hle⟩ := hok.cc hs
          rw [hc]
          have : (some c).getD 0 + (k : Int) = j.collisionCount.getD 0 + ((c - j.collisionCount.getD 0).toNat + k : Nat) := by
            simp only [Option.getD_some, Nat.cast_add]
            omega
          rw [this]
          exact hk _
        · exact hk k
  refine ⟨?_, hprobe⟩
  rw [wfWorld_iff] at hwj ⊢
  obtain ⟨h1, -, h3⟩ := hwj
  refine ⟨?_, wfRev_of_probeFree hprobe, ?_⟩
  · exact wfSpec_settle ((wfSpec_applySync j plan o).trans h1)
  · refine wfPod_settle j (i := applySync j plan o) (fun c0 hc0 => ?_)
    have hc0' : c0 ∈ reindex (sortPods (applyActs j.setName j.pods (applyPatches plan o.log j.pods) (o.acts.take o.actsDone))) := hc0
    obtain ⟨c00, hc00, hk0⟩ := (keyPerm_reindex_sort _).mem hc0'
    have hwf00 : wfPod0 j c00 = true := by
      apply applyActs_wf j j.pods _ _ _ _ c00 hc00
      · exact applyPatches_go_wf j plan [] o.log j.pods (fun c hc => wfPod0_of_wfPod (h3 c hc))
      · intro ord rev hmem
        obtain ⟨cur, upd, pods, f, hin⟩ := hok.acts _ (List.mem_of_mem_take hmem)
        exact (desired_isDesired (replicasOf j.view) j.view.slots).nonneg ord (creates_only_desired_prop _ _ _ _ _ hin)
    rw [← wfPod0_key, ← hk0, wfPod0_key]; exact hwf00

end Asts.C02p
