import Mathlib.Tactic
import Asts.Proofs.WE_History
import Asts.Proofs.SY_a_Pause

/-! # WE — the monitor `C11pausedSilent` is true on the model's histories -/
namespace Asts.WE
open Asts Asts.SYa

/-- what the driver prints of a history of the model: the edits, the set's spec state after them (only for rounds with
    edits), the round observation -/
def observeHist (hs : List HistRound) : List HRound :=
  hs.map fun r => { edits := r.edits, spec := if r.edits.isEmpty then none else some (specOfWorld r.world), obs := r.obs }

theorem round_keeps_paused (h : Hashing) (i : SyncIn) (p : List Fault) : (round h i p).1.paused = i.paused := rfl
theorem round_obs_revs (h : Hashing) (i : SyncIn) (p : List Fault) : (round h i p).2.revs = (round h i p).1.store := rfl
theorem round_obs_status (h : Hashing) (i : SyncIn) (p : List Fault) : (round h i p).2.status = (round h i p).1.stored := rfl

theorem paused_step (h : Hashing) (w : SyncIn) (plan : List Fault) (prev : Option RoundObs)
    (hprev : ∀ p, prev = some p → p.revs = w.store ∧ p.status = w.stored) :
    (!w.paused ||
      ((round h w plan).2.writes == 0 && (round h w plan).2.out == "ok" && sameAsPrev prev (round h w plan).2)) = true := by
  cases hp : w.paused with
  | false => rfl
  | true =>
    obtain ⟨a, b, _, c, d, _⟩ := round_paused h w plan hp
    rw [a, b]
    cases prev with
    | none => rfl
    | some p =>
      obtain ⟨e, f⟩ := hprev p rfl
      unfold sameAsPrev
      rw [round_obs_revs, round_obs_status, c, d, ← e, ← f]
      simp

theorem runHistory_shape (h : Hashing) (script : Script) (fuel j silent : Nat) (w : SyncIn) (plan : List Fault) :
    runHistory h script (fuel + 1) j silent w plan =
        [{ edits := editsAt script j, world := applyEdits (editsAt script j) w,
           obs := (round h (applyEdits (editsAt script j) w) plan).2 }] ∨
    ∃ s', runHistory h script (fuel + 1) j silent w plan =
        { edits := editsAt script j, world := applyEdits (editsAt script j) w,
          obs := (round h (applyEdits (editsAt script j) w) plan).2 } ::
        runHistory h script fuel (j + 1) s' (round h (applyEdits (editsAt script j) w) plan).1 [] := by
  rw [runHistory_succ]
  exact (ite_eq_or_eq _ _ _).imp id (fun e => ⟨_, e⟩)

theorem pausedSilentFrom_runHistory (h : Hashing) (script : Script) :
    ∀ (fuel j silent : Nat) (w : SyncIn) (plan : List Fault) (sp : SpecState) (prev : Option RoundObs),
      sp.paused = w.paused → (∀ p, prev = some p → p.revs = w.store ∧ p.status = w.stored) →
      pausedSilentFrom sp prev (observeHist (runHistory h script fuel j silent w plan)) = true
  | 0, _, _, _, _, _, _, _, _ => rfl
  | fuel + 1, j, silent, w, plan, sp, prev, hsp, hprev => by
    have fs := (applyEdits_frame (editsAt script j) w).store
    have fd := (applyEdits_frame (editsAt script j) w).stored
    -- the spec state the monitor reads for this round has the world's pause flag
    have hflag : ((if (editsAt script j).isEmpty then none else some (specOfWorld (applyEdits (editsAt script j) w)) :
        Option SpecState).getD sp).paused = (applyEdits (editsAt script j) w).paused := by
      by_cases he : (editsAt script j).isEmpty = true
      · have : editsAt script j = [] := List.isEmpty_iff.mp he
        simp only [he, if_true, Option.getD_none]
        rw [hsp, this]; rfl
      · simp only [he, Bool.false_eq_true, if_false, Option.getD_some]; rfl
    have hprev0 : ∀ p, prev = some p → p.revs = (applyEdits (editsAt script j) w).store ∧
        p.status = (applyEdits (editsAt script j) w).stored := by
      intro p hp; obtain ⟨a, b⟩ := hprev p hp; exact ⟨a.trans fs.symm, b.trans fd.symm⟩
    have hstep := paused_step h (applyEdits (editsAt script j) w) plan prev hprev0
    rcases runHistory_shape h script fuel j silent w plan with e | ⟨s', e⟩
    · rw [e]
      simp only [observeHist, List.map_cons, List.map_nil, pausedSilentFrom]
      rw [hflag, hstep]; rfl
    · rw [e]
      have hnext := pausedSilentFrom_runHistory h script fuel (j + 1) s' (round h (applyEdits (editsAt script j) w) plan).1 []
        ((if (editsAt script j).isEmpty then none else some (specOfWorld (applyEdits (editsAt script j) w)) : Option SpecState).getD sp)
        (some (round h (applyEdits (editsAt script j) w) plan).2) (by rw [hflag]; rfl)
        (by intro p hp; cases hp; exact ⟨rfl, rfl⟩)
      simp only [observeHist, List.map_cons, pausedSilentFrom] at hnext ⊢
      rw [hflag, hstep, Bool.true_and]
      exact hnext

end Asts.WE
