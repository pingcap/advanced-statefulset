import Asts.Proofs.L1_a_Bridge
import Mathlib.Tactic

/-! # Towards exact action lists

The update stage appends at most one delete. On the empty
cluster (Parallel, no create fault) the created ordinals are then exactly the desired set (C01 d, "and nowhere else" read
as an equality). `L1_a_SlotK` and `L1_e_SlotOut` continue from here. -/
namespace Asts
open List

/-- below the int32 sentinel the scan never reports "some pod is unhealthy" without naming one -/
theorem firstUnhealthy_some (ps : List Pod) (h : ∀ p ∈ ps, p.ord < maxInt32) :
    ¬ (((firstUnhealthy ps).2 > 0 && (firstUnhealthy ps).1.isNone) = true) := by
  rw [Bool.and_eq_true, decide_eq_true_eq]
  rintro ⟨hpos, hnone⟩
  have hsome := L1c.firstUnhealthy_some' ps hpos
  rw [Option.isNone_iff_eq_none.1 hnone] at hsome
  cases hsome

theorem updateWalk_shape (cur upd : String) (f : Faults) (s : St) (W : List (Int × Pod)) :
    ∃ l, (updateWalk cur upd f s W).1.acts = s.acts ++ l ∧ (l = [] ∨ ∃ o id, l = [.delete o id .update]) := by
  rcases L1c.updateWalk_cases cur upd f W s with e | ⟨pre, t, q, post, -, -, -, -, e⟩
  · rw [e]
    exact ⟨[], (List.append_nil _).symm, Or.inl rfl⟩
  · rw [e]
    exact ⟨_, rfl, Or.inr ⟨_, _, rfl⟩⟩

theorem updateStage_shape (v : SetView) (cur upd : String) (f : Faults) (reps : List (Int × Pod)) (s : St) :
    ∃ l, (updateStage v cur upd f reps s).1.acts = s.acts ++ l ∧ (l = [] ∨ ∃ o id, l = [.delete o id .update]) := by
  unfold updateStage
  split_ifs
  · exact ⟨[], by simp, Or.inl rfl⟩
  · exact updateWalk_shape ..

/-- on a fresh object there is nothing to replace: the step is `ensurePod` -/
theorem replicaStep_newPod (v : SetView) (cur upd : String) (f : Faults) (mono : Bool) (s : St) (i : Int) :
    replicaStep v cur upd f mono s i (newPod v cur upd i) =
      (ensurePod cur upd f mono s i (newPod v cur upd i), newPod v cur upd i) := rfl

theorem replicaLoop_fresh (v : SetView) (cur upd : String) (f : Faults) (hf : ∀ o, f.hit 0 o = false)
    (R : List (Int × Pod)) (hR : ∀ ip ∈ R, ip.2 = newPod v cur upd ip.1) (s : St) :
    ∃ st, replicaLoop v cur upd f false s R =
      (.next { acts := s.acts ++ R.map (fun ip => Action.create ip.1 (newPodRev v cur upd ip.1)), status := st }, R) := by
  induction R generalizing s with
  | nil => exact ⟨s.status, by simp [replicaLoop]⟩
  | cons ip rest ih =>
    obtain ⟨i, p⟩ := ip
    have hp : p = newPod v cur upd i := hR (i, p) (by simp)
    subst hp
    have hstep : replicaStep v cur upd f false s i (newPod v cur upd i) =
        (.next { acts := s.acts ++ [.create i (newPodRev v cur upd i)],
                 status := bump { s.status with replicas := s.status.replicas + 1 } cur upd (newPodRev v cur upd i) 1 },
         newPod v cur upd i) := by
      rw [replicaStep_newPod, ensurePod, L1c.newPod_created, hf i]
      rfl
    obtain ⟨st, hst⟩ := ih (fun ip hip => hR ip (by simp [hip]))
      { acts := s.acts ++ [.create i (newPodRev v cur upd i)],
        status := bump { s.status with replicas := s.status.replicas + 1 } cur upd (newPodRev v cur upd i) 1 }
    refine ⟨st, ?_⟩
    unfold replicaLoop
    rw [hstep]
    simp only
    rw [hst]
    simp

theorem createOrds_creates (R : List (Int × Pod)) (g : Int → String) :
    createOrds (observe (R.map (fun ip => Action.create ip.1 (g ip.1)))) = R.map (·.1) := by
  induction R with
  | nil => rfl
  | cons ip rest ih =>
    simp only [createOrds, observe, List.map_cons, Action.observe, List.filterMap_cons] at ih ⊢
    rw [ih]

theorem C01d_exact_gen (v : SetView) (cur upd : String) (f : Faults) (r : Int) (hr : v.replicas = some r)
    (hpar : v.parallel = true) (hdel : v.deleting = false) (hf : ∀ o, f.hit 0 o = false) :
    createOrds (observe (updateStatefulSet v cur upd [] f).1.acts) = desired r v.slots := by
  have hrun := L1c.updateStatefulSet_run (cur := cur) (upd := upd) (pods := []) f hr hdel
  have hreps := L1c.prepOf_reps v cur upd r []
  have hcondemned : (L1c.prepOf v cur upd r []).condemned = [] := rfl
  generalize L1c.prepOf v cur upd r [] = p at hrun hreps hcondemned
  -- no pod: every slot of `reps` holds a fresh object, nothing is condemned
  have hfresh : ∀ ip ∈ p.reps, ip.2 = newPod v cur upd ip.1 := by
    intro ip hip
    rw [hreps] at hip
    obtain ⟨i, -, rfl⟩ := List.mem_map.1 hip
    rfl
  rw [hrun]
  unfold runLoops
  obtain ⟨st, hloop⟩ := replicaLoop_fresh v cur upd f hf p.reps hfresh { status := p.st0 }
  simp only [hpar, Bool.not_true, hloop, hcondemned, List.reverse_nil, condemnedLoop, List.nil_append]
  -- the creates of the replica loop, then at most one update delete
  obtain ⟨l, hl, hshape⟩ := updateStage_shape v cur upd f p.reps
    { acts := p.reps.map (fun ip => Action.create ip.1 (newPodRev v cur upd ip.1)), status := st }
  have hnone : createOrds (observe l) = [] := by
    rcases hshape with rfl | ⟨o, id, rfl⟩ <;> rfl
  rw [hl, L1c.observe_append, L1c.createOrds_append, hnone, List.append_nil, createOrds_creates p.reps (newPodRev v cur upd), hreps,
    List.map_map]
  exact List.map_id _

end Asts
