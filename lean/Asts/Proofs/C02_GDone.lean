import Asts.Proofs.C02_GStep
import Asts.Proofs.C02_Target

/-! C02, stage 2: a normal, settled world whose pods need no work is `Final` after two more rounds: one that writes the
    status if it differs (and may complete the rolling update: `currentRevision := updateRevision`), one that deletes the
    history that this left unused. -/
namespace Asts.C02p
open Asts Asts.L1c

section
variable {h : Hashing} {j : SyncIn}

/-- what `muPods j = 0` says, pod by pod -/
theorem done_pods (hs : NSC h j) (hz : muPods j = 0) :
    (∀ c ∈ j.pods, inRange (bOf j) (EOf j) c.pod.ord = true ∧ c.pod.healthy = true ∧ c.pod.idOk = true ∧
      (j.view.strat = .rolling → partOf j.view ≤ c.pod.ord → c.pod.rev = hs.norm.updRev.name)) ∧
    (∀ o, inRange (bOf j) (EOf j) o = true → ∃ c ∈ j.pods, c.pod.ord = o) := by
  have hn := hs.norm
  unfold muPods at hz
  rw [hn.updName] at hz
  simp only [Nat.add_eq_zero_iff, Nat.mul_eq_zero, OfNat.ofNat_ne_zero, false_or, List.length_eq_zero_iff] at hz
  obtain ⟨hsum, hcond⟩ := hz
  have hw : ∀ o ∈ desired (replicasOf j.view) j.view.slots, wOf j.view hn.updRev.name j.pods o = 0 := by
    intro o ho
    have := List.sum_eq_zero_iff.1 hsum (wOf j.view hn.updRev.name j.pods o) (List.mem_map.2 ⟨o, ho, rfl⟩)
    exact this
  have hfull : ∀ o, inRange (bOf j) (EOf j) o = true → ∃ c ∈ j.pods, c.pod.ord = o := by
    intro o hr
    by_contra hcon
    push_neg at hcon
    have := hw o ((mem_desired_iff hn o).2 hr)
    rw [wOf_none hcon] at this
    cases this
  refine ⟨?_, hfull⟩
  intro c hcm
  have hin : c.pod.ord ∈ desired (replicasOf j.view) j.view.slots := by
    rw [List.filter_eq_nil_iff] at hcond
    have := hcond c hcm
    simpa using this
  have hr := (mem_desired_iff hn _).1 hin
  have hw0 := hw _ hin
  rw [wOf_some hn.ords hcm] at hw0
  have hnt := (hs.settled c hcm).1
  have hfs : c.pod.fs = false := by
    by_contra hfs
    rw [wPod_fs (by simpa using hfs) hnt] at hw0
    cases hw0
  rw [wPod_live hfs hnt] at hw0
  have hid : c.pod.idOk = true := by
    by_contra hid
    simp [hid] at hw0
  have hrr : c.pod.runningAndReady = true := by
    rcases (hs.settled c hcm).2 with h1 | h1
    · rw [hfs] at h1; cases h1
    · exact h1
  refine ⟨hr, by simp [Pod.healthy, hrr, hnt], hid, ?_⟩
  intro hroll hpt
  by_contra hrev
  have := outW_out (v := j.view) hroll hpt hrev
  omega

theorem done_goodPods (hs : NSC h j) (hz : muPods j = 0) :
    GoodPods j.view hs.norm.updRev.name (maxReplicaAndSlots (replicasOf j.view) j.view.slots).1
      (maxReplicaAndSlots (replicasOf j.view) j.view.slots).2 (j.pods.map (·.pod)) := by
  obtain ⟨h1, h2⟩ := done_pods hs hz
  constructor
  · intro p hp
    rw [List.mem_map] at hp
    obtain ⟨c, hcm, rfl⟩ := hp
    obtain ⟨a1, a2, a3, a4⟩ := h1 c hcm
    refine ⟨a2, a3, (hs.norm.pods c hcm).2.2.2.2.2.1, a1, ?_⟩
    intro hnod
    exact a4 (hs.norm.spec.strat.resolve_right hnod)
  · intro o ho
    obtain ⟨c, hcm, hco⟩ := h2 o ho
    exact ⟨c.pod, List.mem_map.2 ⟨c, hcm, rfl⟩, hco⟩

/-- the reconcile of such a world does nothing and returns the census -/
theorem done_recon (hs : NSC h j) (hz : muPods j = 0) :
    hs.norm.recon = ({ acts := [], status := st0Of j.view hs.norm.curRev.name hs.norm.updRev.name (j.pods.map (·.pod)) }, .ok) :=
  updateStatefulSet_quiet j.view _ _ _ [] (replicasOf j.view) hs.norm.spec.rep hs.norm.spec.del (done_goodPods hs hz)

/-- the status computed from a census under given revision names -/
def cruCensus (v : SetView) (cur upd : String) (pods : List Pod) (g : Int) : Status :=
  completeRollingUpdate v (st0Of { v with generation := g } cur upd pods)

/-- the completion rule is idempotent on a census: recomputing the status from the revision names it carries gives it back -/
theorem cru_census_fix (v : SetView) (cur upd : String) (pods : List Pod) (g : Int) :
    cruCensus v (cruCensus v cur upd pods g).currentRev (cruCensus v cur upd pods g).updateRev pods g = cruCensus v cur upd pods g := by
  unfold cruCensus completeRollingUpdate st0Of
  by_cases hfire : (v.strat == .rolling && (census cur upd pods).updated == (census cur upd pods).replicas &&
      (census cur upd pods).ready == (census cur upd pods).replicas) = true
  · simp only [hfire, if_true]
    have h1 : (census upd upd pods).updated = (census cur upd pods).updated := rfl
    have h2 : (census upd upd pods).replicas = (census cur upd pods).replicas := rfl
    have h3 : (census upd upd pods).ready = (census cur upd pods).ready := rfl
    rw [h1, h2, h3, hfire]
    simp only [if_true]
  · simp only [hfire, Bool.false_eq_true, if_false]

end

end Asts.C02p

namespace Asts.C02p
open Asts Asts.L1c

section
variable {h : Hashing} {j : SyncIn}

theorem inconsistent_self (st : Status) : inconsistentStatus st st = false := by
  unfold inconsistentStatus; simp

theorem cru_updateRev (v : SetView) (st : Status) : (completeRollingUpdate v st).updateRev = st.updateRev := by
  unfold completeRollingUpdate; split_ifs <;> rfl

/-- the completion rule leaves the status alone or sets `currentRevision := updateRevision` -/
theorem cru_cases (v : SetView) (st : Status) :
    completeRollingUpdate v st = st ∨ (completeRollingUpdate v st).currentRev = st.updateRev := by
  unfold completeRollingUpdate
  split_ifs
  · right; rfl
  · left; rfl

theorem expectedStatus_eq (i : SyncIn) :
    expectedStatus i = cruCensus i.view i.stored.currentRev i.stored.updateRev ((ownPods i).map (·.pod)) i.view.generation := rfl

theorem storedNext_cons (hn : NormC h j) : inconsistentStatus (storedNext hn) (completeRollingUpdate j.view hn.recon.1.status) = false := by
  unfold storedNext
  split_ifs with hinc
  · exact inconsistent_self _
  · simpa using hinc

theorem actFacts_nil (v : SetView) (cur upd : String) (b : Int) (E : List Int) (P : List CPod) : ActFacts v cur upd b E P [] := by
  refine ⟨?_, List.nodup_nil, ?_, ?_, ?_⟩
  · rintro id _ ⟨o, w, hm⟩; cases hm
  · intro o rev hm; cases hm
  · rintro c _ ⟨o, w, hm⟩; cases hm
  · rintro c _ ⟨o, w, hm⟩; cases hm

/-- when nothing is to do, every policy is fine -/
theorem pol_of_done (hs : NSC h j) (hz : muPods j = 0) : Pol hs.norm := by
  have hrec := done_recon hs hz
  apply Pol.of_facts (by rw [hrec])
  rw [hrec]
  exact actFacts_nil _ _ _ _ _ _

theorem done_rawNext (hs : NSC h j) (hz : muPods j = 0) : rawNext hs.norm = j.pods := by
  unfold rawNext nextRawG
  rw [done_recon hs hz]
  simp only [applyActs]
  rw [List.filter_eq_self.2 (fun c hc => by simp [(hs.settled c hc).1])]
  conv_rhs => rw [← List.map_id j.pods]
  exact List.map_congr_left (fun c hc => settleOne_healthy ((done_pods hs hz).1 c hc).2.1)

theorem done_next_pods (hs : NSC h j) (hz : muPods j = 0) : KeyPerm (nextW h j).pods j.pods := by
  have h1 := nextW_pods hs (pol_of_done hs hz)
  rw [done_rawNext hs hz] at h1
  exact h1

theorem done_next_mu (hs : NSC h j) (hz : muPods j = 0) : muPods (nextW h j) = 0 := by
  rw [muPods_next hs (pol_of_done hs hz), done_rawNext hs hz, ← hs.norm.updName, ← muPods_eq]
  exact hz

/-- the status is settled: it names the newest revision, a listed current revision, and equals the census it implies -/
structure Fix (hn : NormC h j) : Prop where
  upd : j.stored.updateRev = hn.updRev.name
  cur : (listedRevs j).any (·.name == j.stored.currentRev) = true
  status : inconsistentStatus j.stored (expectedStatus j) = false

theorem updRev_unique (hn hn' : NormC h j) : hn.updRev = hn'.updRev := rfl

theorem nextW_updRev (hs : NSC h j) (hp : Pol hs.norm) (hn1 : NormC h (nextW h j)) : hn1.updRev = hs.norm.updRev := by
  have h1 := hn1.updRev_spec.1
  rw [nextW_last hs hp] at h1
  exact (Option.some.inj h1).symm

theorem curRev_mem (hn : NormC h j) : hn.curRev ∈ listedRevs j := by
  have hupdMem : hn.updRev ∈ listedRevs j := List.mem_of_getLast? hn.updRev_spec.1
  unfold NormC.curRev
  cases hf : (listedRevs j).find? (·.name == j.stored.currentRev) with
  | none => simpa using hupdMem
  | some x => simpa using List.mem_of_find?_eq_some hf

/-- **first round after the pods are done**: the status is settled -/
theorem done_fix (hs : NSC h j) (hz : muPods j = 0) : Fix (nextW_ns hs (pol_of_done hs hz)).norm := by
  have hn := hs.norm
  have hp := pol_of_done hs hz
  have hrec := done_recon hs hz
  have hstatus : completeRollingUpdate j.view hn.recon.1.status =
      cruCensus j.view hn.curRev.name hn.updRev.name (j.pods.map (·.pod)) j.view.generation := by rw [hrec]; rfl
  have hcons := storedNext_cons hn
  rw [hstatus] at hcons
  generalize hstdef : cruCensus j.view hn.curRev.name hn.updRev.name (j.pods.map (·.pod)) j.view.generation = st at hcons
  obtain ⟨e0, e1, e2, e3, e4, e5, e6⟩ := inconsistent_false hcons
  have hstUpd : st.updateRev = hn.updRev.name := by
    rw [← hstdef]; unfold cruCensus; rw [cru_updateRev]; rfl
  have hstCur : st.currentRev = hn.curRev.name ∨ st.currentRev = hn.updRev.name := by
    rw [← hstdef]; unfold cruCensus
    rcases cru_cases j.view (st0Of { j.view with generation := j.view.generation } hn.curRev.name hn.updRev.name (j.pods.map (·.pod))) with h1 | h1
    · left; rw [h1]; rfl
    · right; rw [h1]; rfl
  have hstored := nextW_stored hs hp
  have hupdMem : hn.updRev ∈ listedRevs j := List.mem_of_getLast? hn.updRev_spec.1
  refine ⟨?_, ?_, ?_⟩
  · rw [nextW_updRev hs hp, hstored, ← e6, hstUpd]
  · rw [nextW_listed hs hp, hstored, ← e5, List.any_eq_true]
    rcases hstCur with h1 | h1
    · exact ⟨hn.curRev, List.mem_filter.2 ⟨curRev_mem hn, keep_of_live hn List.mem_cons_self⟩, by rw [h1]; simp⟩
    · exact ⟨hn.updRev, List.mem_filter.2 ⟨hupdMem, keep_updRev hn⟩, by rw [h1]; simp⟩
  · have hfix := cru_census_fix j.view hn.curRev.name hn.updRev.name (j.pods.map (·.pod)) j.view.generation
    rw [hstdef] at hfix
    have hown : ownPods (nextW h j) = (nextW h j).pods := (nextW_ns hs hp).norm.ownPods
    have hexp : expectedStatus (nextW h j) = st := by
      rw [expectedStatus_eq, hown, hstored]
      have hview := nextW_view hs hp
      have hc : ∀ (c u : String) (ps : List Pod), cruCensus (nextW h j).view c u ps (nextW h j).view.generation
          = cruCensus j.view c u ps j.view.generation := by
        intro c u ps; rw [hview]; rfl
      rw [hc]
      unfold cruCensus st0Of
      rw [census_of_keys _ _ (done_next_pods hs hz), ← e5, ← e6]
      exact hfix
    rw [hexp, hstored]
    exact hcons

theorem filter_not_take {α β : Type} [DecidableEq β] (f : α → β) (l : List α) (k : Nat) (hnd : (l.map f).Nodup) :
    l.filter (fun x => !((l.take k).map f).contains (f x)) = l.drop k := by
  induction l generalizing k with
  | nil => simp
  | cons a t ih =>
    cases k with
    | zero => simp
    | succ k =>
      rw [List.map_cons, List.nodup_cons] at hnd
      rw [List.take_succ_cons, List.drop_succ_cons, List.filter_cons]
      simp only [List.map_cons, List.contains_cons, beq_self_eq_true, Bool.true_or, Bool.not_true, Bool.false_eq_true, if_false]
      rw [← ih k hnd.2]
      apply List.filter_congr
      intro x hx
      have hne : f x ≠ f a := fun h => hnd.1 (h ▸ List.mem_map.2 ⟨x, hx, rfl⟩)
      have : (f x == f a) = false := by simpa using hne
      rw [this, Bool.false_or]

/-- after the truncation the unused history is within the limit -/
theorem hist_after (lim : Int) (h0 : 0 ≤ lim) (podRevs : List String) (revs : List Rev) (cur upd : Rev)
    (hnd : (revs.map (·.name)).Nodup) :
    ((((histOf podRevs revs cur upd).filter
        (fun x => !((victimsOf lim podRevs revs cur upd).map (·.name)).contains x.name)).length : Nat) : Int) ≤ lim := by
  have hndH : ((histOf podRevs revs cur upd).map (·.name)).Nodup := (List.Sublist.map _ List.filter_sublist).nodup hnd
  unfold victimsOf
  split_ifs with hle
  · simpa using hle
  · have := filter_not_take (fun x : Rev => x.name) (histOf podRevs revs cur upd)
      ((histOf podRevs revs cur upd).length - lim.toNat) hndH
    rw [this, List.length_drop]
    omega

/-- **second round after the pods are done**: with the status settled, the round only deletes unused history beyond the
    limit, and the next settled world is `Final` -/
theorem fix_final (hs : NSC h j) (hz : muPods j = 0) (hfix : Fix hs.norm) : Final h (nextW h j) := by
  have hn := hs.norm
  have hp := pol_of_done hs hz
  obtain ⟨hp1, hp2⟩ := done_pods hs hz
  have hrec := done_recon hs hz
  obtain ⟨lim, hlim, hlim0⟩ := hn.spec.lim
  have hcurName : hn.curRev.name = j.stored.currentRev := find_name hn.updRev hfix.cur
  -- the status the reconcile computes is the stored one: nothing is written
  have hnoinc : inconsistentStatus j.stored (completeRollingUpdate j.view hn.recon.1.status) = false := by
    have : completeRollingUpdate j.view hn.recon.1.status = expectedStatus j := by
      rw [hrec, expectedStatus_eq, hn.ownPods, ← hcurName, hfix.upd]
      rfl
    rw [this]; exact hfix.status
  have hstoredN : storedNext hn = j.stored := by unfold storedNext; rw [hnoinc]; rfl
  -- the world with the history truncated, pods untouched
  set jm : SyncIn := { j with store := j.store.filter hn.keep } with hjm
  have hlisted : listedRevs jm = (listedRevs j).filter hn.keep := listedRevs_keep hn
  have hown : ownPods jm = j.pods := hn.ownPods
  have hspec : specOk jm = true :=
    (specOk_iff _).2 (hn.spec.of_eq rfl rfl rfl rfl rfl rfl)
  have hlen : j.pods.length = (desired (replicasOf j.view) j.view.slots).length := by
    have hperm : (j.pods.map (·.pod.ord)).Perm (desired (replicasOf j.view) j.view.slots) := by
      rw [List.perm_ext_iff_of_nodup hn.ords (desired_isDesired _ _).sorted.nodup]
      intro o
      rw [mem_desired_iff hn, List.mem_map]
      constructor
      · rintro ⟨c, hcm, rfl⟩; exact (hp1 c hcm).1
      · intro hr; obtain ⟨c, hcm, hco⟩ := hp2 o hr; exact ⟨c, hcm, hco⟩
    simpa using hperm.length_eq
  have hpods : podsFinal jm = true := by
    rw [podsFinal_iff]
    refine ⟨?_, ?_, ?_, ?_⟩
    · intro c hcm _
      obtain ⟨a1, a2, a3, a4, a5, a7, a8⟩ := hn.pods c hcm
      obtain ⟨b1, b2, b3, b4⟩ := hp1 c hcm
      refine ⟨a3, a2, a4, (mem_desired_iff hn _).2 b1, b2, b3, a7, ?_⟩
      intro hroll hpt
      exact (b4 hroll hpt).trans hfix.upd.symm
    · intro c hcm hnone
      rw [(hn.pods c hcm).1] at hnone; cases hnone
    · intro o ho
      obtain ⟨c, hcm, hco⟩ := hp2 o ((mem_desired_iff hn o).1 ho)
      exact ⟨c, by rw [hown]; exact hcm, hco⟩
    · rw [hown]; exact hlen
  have hrevs : revsFinal h jm = true := by
    rw [revsFinal_iff]
    refine ⟨hn.updRev, ?_, hfix.upd.symm, ?_, ?_, ?_, lim, hlim, ?_⟩
    · rw [hlisted]
      exact last_keep hn
    · exact hn.updRev_spec.2
    · rw [hlisted]
      have := hfix.cur
      rw [List.any_eq_true] at this ⊢
      obtain ⟨x, hx, hxn⟩ := this
      refine ⟨x, List.mem_filter.2 ⟨hx, ?_⟩, hxn⟩
      apply keep_of_live hn
      have : x.name = j.stored.currentRev := by simpa using hxn
      rw [this, ← hcurName]
      exact List.mem_cons_self
    · exact noOrphanRev_keep hn
    · rw [hlisted, hown]
      have hvict : hn.victims = victimsOf lim (j.pods.map (·.pod.rev)) (listedRevs j) hn.curRev hn.updRev := by
        unfold NormC.victims; rw [hlim]; rfl
      have := hist_after lim hlim0 (j.pods.map (·.pod.rev)) (listedRevs j) hn.curRev hn.updRev (listedRevs_names_nodup j)
      unfold histOf at this
      rw [List.filter_filter] at this ⊢
      have hcongr : (listedRevs j).filter (fun r => (!(jm.stored.currentRev :: jm.stored.updateRev :: j.pods.map (·.pod.rev)).contains r.name
          && r.owner == .self) && hn.keep r) =
          (listedRevs j).filter (fun a => !((victimsOf lim (j.pods.map (·.pod.rev)) (listedRevs j) hn.curRev hn.updRev).map (·.name)).contains a.name
            && (!(hn.curRev.name :: hn.updRev.name :: j.pods.map (·.pod.rev)).contains a.name && a.owner == .self)) := by
        apply List.filter_congr
        intro r _
        show ((!(j.stored.currentRev :: j.stored.updateRev :: j.pods.map (·.pod.rev)).contains r.name && r.owner == .self) && hn.keep r) = _
        rw [← hcurName, hfix.upd]
        unfold NormC.keep
        rw [hvict, Bool.and_comm]
      rw [hcongr]
      exact this
  have hstat : inconsistentStatus jm.stored (expectedStatus jm) = false := hfix.status
  have hmid : Final h jm := by
    unfold Final finalB
    rw [hspec, hpods, hrevs, hstat]
    rfl
  have hacts : hn.recon.1.acts = [] := by rw [hrec]
  rw [nextW_eq hs hp, hacts, hstoredN, hnoinc]
  simp only [applyActs, Bool.false_eq_true, if_false]
  apply final_settle
  exact final_keyPerm h jm j.stored.current j.fresh (P := reindex (sortPods j.pods)) (keyPerm_reindex_sort _) hmid

/-- **stage 2**: when the pods of a normal, settled world need no work, two more rounds end in `Final` -/
theorem done_final2 (hs : NSC h j) (hz : muPods j = 0) : Final h (nextW h (nextW h j)) :=
  fix_final (nextW_ns hs (pol_of_done hs hz)) (done_next_mu hs hz) (done_fix hs hz)

end

end Asts.C02p
