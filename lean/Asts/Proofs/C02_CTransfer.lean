import Asts.Proofs.C02_CPre

/-! C02, worlds with non-members: what the normal-world theory says of a world it says of any world that differs in the pod
    ids and the order of the pod list only. -/
namespace Asts.C02p
open Asts Asts.L1c

def withPods (a : SyncIn) (P : List CPod) : SyncIn := { a with pods := P }

theorem eq_withPods {a b : SyncIn} (hr : ({ a with pods := [] } : SyncIn) = { b with pods := [] }) : b = withPods a b.pods := by
  have e {α : Type} (f : SyncIn → α) (hf : ∀ z : SyncIn, f { z with pods := [] } = f z) : f a = f b := by
    rw [← hf a, ← hf b, hr]
  apply syncIn_ext
  · exact (e (·.setName) (fun _ => rfl)).symm
  · exact (e (·.paused) (fun _ => rfl)).symm
  · exact (e (·.selectorOk) (fun _ => rfl)).symm
  · exact (e (·.view) (fun _ => rfl)).symm
  · exact (e (·.stored) (fun _ => rfl)).symm
  · exact (e (·.collisionCount) (fun _ => rfl)).symm
  · exact (e (·.historyLimit) (fun _ => rfl)).symm
  · exact (e (·.template) (fun _ => rfl)).symm
  · exact (e (·.fresh) (fun _ => rfl)).symm
  · exact (e (·.store) (fun _ => rfl)).symm
  · rfl

section
variable {h : Hashing} {a : SyncIn} {P : List CPod}

theorem normC_withPods (hn : NormC h a) (hk : KeyPerm a.pods P) : NormC h (withPods a P) := by
  refine ⟨hn.spec.of_eq rfl rfl rfl rfl rfl rfl, ?_, ?_,
    hn.rev, hn.noOrphanRev, ?_, hn.smallR, hn.gone⟩
  · intro c hc
    obtain ⟨y, hy, hky⟩ := hk.symm.mem hc
    exact (normPod_key a.setName hky).1 (hn.pods y hy)
  · exact (hk.ords.nodup_iff).1 hn.ords
  · show P.length ≤ freshId
    rw [← hk.length]; exact hn.small

theorem nsc_withPods (hs : NSC h a) (hk : KeyPerm a.pods P) (hid : IdOk P) : NSC h (withPods a P) := by
  refine ⟨normC_withPods hs.norm hk, hid, ?_, ?_⟩
  · intro c hc
    obtain ⟨y, hy, hky⟩ := hk.symm.mem hc
    obtain ⟨k, rfl⟩ := eq_of_key hky
    have := hs.settled _ hy
    exact this
  · show (P.filter (fun c => !(desired (replicasOf a.view) a.view.slots).contains c.pod.ord)).length + _ ≤ freshId
    rw [← (hk.filter (fun c => !(desired (replicasOf a.view) a.view.slots).contains c.pod.ord) (fun _ => rfl)).length]
    exact hs.room

theorem muPods_withPods (hn : NormC h a) (hk : KeyPerm a.pods P) : muPods (withPods a P) = muPods a := by
  rw [muPods_eq, muPods_eq]
  exact (muOf_keyPerm hk ((hk.ords.nodup_iff).1 hn.ords)).symm

theorem muL_withPods (hn : NormC h a) (hk : KeyPerm a.pods P) : muL (withPods a P) = muL a := by
  unfold muL
  exact (muLOf_keyPerm hk ((hk.ords.nodup_iff).1 hn.ords)).symm

theorem ownPods_withPods (hk : KeyPerm a.pods P) : ((ownPods (withPods a P)).map key).Perm ((ownPods a).map key) :=
  (hk.filter (fun c => c.owner == .self) (fun _ => rfl)).symm

theorem fix_withPods (hn : NormC h a) (hk : KeyPerm a.pods P) (hf : Fix hn) : Fix (normC_withPods hn hk) := by
  refine ⟨hf.upd, hf.cur, ?_⟩
  have : expectedStatus (withPods a P) = expectedStatus a := by
    have hc := census_of_keys a.stored.currentRev a.stored.updateRev (ownPods_withPods (a := a) hk)
    unfold expectedStatus
    show completeRollingUpdate a.view
      { census a.stored.currentRev a.stored.updateRev ((ownPods (withPods a P)).map (·.pod)) with
        observedGen := a.view.generation, currentRev := a.stored.currentRev, updateRev := a.stored.updateRev } = _
    rw [hc]
  rw [this]
  exact hf.status

theorem final_withPods (hk : KeyPerm a.pods P) (hf : Final h a) : Final h (withPods a P) := by
  exact final_keyPerm h a a.view.stCurrentReplicas a.fresh hk.symm hf

theorem parK_withPods (hk0 : ParK h a) (hk : KeyPerm a.pods P) (hid : IdOk P) : ParK h (withPods a P) :=
  ⟨nsc_withPods hk0.1 hk hid, hk0.2.1, hk0.2.2⟩

theorem monoK0_withPods (hk0 : MonoK0 h a) (hk : KeyPerm a.pods P) (hid : IdOk P) : MonoK0 h (withPods a P) := by
  refine ⟨nsc_withPods hk0.1 hk hid, hk0.2.1, ?_⟩
  intro c hc hfs
  obtain ⟨y, hy, hky⟩ := hk.symm.mem hc
  obtain ⟨k, rfl⟩ := eq_of_key hky
  have := hk0.2.2 _ hy hfs
  exact this

theorem monoK_withPods (hk0 : MonoK h a) (hk : KeyPerm a.pods P) (hid : IdOk P) : MonoK h (withPods a P) :=
  ⟨monoK0_withPods hk0.1 hk hid, hk0.2⟩

theorem lparK_withPods (hk0 : LParK h a) (hk : KeyPerm a.pods P) (hid : IdOk P) : LParK h (withPods a P) :=
  ⟨nsc_withPods hk0.1 hk hid, hk0.2.1, hk0.2.2.1, hk0.2.2.2⟩

theorem lmonoK_withPods (hk0 : LMonoK h a) (hk : KeyPerm a.pods P) (hid : IdOk P) : LMonoK h (withPods a P) :=
  ⟨monoK0_withPods hk0.1 hk hid, hk0.2.1, hk0.2.2⟩

end

/-- what the convergence argument needs from a policy class -/
structure ConvClass (h : Hashing) (K : SyncIn → Prop) : Type where
  step : StepClass h K
  repl : ∀ a P, K a → KeyPerm a.pods P → IdOk P → K (withPods a P)
  mu : SyncIn → Nat
  mu_repl : ∀ a P, K a → KeyPerm a.pods P → mu (withPods a P) = mu a
  down : ∀ j, K j → mu j ≠ 0 → mu (nextW h j) < mu j
  zero : ∀ j, K j → mu j = 0 → muPods j = 0

def par_conv (h : Hashing) : ConvClass h (ParK h) where
  step := par_step h
  repl := fun _ _ hk0 hk hid => parK_withPods hk0 hk hid
  mu := muPods
  mu_repl := fun _ _ hk0 hk => muPods_withPods hk0.1.norm hk
  down := fun j hk hne =>
    (mu_stepC ((par_class h).ns j hk) ((par_class h).pol j hk) ((par_class h).part j hk) ((par_class h).facts j hk)).2
      ((par_class h).progress j hk (by omega))
  zero := fun _ _ hz => hz

def mono_conv (h : Hashing) : ConvClass h (MonoK h) where
  step := mono_step h
  repl := fun _ _ hk0 hk hid => monoK_withPods hk0 hk hid
  mu := muPods
  mu_repl := fun _ _ hk0 hk => muPods_withPods hk0.1.1.norm hk
  down := fun j hk hne =>
    (mu_stepC ((mono_class h).ns j hk) ((mono_class h).pol j hk) ((mono_class h).part j hk) ((mono_class h).facts j hk)).2
      ((mono_class h).progress j hk (by omega))
  zero := fun _ _ hz => hz

def lpar_conv (h : Hashing) : ConvClass h (LParK h) where
  step := lpar_step h
  repl := fun _ _ hk0 hk hid => lparK_withPods hk0 hk hid
  mu := muL
  mu_repl := fun _ _ hk0 hk => muL_withPods hk0.1.norm hk
  down := fun j hk hne => by
    obtain ⟨A, tg, hl, hev⟩ := (lpar_class h).step j hk
    exact (muL_step hl).2 (hev (by omega))
  zero := fun j hk hz => by
    have := muPods_le_muL ((lpar_class h).ns j hk)
    omega

def lmono_conv (h : Hashing) : ConvClass h (LMonoK h) where
  step := lmono_step h
  repl := fun _ _ hk0 hk hid => lmonoK_withPods hk0 hk hid
  mu := muL
  mu_repl := fun _ _ hk0 hk => muL_withPods hk0.1.1.norm hk
  down := fun j hk hne => by
    obtain ⟨A, tg, hl, hev⟩ := (lmono_class h).step j hk
    exact (muL_step hl).2 (hev (by omega))
  zero := fun j hk hz => by
    have := muPods_le_muL ((lmono_class h).ns j hk)
    omega

end Asts.C02p
