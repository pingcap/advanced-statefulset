import Asts.Proofs.C02_LStep

/-! C02, legacy boundary mode: the Parallel policy. -/
namespace Asts.C02p
open Asts Asts.L1c

/-- the legacy class, Parallel: normal, settled, strategy RollingUpdate without a `rollingUpdate` block -/
def LParK (h : Hashing) (j : SyncIn) : Prop :=
  NSC h j ∧ j.view.parallel = true ∧ j.view.strat = .rolling ∧ j.view.ru = none

section
variable {h : Hashing} {j : SyncIn}

theorem partOf_legacy {v : SetView} (hru : v.ru = none) : partOf v = 0 := by unfold partOf; rw [hru]

theorem repNew_keys (v : SetView) (cur upd : String) (reps : List (Int × Pod)) :
    (reps.map (repNew v cur upd)).map (·.1) = reps.map (·.1) := by
  rw [List.map_map]; rfl

/-- in range: a create, or a live pod -/
theorem par_fill (hs : NSC h j) (o : Int) (hr : inRange (bOf j) (EOf j) o = true) :
    (∃ c ∈ j.pods, c.pod.ord = o ∧ c.pod.fs = false) ∨
    ∃ rev, Action.create o rev ∈ actsA j.view hs.norm.curRev.name hs.norm.updRev.name (bOf j) (EOf j) j.pods := by
  have hctx := hs.ctx
  by_cases hex : ∃ c ∈ j.pods, c.pod.ord = o
  · obtain ⟨c, hcm, hco⟩ := hex
    by_cases hfs : c.pod.fs = true
    · exact Or.inr ⟨_, (parA_create_iff hctx).2 ⟨hr, rfl, Or.inr ⟨c, hcm, hco, hfs⟩⟩⟩
    · exact Or.inl ⟨c, hcm, hco, by simpa using hfs⟩
  · exact Or.inr ⟨_, (parA_create_iff hctx).2 ⟨hr, rfl, Or.inl (fun c hcm hco => hex ⟨c, hcm, hco⟩)⟩⟩

theorem lpar_pol (hk : LParK h j) :
    LPol hk.1 (actsA j.view hk.1.norm.curRev.name hk.1.norm.updRev.name (bOf j) (EOf j) j.pods)
      (tgtOf j.view hk.1.norm.curRev.name hk.1.norm.updRev.name (bOf j) (EOf j) j.pods) := by
  obtain ⟨hs, hpar, hroll, hru⟩ := hk
  have hn := hs.norm
  have hctx := hs.ctx
  have hb0 := bOf_nonneg hn
  have hE := EOf_nonneg hn
  refine ⟨⟨hroll, hru⟩, par_recon_ok hs hpar, by rw [par_recon_acts hs hpar]; rfl, parA_facts hctx hb0 hE, ?_, ?_, ?_⟩
  · intro c hcm hd
    rcases (parA_del_iff hctx hb0 hE hcm).1 hd with ⟨_, h2⟩ | h2
    · exact Or.inl h2
    · exact Or.inr h2
  · intro t q htg
    have htg' := htg
    unfold tgtOf walkTarget at htg'
    split_ifs at htg' with hod
    obtain ⟨hmem, hrev, _⟩ := walkFind_some htg'
    unfold walkList at hmem
    rw [List.mem_reverse, List.mem_filter, List.mem_map] at hmem
    obtain ⟨⟨ip, hip, hrn⟩, _⟩ := hmem
    have hr := (mem_repsOf.1 hip).1
    unfold repNew at hrn
    simp only [Prod.mk.injEq] at hrn
    obtain ⟨rfl, hq⟩ := hrn
    refine ⟨hr, hrev, ?_, fun o hro _ => par_fill hs o hro, ?_⟩
    · -- the kind of the target: a live pod of the list, or the new pod of a slot that was vacant or held a
      -- Failed/Succeeded pod
      have hnew : ((∀ c ∈ j.pods, c.pod.ord ≠ ip.1) ∨ ∃ c ∈ j.pods, c.pod.ord = ip.1 ∧ c.pod.fs = true) →
          q = newPod j.view hn.curRev.name hn.updRev.name ip.1 →
          q.id = freshId + ip.1.toNat ∧ Action.create ip.1 q.rev ∈
            actsA j.view hn.curRev.name hn.updRev.name (bOf j) (EOf j) j.pods := by
        rintro hcase rfl
        exact ⟨rfl, (parA_create_iff hctx).2 ⟨hr, rfl, hcase⟩⟩
      rcases (hctx.mem_repsOf.1 hip).2 with ⟨c, hcm, hco, hqc⟩ | ⟨hnone, hqn⟩
      · by_cases hfs : ip.2.fs = true
        · exact Or.inr (hnew (Or.inr ⟨c, hcm, hco, by rw [← hqc]; exact hfs⟩) (by rw [← hq, hfs]; rfl))
        · have hfs' : ip.2.fs = false := by simpa using hfs
          have hqq : q = ip.2 := by rw [← hq, hfs']; rfl
          exact Or.inl ⟨c, hcm, by rw [← hqc, hqq], hco, by rw [← hqc]; exact hfs'⟩
      · exact Or.inr (hnew (Or.inl hnone) (by rw [← hq, hqn]; simp [newPod_fs]))
    · intro hne
      have hb := recon_par_cur_le hctx j.view hn.curRev.name hn.updRev.name (replicasOf j.view) hn.spec.rep hn.spec.r0 hpar
        hn.spec.del
      have hkeys := reps_keys j.view hn.curRev.name hn.updRev.name (bOf j) (EOf j) (j.pods.map (·.pod))
      have hwb := walk_bound_list j.view hn.curRev.name hn.updRev.name
        ((repsOf j.view hn.curRev.name hn.updRev.name (bOf j) (EOf j) (j.pods.map (·.pod))).map
          (repNew j.view hn.curRev.name hn.updRev.name))
        (partOf_legacy hru) (by rw [repNew_keys]; exact hkeys.1)
        (by
          intro ip' hip'
          rw [List.mem_map] at hip'
          obtain ⟨iq, hiq, rfl⟩ := hip'
          exact hkeys.2 iq hiq)
        (t := ip.1) (q := q) (by have := htg; unfold tgtOf at this; exact this) hne
      have hb' : hn.recon.1.status.current ≤
          cnt (liveAt hn.curRev.name) (((repsOf j.view hn.curRev.name hn.updRev.name (bOf j) (EOf j) (j.pods.map (·.pod))).map
            (repNew j.view hn.curRev.name hn.updRev.name)).map (·.2)) -
          tgtDelta hn.curRev.name (tgtOf j.view hn.curRev.name hn.updRev.name (bOf j) (EOf j) j.pods) := hb
      rw [htg] at hb'
      omega
  · intro o hr hnone hnocre
    exfalso
    rcases par_fill hs o hr with ⟨c, hcm, hco, _⟩ | ⟨rev, hcr⟩
    · exact hnone c hcm hco
    · exact hnocre rev hcr

end

end Asts.C02p

namespace Asts.C02p
open Asts Asts.L1c

section
variable {h : Hashing} {j : SyncIn}

/-- what a positive legacy measure means -/
theorem muL_pos_cases (hs : NSC h j) (hroll : j.view.strat = .rolling) (hru : j.view.ru = none) (hpos : 0 < muL j) :
    Todo j hs.norm.updRev.name := by
  have hn := hs.norm
  rw [muL_eq hn] at hpos
  rcases mu_pos_split hpos with ⟨c, hcm, hout⟩ | ⟨o, ho, hw⟩
  · rw [mem_desired_iff hn] at hout
    exact Or.inl ⟨c, hcm, by simpa using hout⟩
  · right
    have hr := (mem_desired_iff hn o).1 ho
    by_cases hat : ∃ c ∈ j.pods, c.pod.ord = o
    · obtain ⟨c, hcm, rfl⟩ := hat
      by_cases hfs : c.pod.fs = true
      · exact Or.inr (Or.inl ⟨c, hcm, hr, hfs⟩)
      · have hfs' : c.pod.fs = false := by simpa using hfs
        rw [wLOf_some hn.ords hcm, wLPod_live hfs'] at hw
        by_cases hid : c.pod.idOk = true
        · right; right; right
          rw [hid] at hw
          simp only [if_true, Nat.add_zero] at hw
          split_ifs at hw with hcond
          · exact ⟨c, hcm, hr, hfs', hroll, by rw [partOf_legacy hru]; exact (hn.pods c hcm).2.2.2.2.1,
              by simpa using hcond⟩
          · omega
        · exact Or.inr (Or.inr (Or.inl ⟨c, hcm, hr, hfs', by simpa using hid⟩))
    · exact Or.inl ⟨o, hr, fun c hcm hco => hat ⟨c, hcm, hco⟩⟩

theorem lpar_progress (hk : LParK h j) (hpos : 0 < muL j) :
    LEvent j (actsA j.view hk.1.norm.curRev.name hk.1.norm.updRev.name (bOf j) (EOf j) j.pods)
      (tgtOf j.view hk.1.norm.curRev.name hk.1.norm.updRev.name (bOf j) (EOf j) j.pods) :=
  par_event hk.1 (muL_pos_cases hk.1 hk.2.2.1 hk.2.2.2 hpos)

theorem lpar_next (hk : LParK h j) : LParK h (nextW h j) := by
  have hp := (lpar_pol hk).pol
  have hview := nextW_view hk.1 hp
  exact ⟨nextW_ns hk.1 hp, by rw [hview]; exact hk.2.1, by rw [hview]; exact hk.2.2.1, by rw [hview]; exact hk.2.2.2⟩

end

end Asts.C02p
