import Asts.Proofs.C02_CTransfer

/-! C02, **convergence with pod objects that are not members of the set**: the rounds of the world, restricted to the
    members, follow the rounds of the normal-world theory step by step (up to pod ids); the other pod objects stay inert. -/
namespace Asts.C02p
open Asts Asts.L1c

theorem idOk_ownM {l : List CPod} (hl : IdOk l) : IdOk (ownM l) := by
  refine ⟨?_, ?_⟩
  · intro a ha b hb hab
    rw [mem_ownM] at ha hb
    obtain ⟨a0, ha0, _, rfl⟩ := ha
    obtain ⟨b0, hb0, _, rfl⟩ := hb
    rw [hl.inj a0 ha0 b0 hb0 hab]
  · intro c hc
    rw [mem_ownM] at hc
    obtain ⟨c0, hc0, _, rfl⟩ := hc
    exact hl.lt c0 hc0

/-- a world the argument speaks about, at any stage: pods and room as in `PreM`, the revision stages resolved (`PickOut`),
    the prepared members-only world in the policy class -/
structure Stg (h : Hashing) (K : SyncIn → Prop) (x : SyncIn) : Prop where
  pre : PreM x
  room : roomM x
  pick : ∃ G upd cc, PickOut h x.template (x.collisionCount.getD 0) (adoptS x.store) G upd cc ∧
    (cc ≠ x.collisionCount.getD 0 → x.stored.updateRev ≠ upd.name)
  cls : K (prepW h (mOf x))

/-- members owned or orphans in order, non-members not the set's -/
def POne (z : SyncIn) : Prop :=
  (∀ c ∈ z.pods, c.member = true → OwnP c) ∧ (∀ c ∈ z.pods, c.member = false → c.owner ≠ .self)
/-- members owned, non-members not the set's -/
def PTwo (z : SyncIn) : Prop :=
  (∀ c ∈ z.pods, c.member = true → c.owner = .self) ∧ (∀ c ∈ z.pods, c.member = false → c.owner ≠ .self)

theorem PTwo.one {z : SyncIn} (hz : PTwo z) : POne z := ⟨fun c hc hm => Or.inl (hz.1 c hc hm), hz.2⟩

theorem Y_rest (z : SyncIn) : ({ Y z with pods := [] } : SyncIn) = { z with pods := [] } := rfl

/-- when the revision stages have nothing to do, preparing a world only makes its pods owned -/
theorem prepW_of_quiet {h : Hashing} {j : SyncIn} (h1 : prepStore h j = j.store) (h2 : prepCC h j = j.collisionCount) :
    prepW h j = ownS j := by
  unfold prepW
  rw [h1, h2]

section
variable {h : Hashing} {K : SyncIn → Prop} {x : SyncIn}

theorem fix_of_eq {j j' : SyncIn} (e : j' = j) (hn : NormC h j) (hn' : NormC h j') (hf : Fix hn) : Fix hn' := by
  subst e; exact hf

/-- **one round**: the next world is again at a stage; its prepared members-only world is the next world of the theory
    with the pod ids of the real world -/
theorem stg_next (C : ConvClass h K) (hs : Stg h K x) :
    Stg h K (nextW h x) ∧
    prepW h (mOf (nextW h x)) = withPods (nextW h (prepW h (mOf x))) (ownM (nextW h x).pods) ∧
    prepW h (mOf (nextW h x)) = Y (nextW h x) ∧
    KeyPerm (nextW h (prepW h (mOf x))).pods (ownM (nextW h x).pods) ∧
    POne (nextW h x) ∧ (POne x → PTwo (nextW h x)) := by
  obtain ⟨G, upd, cc, hpick, hcc⟩ := hs.pick
  have hsN := C.step.ns _ hs.cls
  have hpol := C.step.pol _ hs.cls
  have hr : StepRaw h x hsN.norm := stepRaw hs.pre hpick hcc hsN.norm hpol.ok
  have pre1 := hr.preM hs.pre hs.room hpick hsN hpol
  have room1 := hr.room hs.room hsN hpol
  have hkp : KeyPerm (nextW h (prepW h (mOf x))).pods (ownM (nextW h x).pods) := by
    have := hr.keyPerm.symm
    rw [Y_pods] at this
    exact this
  have hW : Y (nextW h x) = withPods (nextW h (prepW h (mOf x))) (ownM (nextW h x).pods) :=
    (eq_withPods (hr.rest.symm.trans (Y_rest (nextW h x)).symm)).trans (congrArg (withPods _) (Y_pods (nextW h x)))
  have kY : K (Y (nextW h x)) := by
    rw [hW]
    exact C.repl _ _ (C.step.next _ hs.cls) hkp (idOk_ownM pre1.ids)
  have hn1 := (C.step.ns _ kY).norm
  obtain ⟨l, hl, heq⟩ := hn1.rev
  have hpick1 : PickOut h (nextW h x).template ((nextW h x).collisionCount.getD 0) (adoptS (nextW h x).store)
      (nextW h x).store l ((nextW h x).collisionCount.getD 0) :=
    pick_quiet pre1.names hn1.noOrphanRev hl heq
  have hY : prepW h (mOf (nextW h x)) = Y (nextW h x) := by
    obtain ⟨h1, h2⟩ := prep_eq pre1.preC (mOf_pick hpick1)
    exact prepW_of_quiet h1 (h2.trans (if_pos (beq_self_eq_true _)))
  refine ⟨⟨pre1, room1, ⟨_, l, _, hpick1, fun hne => absurd rfl hne⟩, by rw [hY]; exact kY⟩, by rw [hY, hW], hY, hkp,
    ⟨hr.ownP hs.pre, hr.inert⟩, ?_⟩
  intro hO
  exact ⟨hr.noOrphan hs.pre (C.step.upd _ hs.cls) hO.1, hr.inert⟩

/-- **the measure argument on the real worlds** -/
theorem conv_stg (C : ConvClass h K) (m : Nat) : ∀ (x : SyncIn), Stg h K x → C.mu (prepW h (mOf x)) ≤ m →
    ∃ k, 2 ≤ k ∧ k ≤ m + 2 ∧ Final h (Y (nextWN h k x)) := by
  induction m with
  | zero =>
    intro x hs hm
    exact conv_zero C hs (by omega)
  | succ m ih =>
    intro x hs hm
    by_cases hz : C.mu (prepW h (mOf x)) = 0
    · obtain ⟨k, h1, h2, h3⟩ := conv_zero C hs hz
      exact ⟨k, h1, by omega, h3⟩
    · obtain ⟨hs1, hW, _, hkp, _, _⟩ := stg_next C hs
      have hlt := C.down _ hs.cls hz
      have hmu : C.mu (prepW h (mOf (nextW h x))) = C.mu (nextW h (prepW h (mOf x))) := by
        rw [hW]; exact C.mu_repl _ _ (C.step.next _ hs.cls) hkp
      obtain ⟨k, h1, h2, h3⟩ := ih _ hs1 (by omega)
      exact ⟨k + 1, by omega, by omega, h3⟩
where
  conv_zero (C : ConvClass h K) {x : SyncIn} (hs : Stg h K x) (hz : C.mu (prepW h (mOf x)) = 0) :
      ∃ k, 2 ≤ k ∧ k ≤ 0 + 2 ∧ Final h (Y (nextWN h k x)) := by
    have hsN := C.step.ns _ hs.cls
    have hz0 : muPods (prepW h (mOf x)) = 0 := C.zero _ hs.cls hz
    obtain ⟨hs1, hW1, _, hkp1, _, _⟩ := stg_next C hs
    have hsN1 := C.step.ns _ hs1.cls
    have hnN := (nextW_ns hsN (pol_of_done hsN hz0)).norm
    have hz1 : muPods (prepW h (mOf (nextW h x))) = 0 := by
      rw [hW1, muPods_withPods hnN hkp1]
      exact done_next_mu hsN hz0
    have hfix1 : Fix hsN1.norm :=
      fix_of_eq hW1 (normC_withPods hnN hkp1) hsN1.norm (fix_withPods hnN hkp1 (done_fix hsN hz0))
    have hfin : Final h (nextW h (prepW h (mOf (nextW h x)))) := fix_final hsN1 hz1 hfix1
    obtain ⟨_, hW2, hY2, hkp2, _, _⟩ := stg_next C hs1
    refine ⟨2, le_refl _, le_refl _, ?_⟩
    show Final h (Y (nextW h (nextW h x)))
    rw [← hY2, hW2]
    exact final_withPods hkp2 hfin

theorem stg_owners (C : ConvClass h K) : ∀ (k : Nat) {x : SyncIn}, Stg h K x →
    (1 ≤ k → POne (nextWN h k x)) ∧ (2 ≤ k → PTwo (nextWN h k x)) := by
  intro k
  induction k with
  | zero => intro x _; exact ⟨fun h0 => absurd h0 (by omega), fun h0 => absurd h0 (by omega)⟩
  | succ k ih =>
    intro x hs
    obtain ⟨hs1, _, _, _, hone, _⟩ := stg_next C hs
    obtain ⟨i1, i2⟩ := ih hs1
    refine ⟨fun _ => ?_, fun h2 => ?_⟩
    · show POne (nextWN h k (nextW h x))
      by_cases hk0 : k = 0
      · subst hk0; exact hone
      · exact i1 (by omega)
    · show PTwo (nextWN h k (nextW h x))
      by_cases hk1 : k = 1
      · subst hk1
        obtain ⟨_, _, _, _, _, htwo⟩ := stg_next C hs1
        exact htwo hone
      · exact i2 (by omega)

theorem stg_rounds (C : ConvClass h K) : ∀ (k : Nat) {x : SyncIn}, Stg h K x → Stg h K (nextWN h k x) := by
  intro k
  induction k with
  | zero => intro x hs; exact hs
  | succ k ih => intro x hs; exact ih (stg_next C hs).1

end

/-- **`Final` of the members-only view is `Final` of the world** once every member is owned and no other pod object is
    the set's -/
theorem final_of_Y {h : Hashing} {z : SyncIn} (hf : Final h (Y z)) (hz : PTwo z) : Final h z := by
  have hfilt : z.pods.filter (fun c => c.owner == .self) = z.pods.filter (·.member) := by
    apply List.filter_congr
    intro c hc
    cases hm : c.member
    · have := hz.2 c hc hm
      simpa using this
    · rw [hz.1 c hc hm]; rfl
  have hown : ownPods (Y z) = ownPods z := by
    show (ownM z.pods).filter (fun c => c.owner == .self) = z.pods.filter (fun c => c.owner == .self)
    rw [hfilt]
    have h1 : (ownM z.pods).filter (fun c => c.owner == .self) = ownM z.pods := by
      apply List.filter_eq_self.2
      intro c hc
      rw [mem_ownM] at hc
      obtain ⟨c0, _, _, rfl⟩ := hc
      rfl
    rw [h1]
    unfold ownM
    apply map_own_of_self
    intro c hc
    rw [List.mem_filter] at hc
    exact hz.1 c hc.1 hc.2
  have hspec : specOk z = specOk (Y z) := rfl
  have hrevs : revsFinal h z = revsFinal h (Y z) := by
    unfold revsFinal
    rw [hown]
    rfl
  have hexp : expectedStatus z = expectedStatus (Y z) := by
    unfold expectedStatus
    rw [hown]
    rfl
  have hpY := (podsFinal_iff (Y z)).1 hf.pods
  have hpods : podsFinal z = true := by
    rw [podsFinal_iff]
    refine ⟨?_, ?_, ?_, ?_⟩
    · intro c hc hs
      have hcm : c ∈ ownPods z := mem_ownPods.2 ⟨hc, hs⟩
      rw [← hown] at hcm
      exact hpY.own c (mem_ownPods.1 hcm).1 hs
    · intro c hc hno
      left
      cases hm : c.member
      · simp
      · have := hz.1 c hc hm
        rw [hno] at this; cases this
    · intro o ho
      have := hpY.full o ho
      rw [hown] at this
      exact this
    · have := hpY.len
      rw [hown] at this
      exact this
  unfold Final finalB
  rw [hspec, hpods, hrevs, hexp]
  have := hf
  unfold Final finalB at this
  simp only [Bool.and_eq_true] at this
  obtain ⟨⟨⟨t1, _⟩, t3⟩, t4⟩ := this
  rw [t1, t3]
  simp only [Bool.and_self, Bool.true_and]
  exact t4

theorem converge_stg {h : Hashing} {K : SyncIn → Prop} (C : ConvClass h K) {x : SyncIn} (hs : Stg h K x) :
    ∃ k ≤ C.mu (prepW h (mOf x)) + 2, Final h (nextWN h k x) := by
  obtain ⟨k, h1, h2, h3⟩ := conv_stg C _ x hs (le_refl _)
  exact ⟨k, h2, final_of_Y h3 ((stg_owners C k hs).2 h1)⟩

theorem converge_stg_rounds {h : Hashing} {K : SyncIn → Prop} (C : ConvClass h K) {i : SyncIn} (hs : Stg h K (settle i)) :
    ∃ n ≤ C.mu (prepW h (mOf (settle i))) + 3, Final h (roundsN h n i) := by
  obtain ⟨k, hkk, hf⟩ := converge_stg C hs
  refine ⟨k + 1, by omega, ?_⟩
  rw [roundsN_succ, round_fst, settle_roundsN]
  exact final_applySync h _ hf

end Asts.C02p
