import Mathlib.Tactic
import Asts.Model.Sync
import Asts.Proofs.Sync_Phases
import Asts.Proofs.Sync_Stages
import Asts.Proofs.L1_a_Readings

/-! # SY_a — the call log of `syncF` by position (`syncF_split`), and from that every entry classified -/

namespace Asts.SYa
open Asts

/-! ## classification of log entries -/

/-- entries of the claim pass -/
def ClaimEntry (i : SyncIn) (e : String) : Prop :=
  e = "get:set" ∨ ∃ c ∈ i.pods, e = s!"patch:pod:{c.name}" ∧ c.owner ≠ .other ∧
    (claimDecision i.view.deleting c = .release ∨ claimDecision i.view.deleting c = .adopt)

/-- entries of the pod control -/
def ActEntry (i : SyncIn) (plan : List Fault) (claimed : List CPod) (acts : List Action) (e : String) : Prop :=
  ∃ a ∈ acts, e ∈ actLog i.setName plan i.pods claimed (rangeOf i).1 (rangeOf i).2 a

/-- every entry that is not a pod-control call; `st1` is the revision store after the adoption phase -/
def PreEntry (i : SyncIn) (st1 : List Rev) (e : String) : Prop :=
  (i.view.deleting = false ∧ AdoptEntry (listRevisions i.store) e) ∨
  (i.view.deleting = false ∧ ClaimEntry i e) ∨
  e = "list:revs" ∨ GetRevEntry (sortRevs (listRevisions st1)) e ∨ e = "updatestatus" ∨
  (∃ r ∈ sortRevs (listRevisions st1), r.owner = .self ∧ e = s!"delete:rev:{r.name}")

/-- entries of the last stage -/
def FinishEntry (revs : List Rev) (e : String) : Prop :=
  e = "updatestatus" ∨ ∃ x ∈ revs, x.owner = .self ∧ e = s!"delete:rev:{x.name}"

/-- entries after the claim pass; `st1` is the revision store after the adoption phase -/
def TailEntry (i : SyncIn) (plan : List Fault) (st1 : List Rev) (claimed : List CPod) (acts : List Action)
    (e : String) : Prop :=
  e = "list:revs" ∨ GetRevEntry (sortRevs (listRevisions st1)) e ∨ e = "updatestatus" ∨
  (∃ r ∈ sortRevs (listRevisions st1), r.owner = .self ∧ e = s!"delete:rev:{r.name}") ∨
  ActEntry i plan claimed acts e

theorem TailEntry.classified {i : SyncIn} {plan : List Fault} {st1 : List Rev} {claimed : List CPod}
    {acts : List Action} {e : String} :
    TailEntry i plan st1 claimed acts e → PreEntry i st1 e ∨ ActEntry i plan claimed acts e
  | .inl h => .inl (.inr (.inr (.inl h)))
  | .inr (.inl h) => .inl (.inr (.inr (.inr (.inl h))))
  | .inr (.inr (.inl h)) => .inl (.inr (.inr (.inr (.inr (.inl h)))))
  | .inr (.inr (.inr (.inl h))) => .inl (.inr (.inr (.inr (.inr (.inr h)))))
  | .inr (.inr (.inr (.inr h))) => .inr h

theorem finishCore_spec (i : SyncIn) (plan : List Fault) (claimed : List CPod) (revs : List Rev) (cur upd : Rev)
    (cc : Int) (s : RevSt) (st : St) (out : Outcome) :
    Ext (FinishEntry revs) s.tr.log (finishCore i plan claimed revs cur upd cc s st out).log ∧
    (∀ x ∈ (finishCore i plan claimed revs cur upd cc s st out).store, x ∈ s.store) ∧
    (finishCore i plan claimed revs cur upd cc s st out).claimed = claimed ∧
    (finishCore i plan claimed revs cur upd cc s st out).acts = st.acts := by
  -- for a variable `fuel`: at the numeral the unifier unfolds the retry loop
  have hst : ∀ (fuel : Nat) (t : Tr), Ext (FinishEntry revs) t.log (statusWriteF plan i.fresh.gone fuel t).1.log :=
    fun fuel t => (statusWriteF_spec plan i.fresh.gone fuel t).mono (fun e he => Or.inl he)
  have htr : ∀ s' : RevSt,
      Ext (FinishEntry revs) s'.tr.log
        (truncateF plan i.historyLimit (claimed.map (·.pod.rev)) revs cur upd s').1.tr.log ∧
      ∀ x ∈ (truncateF plan i.historyLimit (claimed.map (·.pod.rev)) revs cur upd s').1.store, x ∈ s'.store := by
    intro s'
    obtain ⟨hsub, hext⟩ := truncateF_spec plan i.historyLimit (claimed.map (·.pod.rev)) revs cur upd s'
    exact ⟨hext.mono (fun e he => Or.inr he), hsub⟩
  rcases finishCore_cases i plan claimed revs cur upd cc s st out with
    ⟨_, e⟩ | ⟨_, _, _, e⟩ | ⟨_, _, _, t, rfl, e⟩ | ⟨_, _, t, rfl, e⟩
  · rw [e]; exact ⟨Ext.refl _, fun x hx => hx, rfl, rfl⟩
  · rw [e]; exact ⟨hst _ _, fun x hx => hx, rfl, rfl⟩
  · rw [e]; exact ⟨(hst _ _).trans (htr _).1, (htr _).2, rfl, rfl⟩
  · rw [e]; exact ⟨(htr _).1, (htr _).2, rfl, rfl⟩

/-- what `afterClaimF` appends to the log, by kind of entry, and what it does to store, claimed list and actions -/
theorem afterClaimF_spec (h : Hashing) (i : SyncIn) (plan : List Fault) (s : RevSt) (failed : Bool)
    (claimed : List CPod) :
    Ext (TailEntry i plan s.store (afterClaimF h i plan s failed claimed).claimed
        (afterClaimF h i plan s failed claimed).acts) s.tr.log (afterClaimF h i plan s failed claimed).log ∧
    (∃ st2, Resolved s.store st2 ∧ ∀ x ∈ (afterClaimF h i plan s failed claimed).store, x ∈ st2) ∧
    ((afterClaimF h i plan s failed claimed).claimed = [] ∨ (afterClaimF h i plan s failed claimed).claimed = claimed) ∧
    ((afterClaimF h i plan s failed claimed).acts = [] ∨ ∃ cur upd,
      (afterClaimF h i plan s failed claimed).claimed = claimed ∧
      (afterClaimF h i plan s failed claimed).acts = (reconcileOf i plan claimed cur upd).1.acts) := by
  unfold afterClaimF
  split
  · exact ⟨Ext.refl _, ⟨s.store, Resolved.refl _, fun x hx => hx⟩, Or.inl rfl, Or.inl rfl⟩
  obtain ⟨hst, hlog, hres⟩ := listRevsF_spec plan s
  rcases hl : listRevsF plan s with ⟨s1, _ | listed⟩
  · rw [hl] at hst hlog
    exact ⟨hlog.mono (fun e he => Or.inl he), ⟨s.store, Resolved.refl _, fun x hx => hst ▸ hx⟩, Or.inr rfl, Or.inl rfl⟩
  rw [hl] at hst hlog hres
  obtain rfl : listed = listRevisions s.store := hres _ rfl
  simp only at hst hlog ⊢
  obtain ⟨hr, hlg⟩ := getRevisionsF_spec h plan i.template i.stored.currentRev (i.collisionCount.getD 0)
    (sortRevs (listRevisions s.store)) s1
  rw [hst] at hr
  rcases hg : getRevisionsF h plan i.template i.stored.currentRev (i.collisionCount.getD 0)
    (sortRevs (listRevisions s.store)) s1 with ⟨s2, _ | ⟨cur, upd, cc⟩⟩
  · rw [hg] at hr hlg
    exact ⟨(hlog.mono (fun e he => Or.inl he)).trans (hlg.mono (fun e he => Or.inr (Or.inl he))),
      ⟨s2.store, hr, fun x hx => hx⟩, Or.inr rfl, Or.inl rfl⟩
  · rw [hg] at hr hlg
    simp only at hr hlg ⊢
    have hacts : Ext (ActEntry i plan claimed (reconcileOf i plan claimed cur upd).1.acts) s2.tr.log
        (s2.tr.log ++ ((reconcileOf i plan claimed cur upd).1.acts.map
          (actLog i.setName plan i.pods claimed (rangeOf i).1 (rangeOf i).2)).flatten) := by
      refine Ext.append _ ?_
      intro e he
      obtain ⟨l, hl, hel⟩ := List.mem_flatten.1 he
      obtain ⟨a, ha, rfl⟩ := List.mem_map.1 hl
      exact ⟨a, ha, hel⟩
    obtain ⟨hf, h2, h3, h4⟩ := finishCore_spec i plan claimed (sortRevs (listRevisions s.store)) cur upd cc
      { s2 with tr := { log := s2.tr.log ++ ((reconcileOf i plan claimed cur upd).1.acts.map
          (actLog i.setName plan i.pods claimed (rangeOf i).1 (rangeOf i).2)).flatten } }
      (reconcileOf i plan claimed cur upd).1 (reconcileOf i plan claimed cur upd).2
    have hact : ActEntry i plan (finishF i plan claimed (sortRevs (listRevisions s.store)) cur upd cc s2).claimed
        (finishF i plan claimed (sortRevs (listRevisions s.store)) cur upd cc s2).acts =
        ActEntry i plan claimed (reconcileOf i plan claimed cur upd).1.acts := by
      unfold finishF; rw [h3, h4]
    refine ⟨(((hlog.mono (fun e he => Or.inl he)).trans (hlg.mono (fun e he => Or.inr (Or.inl he)))).trans
      (hacts.mono ?_)).trans (hf.mono ?_), ⟨s2.store, hr, h2⟩, Or.inr h3, Or.inr ⟨cur, upd, h3, h4⟩⟩
    · intro e he
      rw [hact]
      exact Or.inr (Or.inr (Or.inr (Or.inr he)))
    · rintro e (he | he)
      · exact Or.inr (Or.inr (Or.inl he))
      · exact Or.inr (Or.inr (Or.inr (Or.inl he)))

/-- what `afterClaimF` guarantees about its output -/
structure TailShape (i : SyncIn) (plan : List Fault) (st1 : List Rev) (claimed : List CPod) (o : SyncOut) : Prop where
  store : ∃ st2, Resolved st1 st2 ∧ ∀ x ∈ o.store, x ∈ st2
  entries : ∀ e ∈ o.log, PreEntry i st1 e ∨ ActEntry i plan o.claimed o.acts e
  hclaimed : o.claimed = [] ∨ o.claimed = claimed
  hacts : o.acts = [] ∨ ∃ cur upd, o.claimed = claimed ∧ o.acts = (reconcileOf i plan claimed cur upd).1.acts

/-- **the call log of a sync by position**: `L0` is the adoption phase, `evs` the events of the claim pass, `tail`
    everything after it; `st1` is the revision store after the adoption phase, `st2` after revision resolution. Either the
    sync ended before the claim pass (paused, selector does not convert, adoption phase failed) or the claim invariant
    holds of `evs`. -/
structure SyncSplit (i : SyncIn) (plan : List Fault) (o : SyncOut) (L0 : List String) (evs : List CEv)
    (tail : List String) (st1 : List Rev) : Prop where
  log_eq : o.log = L0 ++ evs.map CEv.key ++ tail
  adopted : ∃ g : Rev → Rev, (∀ x, AdoptG (listRevisions i.store) x (g x)) ∧ st1 = i.store.map g
  deleting : i.view.deleting = true → st1 = i.store ∧ evs = []
  resolved : ∃ st2, Resolved st1 st2 ∧ ∀ x ∈ o.store, x ∈ st2
  head : ∀ e ∈ L0, i.view.deleting = false ∧ AdoptEntry (listRevisions i.store) e
  tail_ok : ∀ e ∈ tail, TailEntry i plan st1 o.claimed o.acts e
  claim : (evs = [] ∧ tail = [] ∧ o.claimed = [] ∧ o.acts = []) ∨
    (ClaimInv plan i.view.deleting i.fresh i.pods L0 (L0 ++ evs.map CEv.key)
        (claimPodsF plan i.view.deleting i.fresh i.pods { log := L0 }).claimed
        (claimPodsF plan i.view.deleting i.fresh i.pods { log := L0 }).canAdopt evs ∧
      (o.claimed = [] ∨ o.claimed = (claimPodsF plan i.view.deleting i.fresh i.pods { log := L0 }).claimed))
  hacts : o.acts = [] ∨ ∃ cur upd, o.acts = (reconcileOf i plan o.claimed cur upd).1.acts

theorem syncF_split (h : Hashing) (i : SyncIn) (plan : List Fault) :
    ∃ (L0 : List String) (evs : List CEv) (tail : List String) (st1 : List Rev),
      SyncSplit i plan (syncF h i plan) L0 evs tail st1 := by
  rw [syncF_eq]
  split
  · exact ⟨[], [], [], i.store,
      { log_eq := rfl, adopted := ⟨id, fun x => AdoptG.refl _ x, (List.map_id _).symm⟩, deleting := fun _ => ⟨rfl, rfl⟩,
        resolved := ⟨i.store, Resolved.refl _, fun x hx => hx⟩, head := fun _ h => absurd h List.not_mem_nil,
        tail_ok := fun _ h => absurd h List.not_mem_nil, claim := Or.inl ⟨rfl, rfl, rfl, rfl⟩, hacts := Or.inl rfl }⟩
  -- the adoption phase
  have hA := adoptF_spec plan i.view.deleting i.fresh { store := i.store }
  have hAd : i.view.deleting = true →
      adoptOrphanRevisionsF plan i.view.deleting i.fresh { store := i.store } = ({ store := i.store }, .ok) := by
    intro hd; rw [hd]; exact adoptF_deleting plan i.fresh _
  rcases hadopt : adoptOrphanRevisionsF plan i.view.deleting i.fresh { store := i.store } with ⟨s1, out⟩
  rw [hadopt] at hA hAd
  obtain ⟨hg, hAlog⟩ := hA
  simp only at hg hAlog
  have hdel1 : i.view.deleting = true → s1.store = i.store ∧ s1.tr.log = [] := by
    intro hd
    have := hAd hd
    simp only [Prod.mk.injEq] at this
    rw [this.1]; exact ⟨rfl, rfl⟩
  have hs1 : ∀ e ∈ s1.tr.log, i.view.deleting = false ∧ AdoptEntry (listRevisions i.store) e := by
    intro e he
    by_cases hd : i.view.deleting = true
    · rw [(hdel1 hd).2] at he; cases he
    · exact ⟨by simpa using hd, hAlog.all (fun _ h => absurd h List.not_mem_nil) e he⟩
  have hfail : ∀ out', SyncSplit i plan { log := s1.tr.log, store := s1.store, outcome := out' } s1.tr.log [] []
      s1.store := fun out' =>
    { log_eq := by rw [List.map_nil, List.append_nil, List.append_nil], adopted := hg, deleting := fun hd => ⟨(hdel1 hd).1, rfl⟩,
      resolved := ⟨s1.store, Resolved.refl _, fun x hx => hx⟩, head := hs1,
      tail_ok := fun _ h => absurd h List.not_mem_nil, claim := Or.inl ⟨rfl, rfl, rfl, rfl⟩, hacts := Or.inl rfl }
  cases out with
  | err => exact ⟨_, _, _, _, hfail _⟩
  | panic site => exact ⟨_, _, _, _, hfail _⟩
  | ok =>
    simp only
    -- the claim pass, then everything after it
    obtain ⟨evs, I⟩ := claimPodsF_inv plan i.view.deleting i.fresh i.pods s1.tr
    obtain ⟨⟨tail, htail, hall⟩, hres, hcl, hacts⟩ := afterClaimF_spec h i plan
      { store := s1.store, tr := (claimPodsF plan i.view.deleting i.fresh i.pods s1.tr).tr }
      (claimPodsF plan i.view.deleting i.fresh i.pods s1.tr).failed
      (claimPodsF plan i.view.deleting i.fresh i.pods s1.tr).claimed
    simp only at htail
    refine ⟨s1.tr.log, evs, tail, s1.store,
      { log_eq := by rw [htail, I.log_eq], adopted := hg, deleting := fun hd => ⟨(hdel1 hd).1, ?_⟩, resolved := hres,
        head := hs1, tail_ok := hall, claim := Or.inr ⟨?_, hcl⟩, hacts := ?_ }⟩
    · -- a set that is being deleted issues no claim call
      have hlog := I.log_eq
      rw [hd, (claimPodsF_deleting plan i.fresh i.pods s1.tr).1] at hlog
      exact List.map_eq_nil_iff.1 (List.self_eq_append_right.1 hlog)
    · rw [← I.log_eq]; exact I
    · rcases hacts with ha | ⟨cur, upd, hc, ha⟩
      · exact Or.inl ha
      · exact Or.inr ⟨cur, upd, by rw [hc]; exact ha⟩

/-- **shape of a whole sync**, without positions: every entry of the log classified; `st1` is the revision store after
    the adoption phase, `st2` after revision resolution -/
structure SyncShape (i : SyncIn) (plan : List Fault) (o : SyncOut) : Prop where
  main : ∃ st1 : List Rev,
    (∃ g : Rev → Rev, (∀ x, AdoptG (listRevisions i.store) x (g x)) ∧ st1 = i.store.map g) ∧
    (i.view.deleting = true → st1 = i.store) ∧
    (∃ st2, Resolved st1 st2 ∧ ∀ x ∈ o.store, x ∈ st2) ∧
    ∀ e ∈ o.log, PreEntry i st1 e ∨ ActEntry i plan o.claimed o.acts e
  hacts : o.acts = [] ∨ ∃ cur upd, o.acts = (reconcileOf i plan o.claimed cur upd).1.acts

theorem SyncSplit.shape {i : SyncIn} {plan : List Fault} {o : SyncOut} {L0 evs tail st1}
    (S : SyncSplit i plan o L0 evs tail st1) : SyncShape i plan o := by
  refine ⟨⟨st1, S.adopted, fun hd => (S.deleting hd).1, S.resolved, ?_⟩, S.hacts⟩
  intro e he
  rw [S.log_eq] at he
  rcases List.mem_append.1 he with he | he
  rcases List.mem_append.1 he with he | he
  · exact Or.inl (Or.inl (S.head e he))
  · -- an event of the claim pass
    obtain ⟨ev, hev, rfl⟩ := List.mem_map.1 he
    have hd : i.view.deleting = false := by
      cases hd : i.view.deleting with
      | false => rfl
      | true => rw [(S.deleting hd).2] at hev; cases hev
    rcases S.claim with ⟨h0, _⟩ | ⟨I, _⟩
    · rw [h0] at hev; cases hev
    refine Or.inl (Or.inr (Or.inl ⟨hd, ?_⟩))
    rcases I.shape ev hev with rfl | ⟨c, hc, rfl, hdec⟩
    · exact Or.inl rfl
    · refine Or.inr ⟨c, hc, rfl, ?_, hdec⟩
      intro ho
      rw [claimDecision_other _ c ho] at hdec
      rcases hdec with hdec | hdec <;> cases hdec
  · exact (S.tail_ok e he).classified

theorem syncF_shape (h : Hashing) (i : SyncIn) (plan : List Fault) : SyncShape i plan (syncF h i plan) :=
  let ⟨_, _, _, _, S⟩ := syncF_split h i plan
  S.shape

end Asts.SYa
