import Asts.Proofs.L1_b_Run

/-! # L1_b — C05: OrderedReady, one pod at a time, predecessors healthy, scale-in from the top -/
namespace Asts.L1b
open List

/-- ordinals of the create and delete actions (DESIGN Appendix C.2) -/
def cd : List Action → List Int
  | [] => []
  | .create o _ :: l => o :: cd l
  | .delete o _ _ :: l => o :: cd l
  | .update _ :: l => cd l

def Same (l : List Int) : Prop := ∀ a ∈ l, ∀ b ∈ l, a = b

theorem cd_eq (l : List Action) : cd l = (l.filter Action.isCD).map Action.ord := by
  induction l with
  | nil => rfl
  | cons a as ih => cases a <;> simp only [cd, ih] <;> rfl

theorem mem_cd {l : List Action} {o : Int} : o ∈ cd l ↔ ∃ a ∈ l, a.isCD = true ∧ a.ord = o := by
  simp only [cd_eq, List.mem_map, List.mem_filter, and_assoc]

/-- the ordinals the monitor calls touched are those of the model's creates and deletes -/
theorem touched_eq_cd (l : List Action) :
    ((observe l).filter (fun a => a.isCreate || a.isDelete)).map OAct.ord = cd l := by
  induction l with
  | nil => rfl
  | cons a as ih => cases a <;> simp only [cd, ← ih] <;> rfl

section
variable (v : SetView) (cur upd : String) (pods : List Pod) (f : Faults)

theorem run_just (r : Int) (hr : v.replicas = some r) (h0 : 0 ≤ r) {a : Action}
    (ha : a ∈ (updateStatefulSet v cur upd pods f).1.acts) :
    ∃ P, PrepInv v cur upd pods (desired r v.slots) P ∧ (P.reps.map (·.1)).Pairwise (· < ·) ∧ v.deleting = false ∧
      (∀ a ∈ (updateStatefulSet v cur upd pods f).1.acts, Just v cur upd (!v.parallel) P a) ∧
      ((updateStatefulSet v cur upd pods f).1.acts.filter Action.isUpdDel).length ≤ 1 := by
  rcases updateStatefulSet_spec v cur upd pods f with h | ⟨r', hr', hd, hj, hc, _⟩
  · rw [h] at ha; cases ha
  · obtain rfl : r' = r := Option.some.inj (hr'.symm.trans hr)
    exact ⟨_, prepOf_inv v cur upd pods h0, prepOf_sorted v cur upd r' pods, hd, hj, hc⟩

/-- C05 clause 1 (model actions): under OrderedReady all creates and deletes of one reconcile target one ordinal.
    No hypothesis on the spec or the snapshot. -/
theorem C05_one_ordinal (hmono : v.parallel = false) :
    Same (cd (updateStatefulSet v cur upd pods f).1.acts) := by
  rcases updateStatefulSet_spec v cur upd pods f with h | ⟨P, _, _, _, _, h⟩
  · rw [h]; intro a ha; simp [cd] at ha
  · obtain ⟨i, hi⟩ := h hmono
    intro a ha b hb
    obtain ⟨x, hx, hx1, rfl⟩ := mem_cd.1 ha
    obtain ⟨y, hy, hy1, rfl⟩ := mem_cd.1 hb
    rw [hi x hx hx1, hi y hy hy1]

/-- C05 clause 1 as the monitor computes it on the observed actions -/
theorem C05_touched (hmono : v.parallel = false) :
    ((((observe (updateStatefulSet v cur upd pods f).1.acts).filter (fun a => a.isCreate || a.isDelete)).map
      OAct.ord).eraseDups).length ≤ 1 := by
  rw [touched_eq_cd]
  exact length_eraseDups_of_same (C05_one_ordinal v cur upd pods f hmono)

variable (r : Int) (hr : v.replicas = some r) (h0 : 0 ≤ r) (hmono : v.parallel = false)
include hr h0 hmono

/-- C05 clause 2: a pod is created at `o` only when every desired ordinal below `o` holds a pod of the snapshot that is
    Running, Ready and not terminating. -/
theorem C05_create_pred {o : Int} {rev : String}
    (h : Action.create o rev ∈ (updateStatefulSet v cur upd pods f).1.acts) :
    ∀ i ∈ desired r v.slots, i < o → HealthyIn pods i := by
  obtain ⟨P, inv, hs, _, hj, _⟩ := run_just v cur upd pods f r hr h0 h
  have hm : (!v.parallel) = true := by simp [hmono]
  have hj' := hj _ h
  cases hj' with
  | create pre i p post rev e hrev hpre =>
    intro i hi hlt
    obtain ⟨x, hx, rfl⟩ := inv.exists_rep hi
    have hxp := mem_pre_of_lt hs e hx hlt
    exact inv.healthyIn hx (hpre hm x hxp)

/-- C05 clause 3: a scale-down delete at `o` happens only when every desired ordinal holds a healthy pod of the snapshot;
    its target is a pod of the snapshot outside the desired set, and no such pod has a higher ordinal. -/
theorem C05_scaleDown {o : Int} {id : Nat}
    (h : Action.delete o id .scaleDown ∈ (updateStatefulSet v cur upd pods f).1.acts) :
    (∀ i ∈ desired r v.slots, HealthyIn pods i) ∧
    (∃ c ∈ pods, c.ord = o ∧ c.id = id ∧ 0 ≤ o ∧ o ∉ desired r v.slots) ∧
    (∀ c ∈ pods, 0 ≤ c.ord → c.ord ∉ desired r v.slots → c.ord ≤ o) := by
  obtain ⟨P, inv, _, _, hj, _⟩ := run_just v cur upd pods f r hr h0 h
  have hm : (!v.parallel) = true := by simp [hmono]
  have hj' := hj _ h
  cases hj' with
  | scale c hc hmn =>
    obtain ⟨hall, hlast⟩ := hmn hm
    obtain ⟨c1, c2, c3⟩ := (inv.condMem c).1 hc
    refine ⟨inv.all_healthyIn hall, ⟨c, c1, rfl, rfl, c2, c3⟩, ?_⟩
    intro c' d1 d2 d3
    have hc' := (inv.condMem c').2 ⟨d1, d2, d3⟩
    rcases rel_last_of_pairwise inv.condSorted hlast c' hc' with rfl | hle
    · exact le_refl _
    · exact hle

/-- C05 clause 4: a pod is taken down for an update only when the snapshot holds no pod outside the desired set and every
    desired ordinal holds a healthy pod. -/
theorem C05_update {o : Int} {id : Nat}
    (h : Action.delete o id .update ∈ (updateStatefulSet v cur upd pods f).1.acts) :
    (∀ c ∈ pods, 0 ≤ c.ord → c.ord ∈ desired r v.slots) ∧ (∀ i ∈ desired r v.slots, HealthyIn pods i) := by
  obtain ⟨P, inv, _, _, hj, _⟩ := run_just v cur upd pods f r hr h0 h
  have hm : (!v.parallel) = true := by simp [hmono]
  have hj' := hj _ h
  cases hj' with
  | upd i p q hp hq hnf hod hpt hpost hmn =>
    obtain ⟨hnil, hall⟩ := hmn hm
    refine ⟨?_, inv.all_healthyIn hall⟩
    intro c d1 d2
    by_contra d3
    have hc := (inv.condMem c).2 ⟨d1, d2, d3⟩
    rw [hnil] at hc; simp at hc

omit hmono in
/-- how the monitors' snapshot-only classifier sees the deletes of the model: scale-down deletes are class `scale`,
    replacements of Failed/Succeeded pods class `replace`, deletes by the update walk class `update` -/
theorem classify_why (hids : IdsOk pods) {o : Int} {id : Nat} {why : Why}
    (h : Action.delete o id why ∈ (updateStatefulSet v cur upd pods f).1.acts) :
    classify (desired r v.slots) pods (Action.observe (.delete o id why)) = why.cls := by
  obtain ⟨P, inv, _, _, hj, _⟩ := run_just v cur upd pods f r hr h0 h
  exact classify_just inv hids (hj _ h)

/-- **C05** — the monitor is true on the model's output for every spec, snapshot and fault plan. -/
theorem C05_holds (hwf : wfSnapshot pods = true) (hids : IdsOk pods) :
    C05 v pods (observe (updateStatefulSet v cur upd pods f).1.acts) = true := by
  have hrep : replicasOf v = r := by simp [replicasOf, hr]
  unfold C05
  simp only [hrep]
  rw [Bool.and_eq_true]
  refine ⟨by simpa using C05_touched v cur upd pods f hmono, ?_⟩
  rw [List.all_eq_true]
  intro a ha
  simp only [observe, List.mem_map] at ha
  obtain ⟨a0, ha0, rfl⟩ := ha
  have hall : (∀ i ∈ desired r v.slots, HealthyIn pods i) → (desired r v.slots).all (healthyAt pods) = true := by
    intro hh
    rw [List.all_eq_true]
    exact fun i hi => healthyAt_of_healthyIn hwf (hh i hi)
  cases a0 with
  | create o rev =>
    simp only [Action.observe]
    rw [List.all_eq_true]
    intro i hi
    rw [List.mem_filter] at hi
    exact healthyAt_of_healthyIn hwf
      (C05_create_pred v cur upd pods f r hr h0 hmono ha0 i hi.1 (by simpa using hi.2))
  | update o => simp only [Action.observe]
  | delete o id why =>
    have hc := classify_why v cur upd pods f r hr h0 hids ha0
    simp only [Action.observe] at hc ⊢
    rw [hc]
    cases why with
    | replaceFailed => simp only [Why.cls]
    | scaleDown =>
      simp only [Why.cls]
      obtain ⟨k1, _, k3⟩ := C05_scaleDown v cur upd pods f r hr h0 hmono ha0
      rw [Bool.and_eq_true]
      refine ⟨hall k1, ?_⟩
      rw [List.all_eq_true]
      intro c hc
      simp only [condemnedSpec, List.mem_filter, Bool.and_eq_true, decide_eq_true_eq, Bool.not_eq_true'] at hc
      simpa using k3 c hc.1 hc.2.1 (by simpa using hc.2.2)
    | update =>
      simp only [Why.cls]
      obtain ⟨k1, k2⟩ := C05_update v cur upd pods f r hr h0 hmono ha0
      rw [Bool.and_eq_true]
      refine ⟨?_, hall k2⟩
      rw [List.isEmpty_iff]
      simp only [condemnedSpec, List.filter_eq_nil_iff]
      intro c hc
      simp only [Bool.and_eq_true, decide_eq_true_eq, Bool.not_eq_true', not_and]
      intro hge
      simpa using k1 c hc hge

end

theorem acts_nil_of_replicas_none (v : SetView) (cur upd : String) (pods : List Pod) (f : Faults)
    (h : v.replicas = none) : (updateStatefulSet v cur upd pods f).1.acts = [] := by
  rw [L1c.updateStatefulSet_none h]

/-- C05 with the replica count read as the monitor reads it (`replicasOf v`, 0 for a nil pointer) -/
theorem C05_holds_total (v : SetView) (cur upd : String) (pods : List Pod) (f : Faults)
    (h0 : 0 ≤ replicasOf v) (hmono : v.parallel = false) (hwf : wfSnapshot pods = true) (hids : IdsOk pods) :
    C05 v pods (observe (updateStatefulSet v cur upd pods f).1.acts) = true := by
  cases hr : v.replicas with
  | none => rw [acts_nil_of_replicas_none v cur upd pods f hr]; rfl
  | some r =>
    have : replicasOf v = r := by simp [replicasOf, hr]
    exact C05_holds v cur upd pods f r hr (this ▸ h0) hmono hwf hids

end Asts.L1b
