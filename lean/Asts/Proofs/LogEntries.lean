import Mathlib.Tactic
import Batteries.Data.String.Lemmas
import Std.Data.String.ToInt
import Asts.Spec.Sync
import Asts.Model.World

/-! # The entries of the call log, as strings

The model writes every API call as a string, `"<verb>:<res>:" ++ name` or one of the constants `list:revs`, `get:set`,
`updatestatus`; the monitors and `applyPatches` read the strings back with `String.splitOn ":"`, the per-round count of writes
(`isWrite`) with `String.startsWith`.

`String.splitOn` is implemented by well-founded recursion over UTF-8 byte positions; `splitOn_colon` ties it to
`List.splitOnP` on the characters (Batteries proves the analogue for `splitToList`). From there everything is about
`Pre3 pre v r` — `pre` renders `"<v>:<r>:"` — and no proof below this file looks at a character again:
`"<v>:<r>:" ++ name` splits into `v :: r :: …`, so it parses to `(v, r, name)` when the name holds no colon, and to an entry
whose verb is the whole string and whose resource is empty when it does (the monitors then take it for no call at all);
one such entry starts with `"<v'>:<r'>:"` iff verbs and resources agree; an entry with fewer than two colons starts with
none and splits into fewer than three fields. -/

namespace Asts.SYa
open Asts String

theorem get_colon : Pos.Raw.get ":" 0 = ':' := by decide +kernel
theorem next_colon : Pos.Raw.next ":" 0 = ⟨1⟩ := by decide +kernel
theorem atEnd_colon : Pos.Raw.atEnd ":" ⟨1⟩ = true := by decide +kernel

theorem splitOnAux_eq (s sep : String) (b i j : Pos.Raw) (r : List String) :
    s.splitOnAux sep b i j r =
      if Pos.Raw.atEnd s i = true then
        (Pos.Raw.extract s b i :: r).reverse
      else
        if (Pos.Raw.get s i == Pos.Raw.get sep j) = true then
          if Pos.Raw.atEnd sep (Pos.Raw.next sep j) = true then
            s.splitOnAux sep (Pos.Raw.next s i) (Pos.Raw.next s i) 0
              (Pos.Raw.extract s b ((Pos.Raw.next s i).unoffsetBy (Pos.Raw.next sep j)) :: r)
          else s.splitOnAux sep b (Pos.Raw.next s i) (Pos.Raw.next sep j) r
        else s.splitOnAux sep b (Pos.Raw.next s (i.unoffsetBy j)) 0 r := by
  rw [String.splitOnAux.eq_1]

/-- the loop of `splitOn ":"`, standing after `l ++ m` with the current field `m` begun after `l` -/
theorem splitOnAux_colon (l m r : List Char) (acc : List String) :
    String.splitOnAux (ofList (l ++ m ++ r)) ":" ⟨utf8Len l⟩ ⟨utf8Len l + utf8Len m⟩ 0 acc =
      acc.reverse ++ (List.splitOnPPrepend (· == ':') r m.reverse).map ofList := by
  induction r generalizing l m acc with
  | nil =>
    rw [splitOnAux_eq]
    have hend : Pos.Raw.atEnd (ofList (l ++ m ++ [])) ⟨utf8Len l + utf8Len m⟩ = true := by
      have := (atEnd_of_valid (l ++ m) []).2 rfl
      simpa [utf8Len_append] using this
    rw [if_pos hend]
    have := extract_of_valid l m []
    simp only [List.append_nil] at this ⊢
    rw [this]
    simp
  | cons c r ih =>
    rw [splitOnAux_eq]
    have hend : ¬ Pos.Raw.atEnd (ofList (l ++ m ++ c :: r)) ⟨utf8Len l + utf8Len m⟩ = true := by
      have := atEnd_of_valid (l ++ m) (c :: r)
      rw [utf8Len_append] at this
      intro h
      exact absurd (this.1 h) (by simp)
    rw [if_neg hend]
    have hget : Pos.Raw.get (ofList (l ++ m ++ c :: r)) ⟨utf8Len l + utf8Len m⟩ = c := by
      have := get_of_valid (l ++ m) (c :: r)
      rw [utf8Len_append] at this
      simpa using this
    have hnext : Pos.Raw.next (ofList (l ++ m ++ c :: r)) ⟨utf8Len l + utf8Len m⟩ =
        ⟨utf8Len l + utf8Len m + c.utf8Size⟩ := by
      have := next_of_valid (l ++ m) c r
      rw [utf8Len_append] at this
      exact this
    rw [hget, get_colon, next_colon, atEnd_colon]
    by_cases hc : c = ':'
    · subst hc
      simp only [beq_self_eq_true, if_true, hnext]
      have hsz : (':' : Char).utf8Size = 1 := by decide
      have hun : (⟨utf8Len l + utf8Len m + (':' : Char).utf8Size⟩ : Pos.Raw).unoffsetBy ⟨1⟩ = ⟨utf8Len l + utf8Len m⟩ := by
        rw [hsz]; rfl
      rw [hun, extract_of_valid l m (':' :: r)]
      have := ih (l ++ m ++ [':']) [] (ofList m :: acc)
      simp only [List.append_assoc, List.singleton_append, utf8Len_append, utf8Len_cons, utf8Len_nil, Nat.zero_add,
        Nat.add_zero, List.append_nil] at this
      simp only [Nat.add_assoc, List.append_assoc] at this ⊢
      rw [this]
      simp [List.splitOnPPrepend_cons_eq_if]
    · have hne : (c == ':') = false := by simpa using hc
      simp only [hne, Bool.false_eq_true, if_false]
      have hun : (⟨utf8Len l + utf8Len m⟩ : Pos.Raw).unoffsetBy 0 = ⟨utf8Len l + utf8Len m⟩ := rfl
      rw [hun, hnext]
      have := ih l (m ++ [c]) acc
      simp only [List.append_assoc, List.singleton_append, utf8Len_append, utf8Len_cons, utf8Len_nil, Nat.zero_add] at this
      simp only [Nat.add_assoc, List.append_assoc] at this ⊢
      rw [this]
      simp [List.splitOnPPrepend_cons_eq_if, hne]

theorem splitOn_colon (s : String) :
    s.splitOn ":" = (List.splitOnP (· == ':') s.toList).map String.ofList := by
  unfold String.splitOn
  rw [if_neg (by decide)]
  have := splitOnAux_colon [] [] s.toList []
  simpa using this

theorem length_splitOnP (l : List Char) :
    (List.splitOnP (· == ':') l).length = (l.filter (· == ':')).length + 1 := by
  induction l with
  | nil => rfl
  | cons y ys ih =>
    rw [List.splitOnP_cons_eq_if_modifyHead, List.filter_cons]
    by_cases hy : (y == ':') = true
    · rw [if_pos hy, if_pos hy, List.length_cons, List.length_cons, ih]
    · rw [if_neg hy, if_neg hy, List.length_modifyHead, ih]

theorem length_splitOn (e : String) : (e.splitOn ":").length = (e.toList.filter (· == ':')).length + 1 := by
  rw [splitOn_colon, List.length_map, length_splitOnP]

def NoColon (n : String) : Prop := ∀ x ∈ n.toList, (x == ':') = false

instance (n : String) : Decidable (NoColon n) := by unfold NoColon; infer_instance

theorem splitOnP_two {l : List Char} (h : ¬ ∀ x ∈ l, (x == ':') = false) :
    ∃ a b c, List.splitOnP (· == ':') l = a :: b :: c := by
  have hlen := length_splitOnP l
  have hpos : 0 < (l.filter (· == ':')).length := by
    rw [List.length_pos_iff, Ne, List.filter_eq_nil_iff]
    simpa using h
  match hs : List.splitOnP (· == ':') l with
  | [] => exact absurd hs (List.splitOnP_ne_nil _ _)
  | [a] =>
    rw [hs, List.length_singleton] at hlen
    omega
  | a :: b :: c => exact ⟨a, b, c, rfl⟩

theorem splitOn_prefix (v rest : String) (hv : NoColon v) : (v ++ ":" ++ rest).splitOn ":" = v :: rest.splitOn ":" := by
  rw [splitOn_colon, splitOn_colon]
  have h1 : (v ++ ":" ++ rest).toList = v.toList ++ ':' :: rest.toList := by
    rw [String.toList_append, String.toList_append, show (":" : String).toList = [':'] from rfl, List.append_assoc]
    rfl
  rw [h1, List.splitOnP_append_cons_of_forall_mem hv ':' (by decide)]
  simp

structure Pre3 (pre v r : String) : Prop where
  toList_eq : pre.toList = v.toList ++ ':' :: (r.toList ++ [':'])
  hv : ∀ x ∈ v.toList, (x == ':') = false
  hr : ∀ x ∈ r.toList, (x == ':') = false

theorem splitOn_pre3 {pre v r : String} (h : Pre3 pre v r) (n : String) :
    (pre ++ n).splitOn ":" = v :: r :: (List.splitOnP (· == ':') n.toList).map String.ofList := by
  rw [splitOn_colon, String.toList_append, h.toList_eq]
  have e1 : v.toList ++ ':' :: (r.toList ++ [':']) ++ n.toList = v.toList ++ ':' :: (r.toList ++ ':' :: n.toList) := by
    simp
  rw [e1, List.splitOnP_append_cons_of_forall_mem h.hv ':' (by simp),
    List.splitOnP_append_cons_of_forall_mem h.hr ':' (by simp)]
  simp

theorem splitOn_pre3_noColon {pre v r : String} (h : Pre3 pre v r) {n : String} (hn : NoColon n) :
    (pre ++ n).splitOn ":" = [v, r, n] := by
  rw [splitOn_pre3 h, List.splitOnP_eq_singleton hn]
  simp

theorem parseEntry_of_split {e v r n : String} (h : e.splitOn ":" = [v, r, n]) :
    parseEntry e = { verb := v, res := r, name := n } := by
  unfold parseEntry
  rw [h]

theorem parseEntry_pre3 {pre v r : String} (h : Pre3 pre v r) (n : String) (hn : NoColon n) :
    parseEntry (pre ++ n) = { verb := v, res := r, name := n } :=
  parseEntry_of_split (splitOn_pre3_noColon h hn)

theorem parseEntry_pre3_colon {pre v r : String} (h : Pre3 pre v r) (n : String) (hn : ¬NoColon n) :
    parseEntry (pre ++ n) = { verb := pre ++ n, res := "", name := "" } := by
  unfold parseEntry
  obtain ⟨a, b, c, habc⟩ := splitOnP_two hn
  rw [splitOn_pre3 h, habc]
  simp only [List.map_cons]

theorem parseEntry_pre3_cases {pre v r : String} (h : Pre3 pre v r) (n : String) :
    parseEntry (pre ++ n) = { verb := v, res := r, name := n } ∨
    (parseEntry (pre ++ n)).res = "" := by
  by_cases hn : NoColon n
  · exact Or.inl (parseEntry_pre3 h n hn)
  · exact Or.inr (by rw [parseEntry_pre3_colon h n hn])

theorem Pre3.unique {P P' V R : String} (h : Pre3 P V R) (h' : Pre3 P' V R) : P = P' :=
  String.toList_inj.1 (h.toList_eq.trans h'.toList_eq.symm)

theorem Pre3.colons {P V R : String} (h : Pre3 P V R) : (P.toList.filter (· == ':')).length = 2 := by
  have hv : V.toList.filter (· == ':') = [] := List.filter_eq_nil_iff.mpr (fun x hx => by simp [h.hv x hx])
  have hr : R.toList.filter (· == ':') = [] := List.filter_eq_nil_iff.mpr (fun x hx => by simp [h.hr x hx])
  simp [h.toList_eq, List.filter_append, hv, hr]

/-! The prefixes the model uses. The three facts about each literal are closed by kernel evaluation, since unfolding
    `String.toList` on literals in the elaborator is slow. -/

theorem pre_patch_pod : Pre3 "patch:pod:" "patch" "pod" := ⟨by decide +kernel, by decide +kernel, by decide +kernel⟩
theorem pre_create_pod : Pre3 "create:pod:" "create" "pod" := ⟨by decide +kernel, by decide +kernel, by decide +kernel⟩
theorem pre_delete_pod : Pre3 "delete:pod:" "delete" "pod" := ⟨by decide +kernel, by decide +kernel, by decide +kernel⟩
theorem pre_update_pod : Pre3 "update:pod:" "update" "pod" := ⟨by decide +kernel, by decide +kernel, by decide +kernel⟩
theorem pre_patch_rev : Pre3 "patch:rev:" "patch" "rev" := ⟨by decide +kernel, by decide +kernel, by decide +kernel⟩
theorem pre_update_rev : Pre3 "update:rev:" "update" "rev" := ⟨by decide +kernel, by decide +kernel, by decide +kernel⟩
theorem pre_create_rev : Pre3 "create:rev:" "create" "rev" := ⟨by decide +kernel, by decide +kernel, by decide +kernel⟩
theorem pre_get_rev : Pre3 "get:rev:" "get" "rev" := ⟨by decide +kernel, by decide +kernel, by decide +kernel⟩
theorem pre_delete_rev : Pre3 "delete:rev:" "delete" "rev" := ⟨by decide +kernel, by decide +kernel, by decide +kernel⟩

theorem few_list_revs : ("list:revs".toList.filter (· == ':')).length < 2 := by decide +kernel
theorem few_get_set : ("get:set".toList.filter (· == ':')).length < 2 := by decide +kernel
theorem few_updatestatus : ("updatestatus".toList.filter (· == ':')).length < 2 := by decide +kernel

theorem parseEntry_list_revs : parseEntry "list:revs" = { verb := "list", res := "revs", name := "" } := by
  unfold parseEntry
  rw [splitOn_colon, show List.splitOnP (· == ':') "list:revs".toList = [['l','i','s','t'],['r','e','v','s']] by decide +kernel]
  rfl

theorem parseEntry_get_set : parseEntry "get:set" = { verb := "get", res := "set", name := "" } := by
  unfold parseEntry
  rw [splitOn_colon, show List.splitOnP (· == ':') "get:set".toList = [['g','e','t'],['s','e','t']] by decide +kernel]
  rfl

theorem parseEntry_updatestatus : parseEntry "updatestatus" = { verb := "updatestatus", res := "", name := "" } := by
  unfold parseEntry
  rw [splitOn_colon, show List.splitOnP (· == ':') "updatestatus".toList =
    [['u','p','d','a','t','e','s','t','a','t','u','s']] by decide +kernel]
  rfl

end Asts.SYa

namespace Asts

theorem eq_append_of_prefix {p e : String} (h : p.toList <+: e.toList) : ∃ r : String, e = p ++ r := by
  obtain ⟨t, ht⟩ := h
  exact ⟨String.ofList t, String.toList_inj.1 (by rw [String.toList_append, String.toList_ofList, ht])⟩

theorem append_left_cancel {p a b : String} (h : p ++ a = p ++ b) : a = b := by
  have := congrArg String.toList h
  rw [String.toList_append, String.toList_append, List.append_cancel_left_eq] at this
  exact String.ext_iff.mpr this

theorem canonicalName_injective (setName : String) {o o' : Int}
    (h : canonicalName setName o = canonicalName setName o') : o = o' :=
  Int.repr_injective (append_left_cancel (p := setName ++ "-") h)

end Asts

namespace Asts.SYb
open Asts
export Asts.SYa (splitOn_pre3 splitOn_pre3_noColon parseEntry_of_split parseEntry_pre3 parseEntry_pre3_colon parseEntry_list_revs
  parseEntry_get_set parseEntry_updatestatus pre_patch_pod pre_create_pod pre_delete_pod pre_update_pod pre_patch_rev
  pre_update_rev pre_create_rev pre_get_rev pre_delete_rev few_list_revs few_get_set few_updatestatus)

def NoColon (n : String) : Prop := ∀ x ∈ n.toList, (x == ':') = false

instance (n : String) : Decidable (NoColon n) := by unfold NoColon; infer_instance

structure Pre3 (pre v r : String) : Prop where
  toList_eq : pre.toList = v.toList ++ ':' :: (r.toList ++ [':'])
  hv : ∀ x ∈ v.toList, (x == ':') = false
  hr : ∀ x ∈ r.toList, (x == ':') = false

theorem Pre3.unique {P P' V R : String} (h : Pre3 P V R) (h' : Pre3 P' V R) : P = P' :=
  SYa.Pre3.unique ⟨h.toList_eq, h.hv, h.hr⟩ ⟨h'.toList_eq, h'.hv, h'.hr⟩

def pre (p e : String) : Bool := p.toList.isPrefixOf e.toList

theorem pre_append_self (p n : String) : pre p (p ++ n) = true := by
  simp [pre, String.toList_append]

end Asts.SYb

namespace Asts.SYa
open Asts Asts.SYb

theorem Pre3.pre_few {P V R e : String} (h : Pre3 P V R) (he : (e.toList.filter (· == ':')).length < 2) :
    pre P e = false := by
  cases hp : pre P e
  · rfl
  · have := ((List.isPrefixOf_iff_prefix.mp hp).sublist.filter (· == ':')).length_le
    rw [h.colons] at this
    omega

theorem Pre3.pre_append {P V R P' V' R' : String} (h : Pre3 P V R) (h' : Pre3 P' V' R') {n : String}
    (hp : pre P (P' ++ n) = true) : V = V' ∧ R = R' := by
  obtain ⟨t, ht⟩ := eq_append_of_prefix (List.isPrefixOf_iff_prefix.mp hp)
  have hs := splitOn_pre3 h' n
  rw [ht, splitOn_pre3 h t] at hs
  injection hs with h1 hs
  injection hs with h2 _
  exact ⟨h1, h2⟩

theorem Pre3.pre_ne {P V R P' V' R' : String} (h : Pre3 P V R) (h' : Pre3 P' V' R') (hne : V ≠ V' ∨ R ≠ R') (n : String) :
    pre P (P' ++ n) = false := by
  cases hp : pre P (P' ++ n)
  · rfl
  · obtain ⟨hv, hr⟩ := h.pre_append h' hp
    exact hne.elim (absurd hv) (absurd hr)

end Asts.SYa

namespace Asts.SYb

/-- `e` has fewer than two ':' (the constant entries `list:revs`, `get:set`, `updatestatus`), or it is
    `"<v>:<r>:" ++ name` for one of the pairs `(v, r)` in `VR` -/
def Keyed (VR : List (String × String)) (e : String) : Prop :=
  (e.toList.filter (· == ':')).length < 2 ∨ ∃ P V R n, SYa.Pre3 P V R ∧ (V, R) ∈ VR ∧ e = P ++ n

theorem Keyed.not_pre {VR : List (String × String)} {e Q V R : String} (h : Keyed VR e) (hQ : SYa.Pre3 Q V R)
    (hn : (V, R) ∉ VR) : pre Q e = false := by
  rcases h with h | ⟨P, V', R', n, hP, hmem, rfl⟩
  · exact hQ.pre_few h
  · apply hQ.pre_ne hP _ n
    by_contra hc
    push Not at hc
    exact hn (hc.1 ▸ hc.2 ▸ hmem)

theorem Keyed.ne_append {VR : List (String × String)} {e Q V R : String} (h : Keyed VR e) (hQ : SYa.Pre3 Q V R)
    (hn : (V, R) ∉ VR) (n : String) : e ≠ Q ++ n := by
  intro he
  have := h.not_pre hQ hn
  rw [he, pre_append_self] at this
  exact Bool.noConfusion this

end Asts.SYb

/-! ## entries that `applyPatches` passes over

Only an entry whose first `:`-separated field is `patch` and whose second is `pod` can be taken for an adoption / release
patch. -/

namespace Asts.C02p
open Asts

def NoPatch (e : String) : Prop := ∀ n, e.splitOn ":" ≠ ["patch", "pod", n]

theorem noPatch_prefix (v rest : String) (hv : SYa.NoColon v) (hne : v ≠ "patch") : NoPatch (v ++ ":" ++ rest) := by
  intro n h
  rw [SYa.splitOn_prefix v rest hv] at h
  exact hne (List.cons.inj h).1

theorem noPatch_of_few {e : String} (h : (e.toList.filter (· == ':')).length < 2) : NoPatch e := by
  intro n hs
  have := SYa.length_splitOn e
  rw [hs] at this
  simp only [List.length_cons, List.length_nil] at this
  omega

theorem _root_.Asts.SYa.Pre3.noPatch {P V R : String} (h : SYa.Pre3 P V R) (hne : V ≠ "patch" ∨ R ≠ "pod") (n : String) :
    NoPatch (P ++ n) := by
  intro m hs
  rw [SYa.splitOn_pre3 h] at hs
  injection hs with h1 hs
  injection hs with h2 _
  exact hne.elim (absurd h1) (absurd h2)

theorem _root_.Asts.SYb.Keyed.noPatch {VR : List (String × String)} {e : String} (h : SYb.Keyed VR e)
    (hn : ("patch", "pod") ∉ VR) : NoPatch e := by
  rcases h with h | ⟨P, V, R, n, hP, hmem, rfl⟩
  · exact noPatch_of_few h
  · refine hP.noPatch ?_ n
    by_contra hc
    push Not at hc
    obtain ⟨rfl, rfl⟩ := hc
    exact hn hmem

theorem applyPatches_go_noPatch (plan : List Fault) (seen log : List String) (pods : List CPod)
    (hlog : ∀ e ∈ log, NoPatch e) : applyPatches.go plan seen log pods = pods := by
  induction log generalizing seen with
  | nil => rfl
  | cons e rest ih =>
    unfold applyPatches.go
    have he := hlog e List.mem_cons_self
    have hrest := fun e he => hlog e (List.mem_cons_of_mem _ he)
    split
    · rename_i n heq; exact absurd heq (he n)
    · exact ih _ hrest

theorem applyPatches_noPatch (plan : List Fault) (log : List String) (pods : List CPod)
    (hlog : ∀ e ∈ log, NoPatch e) : applyPatches plan log pods = pods :=
  applyPatches_go_noPatch plan [] log pods hlog

end Asts.C02p

namespace Asts

theorem isWrite_false_iff (e : String) :
    isWrite e = false ↔ ("list:".toList <+: e.toList) ∨ ("get:".toList <+: e.toList) := by
  unfold isWrite
  cases h1 : e.startsWith "list:" <;> cases h2 : e.startsWith "get:" <;> simp_all

theorem isWrite_prefix (p x : String) (hp : (p.toList.head?.any fun c => c != 'l' && c != 'g') = true) :
    isWrite (p ++ x) = true := by
  cases hpl : p.toList with
  | nil => rw [hpl] at hp; cases hp
  | cons c cs =>
    rw [hpl] at hp
    simp only [List.head?_cons, Option.any_some, Bool.and_eq_true, bne_iff_ne, ne_eq] at hp
    by_contra hne
    rw [Bool.not_eq_true, isWrite_false_iff, String.toList_append, hpl,
      show "list:".toList = ['l', 'i', 's', 't', ':'] from by decide, show "get:".toList = ['g', 'e', 't', ':'] from by decide] at hne
    rcases hne with ⟨t, ht⟩ | ⟨t, ht⟩
    · exact hp.1 (List.cons.inj ht).1.symm
    · exact hp.2 (List.cons.inj ht).1.symm

theorem isWrite_updatestatus : isWrite "updatestatus" = true := by decide +kernel

theorem isWrite_list_revs : isWrite "list:revs" = false := by decide +kernel

theorem C02p.noPatch_of_not_write (e : String) (h : isWrite e = false) : C02p.NoPatch e := by
  rcases (isWrite_false_iff e).mp h with h1 | h1
  · obtain ⟨r, rfl⟩ := eq_append_of_prefix h1
    exact C02p.noPatch_prefix "list" r (by decide +kernel) (by simp)
  · obtain ⟨r, rfl⟩ := eq_append_of_prefix h1
    exact C02p.noPatch_prefix "get" r (by decide +kernel) (by simp)

end Asts
