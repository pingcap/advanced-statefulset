import Asts.Proofs.C02_NextPods

/-! C02: pod lists up to order and ids (key-permutations), and the settled pod list as a key-permutation of the raw one. -/
namespace Asts.C02p
open Asts Asts.L1c

theorem key_settleOne (c : CPod) : key (settleOne c) = settleOne (key c) := by
  have h1 : (key c).pod.failed = c.pod.failed := rfl
  have h2 : (key c).pod.succeeded = c.pod.succeeded := rfl
  unfold settleOne
  rw [h1, h2]
  split_ifs <;> rfl

theorem KeyPerm.settleOne {A B : List CPod} (h : KeyPerm A B) : KeyPerm (A.map settleOne) (B.map settleOne) := by
  unfold KeyPerm at *
  have h1 : ∀ l : List CPod, (l.map Asts.C02p.settleOne).map key = (l.map key).map Asts.C02p.settleOne := by
    intro l
    rw [List.map_map, List.map_map]
    apply List.map_congr_left
    intro c _
    exact key_settleOne c
  rw [h1 A, h1 B]
  exact List.Perm.map _ h

/-- the settled pods of a world whose pod list is `reindex (sortPods P1)` -/
theorem settle_keyPerm (i : SyncIn) (P1 : List CPod) (hp : i.pods = reindex (sortPods P1)) :
    KeyPerm (settle i).pods ((P1.filter (fun c => !c.pod.terminating)).map settleOne) := by
  rw [settle_pods, hp]
  refine (keyPerm_reindex_sort _).trans ?_
  apply KeyPerm.settleOne
  apply KeyPerm.filter (keyPerm_reindex_sort P1)
  intro c; rfl

/-- any settled list: nothing terminating, every pod Failed/Succeeded or Running and Ready -/
theorem settle_settled (i : SyncIn) :
    ∀ c ∈ (settle i).pods, c.pod.terminating = false ∧ (c.pod.fs = true ∨ c.pod.runningAndReady = true) := by
  intro c hc
  obtain ⟨c0, -, ht, hk⟩ := settle_src i hc
  obtain ⟨k, rfl⟩ := eq_of_key hk.symm
  refine ⟨(settleOne_term c0).trans ht, ?_⟩
  show (settleOne c0).pod.fs = true ∨ (settleOne c0).pod.runningAndReady = true
  unfold settleOne
  by_cases hfs : (c0.pod.failed || c0.pod.succeeded) = true
  · left; simp only [hfs, if_true]; exact hfs
  · right; simp only [hfs, Bool.false_eq_true, if_false]; simp [Pod.runningAndReady]

end Asts.C02p
