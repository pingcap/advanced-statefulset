import Mathlib.Tactic
import Asts.Spec.Glue2
import Asts.Proofs.SY_b_SyncThms
import Asts.Proofs.SY_b_AdoptExact
import Asts.Proofs.SY_a_Headlines

/-! # GL2 — who controls the revisions after a sync (`C11.revowner`, `C18.adopted`)

The final store of a sync is made from the store the adoption stage left (`SYb.adoptedStore`) by renumbering one revision
or inserting one new, own revision under a free name (`SYb.pickF_store`), and by deleting history
(`SYb.truncateF_store`): none of these changes an owner. So ownership after the sync is decided by the adoption stage
alone, and that stage
* changes no owner when adoption is not allowed (`adopt_keeps_owner`): the patches come after the uncached read of the
  set, which must be unfaulted and find the set present, with the cached uid and no deletion timestamp;
* when it succeeds with a listed orphan, has made every listed orphan the set's own (`SYb.adopt_ok_exact`). -/
namespace Asts.GL2
open Asts Asts.SYb

/-! ## where the final store comes from -/

/-- `y` is a revision of `A` up to its number (and labels), or a new own revision under a name free in `A` -/
def FromAdopted (A : List Rev) (y : Rev) : Prop :=
  (∃ x ∈ A, y.name = x.name ∧ y.owner = x.owner) ∨ (y.owner = .self ∧ ∀ x ∈ A, x.name ≠ y.name)

theorem fromAdopted_of_mem {A : List Rev} {y : Rev} (hy : y ∈ A) : FromAdopted A y := Or.inl ⟨y, hy, rfl, rfl⟩

theorem fromAdopted_of_pick (h : Hashing) (plan : List Fault) (template : String) (cc0 : Int) (revs : List Rev) (s : RevSt)
    {y : Rev} (hy : y ∈ (pickF h plan template cc0 revs s).1.store) : FromAdopted s.store y := by
  rcases pickF_store h plan template cc0 revs s with h1 | ⟨e, n, h1⟩ | ⟨cc, _, habs, h1, _⟩
  · rw [h1] at hy; exact fromAdopted_of_mem hy
  · rw [h1] at hy
    obtain ⟨x, hx, rfl⟩ := List.mem_map.mp hy
    exact Or.inl ⟨x, hx, setNumber_name _ _ _, setNumber_owner _ _ _⟩
  · rw [h1, mem_insertByName] at hy
    rcases hy with rfl | hy
    · exact Or.inr ⟨rfl, fun x hx => habs x hx⟩
    · exact fromAdopted_of_mem hy

/-- the tail only deletes from the store (truncation of the history) -/
theorem finishF_store_subset (i : SyncIn) (plan : List Fault) (claimed : List CPod) (revs : List Rev) (cur upd : Rev)
    (cc : Int) (s : RevSt) : (SYa.finishF i plan claimed revs cur upd cc s).store ⊆ s.store := by
  intro y hy
  obtain ⟨_, _, _, o4⟩ := finishF_spec i plan claimed revs cur upd cc s
  rcases o4 with ⟨_, k2, _, _⟩ | ⟨sT, t1, _, _, t4, _, _⟩
  · rwa [k2] at hy
  · rw [t4] at hy
    have := (truncateF_store plan i.historyLimit _ _ cur upd sT).1.subset hy
    rwa [t1] at this

/-- **the final store of a sync that ran**: every revision in it is one of the store the adoption stage left — same name,
    same owner — or a new own revision under a name that was free there -/
theorem sync_store_fromAdopted (h : Hashing) (i : SyncIn) (plan : List Fault) (hrun : (i.paused || !i.selectorOk) = false) :
    ∀ y ∈ (syncF h i plan).store, FromAdopted (adoptedStore plan i) y := by
  intro y hy
  rw [SYb.syncF_eq, hrun] at hy
  simp only [Bool.false_eq_true, if_false] at hy
  cases hh : syncHead h i plan with
  | inl o =>
    rw [hh] at hy
    simp only at hy
    rcases (syncHead_inl hh).2.2.2 with ⟨h1, _⟩ | ⟨sL, h1, _, h2, _⟩
    · rw [h1] at hy; exact fromAdopted_of_mem hy
    · rw [h2] at hy
      have := fromAdopted_of_pick h plan _ _ _ sL hy
      rwa [h1] at this
  | inr t =>
    obtain ⟨claimed, revs, cur, upd, cc, s⟩ := t
    rw [hh] at hy
    simp only at hy
    obtain ⟨A, sL, hA, _, _, _, _, hsLs, _, _, hpick, _⟩ := syncHead_inr hh
    have hAs : adoptedStore plan i = A.store := by unfold adoptedStore; rw [hA]
    have hs : s.store = (pickF h plan i.template (i.collisionCount.getD 0) revs sL).1.store := by rw [hpick]
    have hys := finishF_store_subset i plan claimed revs cur upd cc s hy
    rw [hs] at hys
    have := fromAdopted_of_pick h plan _ _ _ sL hys
    rwa [hsLs, ← hAs] at this

theorem sync_ok_adopt_ok (h : Hashing) (i : SyncIn) (plan : List Fault) (hrun : (i.paused || !i.selectorOk) = false)
    (hok : (syncF h i plan).outcome = .ok) :
    (adoptOrphanRevisionsF plan i.view.deleting i.fresh { store := i.store }).2 = .ok := by
  rcases sync_cases h i plan hrun with ⟨hne, _⟩ | ⟨⟨R⟩⟩
  · exact absurd hok hne
  · exact R.hadopt

/-! ## the adoption stage when adoption is not allowed -/

/-- position by position the same names and the same owners -/
def KeepsOwner (s t : List Rev) : Prop := ∃ f : Rev → Rev, (∀ x, (f x).name = x.name ∧ (f x).owner = x.owner) ∧ t = s.map f

theorem KeepsOwner.refl (s : List Rev) : KeepsOwner s s := ⟨id, fun _ => ⟨rfl, rfl⟩, by simp⟩

theorem KeepsOwner.step {s t : List Rev} (h : KeepsOwner s t) {g : Rev → Rev} (hg : ∀ x, (g x).name = x.name ∧ (g x).owner = x.owner) :
    KeepsOwner s (t.map g) := by
  obtain ⟨f, hf, rfl⟩ := h
  exact ⟨g ∘ f, fun x => ⟨(hg (f x)).1.trans (hf x).1, (hg (f x)).2.trans (hf x).2⟩, by simp⟩

theorem setSel_keeps (name : String) (x : Rev) : (SYa.setSel name x).name = x.name ∧ (SYa.setSel name x).owner = x.owner := by
  unfold SYa.setSel; split <;> exact ⟨rfl, rfl⟩

theorem labelStep_keeps (plan : List Fault) (s0 : List Rev) (b : RevSt) (r : Rev) (hb : KeepsOwner s0 b.store) :
    KeepsOwner s0 (SYa.labelStep plan b r).1.store := by
  unfold SYa.labelStep
  dsimp only
  split
  · split
    · exact hb
    · exact hb.step (setSel_keeps r.name)
  · exact hb

/-- **no adoption without confirmation**: when the cached set is being deleted, or the uncached read finds the set gone,
    re-created (other uid) or carrying a deletion timestamp, the adoption stage changes the owner of no stored revision —
    whatever the fault plan, and whether the stage ends well or not (the label sync may have run) -/
theorem adopt_keeps_owner (plan : List Fault) (del : Bool) (fresh : Fresh) (s : RevSt)
    (hno : (freshOk fresh && !del) = false) :
    KeepsOwner s.store (adoptOrphanRevisionsF plan del fresh s).1.store :=
  SYa.adoptF_inv (fun b => KeepsOwner s.store b.store) plan del fresh s (KeepsOwner.refl _)
    (by rw [listRevsF_store]; exact KeepsOwner.refl _) (fun b r hb => labelStep_keeps plan _ b r hb) (fun _ hb => hb)
    (fun hd hg hu hdl => by
      -- the patches come after the uncached read, and that read cannot confirm the set
      rw [freshOk, hd, hg, hu, hdl] at hno
      exact absurd hno (by decide))

/-- the revision clauses of `monitorSync` read the final store through its digest, revision by revision and by name -/
theorem revs_all_of_store {o : SyncOut} {n : String} {q : Owner → Bool}
    (h : ∀ y ∈ o.store, y.name = n → q y.owner = true) :
    (o.observe.revs.all fun d => d.name != n || q d.owner) = true := by
  rw [SYa.observe_revs, List.all_eq_true]
  intro d hd
  obtain ⟨y, hy, rfl⟩ := List.mem_map.mp hd
  rw [Bool.or_eq_true, bne_iff_ne]
  exact (ne_or_eq y.name n).imp_right (h y hy)

theorem mem_of_name {st : List Rev} (hnd : (st.map (·.name)).Nodup) {x y : Rev} (hx : x ∈ st) (hy : y ∈ st)
    (hn : x.name = y.name) : x = y := List.inj_on_of_nodup_map hnd hx hy hn

/-- `Prop` reading of `C11.revowner`: when adoption is not allowed, a revision of the final store that bears the name of an
    input revision the set did not control is not controlled by the set -/
theorem revowner_prop (h : Hashing) (i : SyncIn) (plan : List Fault) (hnd : SYa.StoreNamesOk i)
    (hno : (freshOk i.fresh && !i.view.deleting) = false) :
    ∀ r ∈ i.store, r.owner ≠ .self → ∀ y ∈ (syncF h i plan).store, y.name = r.name → y.owner ≠ .self := by
  intro r hr hro y hy hyn
  by_cases hrun : (i.paused || !i.selectorOk) = true
  · rw [SYb.syncF_eq, if_pos hrun] at hy
    have : y = r := mem_of_name hnd hy hr hyn
    rw [this]; exact hro
  · have hrun' : (i.paused || !i.selectorOk) = false := by simpa using hrun
    obtain ⟨f, hf, hA⟩ := adopt_keeps_owner plan i.view.deleting i.fresh { store := i.store } hno
    have hA' : adoptedStore plan i = i.store.map f := hA
    rcases sync_store_fromAdopted h i plan hrun' y hy with ⟨x, hx, hxn, hxo⟩ | ⟨_, hfree⟩
    · rw [hA'] at hx
      obtain ⟨x0, hx0, rfl⟩ := List.mem_map.mp hx
      have : x0 = r := mem_of_name hnd hx0 hr (by rw [← (hf x0).1, ← hxn, hyn])
      subst this
      rw [hxo, (hf x0).2]; exact hro
    · exfalso
      refine hfree (f r) ?_ (by rw [(hf r).1, hyn])
      rw [hA']; exact List.mem_map_of_mem hr

theorem selAll_name (N : List String) (x : Rev) : (selAll N x).name = x.name := (selAll_fields N x).1

/-- **every visible orphan is adopted by a sync that succeeds** — for EVERY fault plan: a sync of a running set (not
    paused, selector valid, not being deleted in the cache) that ended `.ok` leaves every input revision that nobody
    controlled and that it can see (selector labels or upgrade marker) controlled by the set, if it is still there.
    (`freshOk` and an empty plan, the other guards of the monitor clause, are not needed: an adoption stage that ended well
    with an orphan in sight has confirmed the set.) -/
theorem orphans_adopted_prop (h : Hashing) (i : SyncIn) (plan : List Fault) (hnd : SYa.StoreNamesOk i)
    (hrun : (i.paused || !i.selectorOk) = false) (hdel : i.view.deleting = false) (hok : (syncF h i plan).outcome = .ok) :
    ∀ r ∈ i.store, r.owner = .none → (r.selMatch = true ∨ r.marker = true) →
      ∀ y ∈ (syncF h i plan).store, y.name = r.name → y.owner = .self := by
  intro r hr hro hvis y hy hyn
  have hadopt := sync_ok_adopt_ok h i plan hrun hok
  have hlisted : r ∈ listRevisions i.store := (mem_listRevisions_iff hnd).2 ⟨hr, hvis, by rw [hro]; simp⟩
  have hA : adoptOrphanRevisionsF plan i.view.deleting i.fresh { store := i.store } =
      ((adoptOrphanRevisionsF plan i.view.deleting i.fresh { store := i.store }).1, .ok) := by
    rw [← hadopt]
  rcases adopt_ok_exact plan i.view.deleting i.fresh { store := i.store } _ hA with ⟨hnone, _, _⟩ | ⟨_, _, hst, _, _⟩
  · exfalso
    rcases hnone with hd | hnone
    · rw [hdel] at hd; cases hd
    · simp only at hnone
      rw [List.any_eq_false] at hnone
      exact hnone r hlisted (by rw [hro]; rfl)
  · simp only at hst
    have hN : r.name ∈ orphanNames (listRevisions i.store) := by
      unfold orphanNames
      exact List.mem_map.mpr ⟨r, List.mem_filter.mpr ⟨hlisted, by rw [hro]; rfl⟩, rfl⟩
    rcases sync_store_fromAdopted h i plan hrun y hy with ⟨x, hx, hxn, hxo⟩ | ⟨hself, _⟩
    · have hx' : x ∈ (List.map (selAll (markerNames (listRevisions i.store))) i.store).map
          (ownAll (orphanNames (listRevisions i.store))) := by
        rw [← hst]; exact hx
      obtain ⟨x1, hx1, rfl⟩ := List.mem_map.mp hx'
      rw [(ownAll_fields _ x1).1] at hxn
      have hmem : x1.name ∈ orphanNames (listRevisions i.store) := by rw [← hxn, hyn]; exact hN
      rw [hxo, ownAll_owner, if_pos (by simpa using hmem)]
    · exact hself

theorem observe_out_ne_ok (o : SyncOut) : (o.observe.out != "ok") = true ↔ o.outcome ≠ .ok := by
  unfold SyncOut.observe
  cases o.outcome <;> simp

/-- **`C18.adopted`**: the clause of `monitorSync` is true on the model for every hashing, world and fault plan with unique
    revision names -/
theorem C18adopted_holds (h : Hashing) (i : SyncIn) (plan : List Fault) (hnd : SYa.StoreNamesOk i) :
    C18adopted i plan (syncF h i plan).observe = true := by
  unfold C18adopted
  by_cases hout : ((syncF h i plan).observe.out != "ok") = true
  · rw [hout]; rfl
  by_cases hp : i.paused = true
  · rw [hp, Bool.or_true]; rfl
  by_cases hs : i.selectorOk = true
  swap
  · rw [Bool.eq_false_iff.2 hs, Bool.not_false, Bool.or_true]; rfl
  by_cases hd : i.view.deleting = true
  · rw [hd, Bool.or_true]; rfl
  have hok : (syncF h i plan).outcome = .ok := by
    by_contra hne
    exact hout ((observe_out_ne_ok _).2 hne)
  have hrun : (i.paused || !i.selectorOk) = false := by rw [Bool.eq_false_iff.2 hp, hs]; rfl
  have key := orphans_adopted_prop h i plan hnd hrun (Bool.eq_false_iff.2 hd) hok
  have hall : (i.store.all fun r => !(r.owner == Owner.none && (r.selMatch || r.marker)) ||
      (syncF h i plan).observe.revs.all fun d => d.name != r.name || d.owner == Owner.self) = true := by
    rw [List.all_eq_true]
    intro r hr
    by_cases hvis : (r.owner == Owner.none && (r.selMatch || r.marker)) = true
    swap
    · rw [Bool.eq_false_iff.2 hvis]; rfl
    rw [Bool.or_eq_true]
    right
    rw [Bool.and_eq_true, Bool.or_eq_true, beq_iff_eq] at hvis
    exact revs_all_of_store (q := (· == .self)) fun y hy hyn => beq_iff_eq.2 (key r hr hvis.1 hvis.2 y hy hyn)
  rw [hall, Bool.or_true]

end Asts.GL2
