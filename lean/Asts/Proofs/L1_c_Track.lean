import Asts.Proofs.L1_c_Bounds

/-! C12 (generation, completion, census at a fixed point): what the loops leave untouched, and how the counters move
    with the actions that were issued. -/
namespace Asts.L1c

structure Trk (upd : String) (pods : List Pod) (st0 : Status) (s : St) (R W : List (Int × Pod)) (C : List Pod) : Prop where
  gen : s.status.observedGen = st0.observedGen
  crev : s.status.currentRev = st0.currentRev
  urev : s.status.updateRev = st0.updateRev
  rdy : s.status.ready = st0.ready
  unch : s.acts = [] → s.status = st0
  repl : s.status.replicas = st0.replicas + nCreate s.acts - nReplace s.acts
  pair : nReplace s.acts ≤ nCreate s.acts
  rdyp : cnt Pod.fs (R.map (·.2)) + nCreate s.acts ≤ s.status.replicas - s.status.ready
  upd0 : s.status.updated ≤ st0.updated + nCreate s.acts
  updS : (∀ p ∈ pods, p.rev = upd) →
          s.status.updated + (nDelete s.acts - nReplace s.acts) ≤ st0.updated + nCreate s.acts
  csub : ∀ c ∈ C, c ∈ pods
  rmem : ∀ ip ∈ R, ip.2 ∈ pods ∨ ip.2.created = false
  wmem : ∀ ip ∈ W, ip.2 ∈ pods ∨ 0 < nCreate s.acts

/-- the facts about the initial status that the argument uses -/
structure Init (upd : String) (pods : List Pod) (st0 : Status) : Prop where
  r : st0.replicas = pods.length
  y : st0.ready = cnt Pod.runningAndReady pods
  u : st0.updated = cnt (countedAt upd) pods

/-- the core of the completion clause -/
def Core (upd : String) (pods : List Pod) (s : St) : Prop :=
  s.status.updated = s.status.replicas → s.status.ready = s.status.replicas →
    (∀ p ∈ pods, countedAt upd p = true ∧ p.runningAndReady = true) ∧ nCreate s.acts = 0 ∧ nDelete s.acts = 0

def Post (upd : String) (pods : List Pod) (st0 : Status) (s : St) : Prop :=
  s.status.observedGen = st0.observedGen ∧ s.status.currentRev = st0.currentRev ∧ s.status.updateRev = st0.updateRev ∧
  (s.acts = [] → s.status = st0) ∧ Core upd pods s

theorem countedAt_rev {x : String} {p : Pod} (h : countedAt x p = true) : p.rev = x := by
  simp only [countedAt, Bool.and_eq_true, beq_iff_eq] at h; exact h.2

theorem Trk.core {upd pods st0 s R W C} (hi : Init upd pods st0) (h : Trk upd pods st0 s R W C) : Core upd pods s := by
  intro hu hy
  -- with `ready = replicas` nothing was created (`rdyp`), hence nothing replaced (`pair`)
  have hc0 : nCreate s.acts = 0 := by
    have := h.rdyp; have := cnt_nonneg Pod.fs (R.map (·.2)); have := nCreate_nonneg s.acts
    omega
  have hrp0 : nReplace s.acts = 0 := by
    have := h.pair; have := nReplace_nonneg s.acts
    omega
  -- so `replicas`, `ready`, `updated` are what the census counted, and all three equal the number of pods
  have hlen : s.status.replicas = pods.length := by
    have := h.repl; have := hi.r
    omega
  have hall1 : ∀ p ∈ pods, Pod.runningAndReady p = true := cnt_eq_length_iff.1 (by
    have := h.rdy; have := hi.y
    omega)
  have hall2 : ∀ p ∈ pods, countedAt upd p = true := cnt_eq_length_iff.1 (by
    have := h.upd0; have := hi.u; have := cnt_le_length (countedAt upd) pods
    omega)
  have := h.updS fun p hp => countedAt_rev (hall2 p hp)
  have := h.upd0; have := hi.u; have := cnt_le_length (countedAt upd) pods; have := nDelete_nonneg s.acts
  exact ⟨fun p hp => ⟨hall2 p hp, hall1 p hp⟩, hc0, by omega⟩

theorem Trk.post {upd pods st0 s R W C} (hi : Init upd pods st0) (h : Trk upd pods st0 s R W C) : Post upd pods st0 s :=
  ⟨h.gen, h.crev, h.urev, h.unch, h.core hi⟩

theorem stepReplace_frame (v : SetView) (cur upd : String) (s : St) (i : Int) (q : Pod) :
    (stepReplace v cur upd s i q).status.observedGen = s.status.observedGen ∧
    (stepReplace v cur upd s i q).status.currentRev = s.status.currentRev ∧
    (stepReplace v cur upd s i q).status.updateRev = s.status.updateRev := by
  unfold stepReplace
  simp only [bump_observedGen, bump_currentRev, bump_updateRev]
  split_ifs <;> simp

theorem stepCreate_frame (cur upd : String) (s : St) (i : Int) (q : Pod) :
    (stepCreate cur upd s i q).status.observedGen = s.status.observedGen ∧
    (stepCreate cur upd s i q).status.currentRev = s.status.currentRev ∧
    (stepCreate cur upd s i q).status.updateRev = s.status.updateRev := by
  unfold stepCreate
  simp

theorem updated_eq_ctr (st : Status) : st.updated = ctr false st := rfl

theorem trk_hA (v : SetView) (cur upd : String) (pods : List Pod) (st0 : Status) (s : St) (i : Int) (q : Pod)
    (R W : List (Int × Pod)) (C : List Pod)
    (h : Trk upd pods st0 s ((i, q) :: R) W C) (hfs : q.fs = true) :
    Trk upd pods st0 (stepReplace v cur upd s i q) R (W ++ [(i, newPod v cur upd i)]) C := by
  obtain ⟨f1, f2, f3⟩ := stepReplace_frame v cur upd s i q
  have hacts : (stepReplace v cur upd s i q).acts
      = s.acts ++ [.delete i q.id .replaceFailed] ++ [.create i (newPod v cur upd i).rev] := rfl
  have hC : nCreate (stepReplace v cur upd s i q).acts = nCreate s.acts + 1 := by
    rw [hacts, nCreate_append, nCreate_append]; simp
  have hR : nReplace (stepReplace v cur upd s i q).acts = nReplace s.acts + 1 := by
    rw [hacts, nReplace_append, nReplace_append]; simp
  have hD : nDelete (stepReplace v cur upd s i q).acts = nDelete s.acts + 1 := by
    rw [hacts, nDelete_append, nDelete_append]; simp
  have hU : (stepReplace v cur upd s i q).status.updated ≤ s.status.updated + 1 := by
    rw [updated_eq_ctr, ctr_stepReplace, ← updated_eq_ctr]
    have := ind_nonneg (liveAt (revK false cur upd) q)
    have := ind_le_one ((newPod v cur upd i).rev == revK false cur upd)
    omega
  have h1 := h.rdyp
  simp only [List.map_cons, cnt_cons_ind, hfs, ind_true] at h1
  have := nCreate_nonneg s.acts
  refine ⟨by rw [f1]; exact h.gen, by rw [f2]; exact h.crev, by rw [f3]; exact h.urev,
    by rw [ready_stepReplace]; exact h.rdy, ?_, ?_, ?_, ?_, ?_, ?_, h.csub, ?_, ?_⟩
  · intro he; rw [hacts] at he; simp at he
  · rw [replicas_stepReplace, hC, hR, h.repl]; omega
  · rw [hC, hR]; have := h.pair; omega
  · rw [replicas_stepReplace, ready_stepReplace, hC]; omega
  · rw [hC]; have := h.upd0; omega
  · intro hH; rw [hC, hR, hD]; have := h.updS hH; omega
  · intro ip hip; exact h.rmem ip (List.mem_cons_of_mem _ hip)
  · intro ip _; right; rw [hC]; omega

theorem trk_hB (cur upd : String) (pods : List Pod) (st0 : Status) (s : St) (i : Int) (q : Pod)
    (R W : List (Int × Pod)) (C : List Pod)
    (h : Trk upd pods st0 s ((i, q) :: R) W C) (hfs : q.fs = false) :
    Trk upd pods st0 (stepCreate cur upd s i q) R (W ++ [(i, q)]) C := by
  obtain ⟨f1, f2, f3⟩ := stepCreate_frame cur upd s i q
  have hacts : (stepCreate cur upd s i q).acts = s.acts ++ [.create i q.rev] := rfl
  have hC : nCreate (stepCreate cur upd s i q).acts = nCreate s.acts + 1 := by
    rw [hacts]; simp [nCreate_append]
  have hR : nReplace (stepCreate cur upd s i q).acts = nReplace s.acts := by
    rw [hacts]; simp [nReplace_append]
  have hD : nDelete (stepCreate cur upd s i q).acts = nDelete s.acts := by
    rw [hacts]; simp [nDelete_append]
  have hU : (stepCreate cur upd s i q).status.updated ≤ s.status.updated + 1 := by
    rw [updated_eq_ctr, ctr_stepCreate, ← updated_eq_ctr]
    have := ind_le_one (q.rev == revK false cur upd)
    omega
  have h1 := h.rdyp
  simp only [List.map_cons, cnt_cons_ind, hfs, ind_false] at h1
  have := nCreate_nonneg s.acts
  refine ⟨by rw [f1]; exact h.gen, by rw [f2]; exact h.crev, by rw [f3]; exact h.urev,
    by rw [ready_stepCreate]; exact h.rdy, ?_, ?_, ?_, ?_, ?_, ?_, h.csub, ?_, ?_⟩
  · intro he; rw [hacts] at he; simp at he
  · rw [replicas_stepCreate, hC, hR, h.repl]; omega
  · rw [hC, hR]; have := h.pair; omega
  · rw [replicas_stepCreate, ready_stepCreate, hC]; omega
  · rw [hC]; have := h.upd0; omega
  · intro hH; rw [hC, hR, hD]; have := h.updS hH; omega
  · intro ip hip; exact h.rmem ip (List.mem_cons_of_mem _ hip)
  · intro ip _; right; rw [hC]; omega

theorem trk_hC (upd : String) (pods : List Pod) (st0 : Status) (s : St) (i : Int) (q : Pod)
    (R W : List (Int × Pod)) (C : List Pod)
    (h : Trk upd pods st0 s ((i, q) :: R) W C) (hfs : q.fs = false) (hc : q.created = true) :
    Trk upd pods st0 s R (W ++ [(i, q)]) C := by
  have h1 := h.rdyp
  simp only [List.map_cons, cnt_cons_ind, hfs, ind_false] at h1
  refine ⟨h.gen, h.crev, h.urev, h.rdy, h.unch, h.repl, h.pair, by omega, h.upd0, h.updS, h.csub, ?_, ?_⟩
  · intro ip hip; exact h.rmem ip (List.mem_cons_of_mem _ hip)
  · intro ip hip
    rcases List.mem_append.1 hip with hip | hip
    · exact h.wmem ip hip
    · simp only [List.mem_singleton] at hip
      subst hip
      rcases h.rmem (i, q) List.mem_cons_self with hm | hn
      · exact Or.inl hm
      · simp only at hn; rw [hc] at hn; cases hn

theorem trk_hU (upd : String) (pods : List Pod) (st0 : Status) (s : St) (i : Int)
    (R W : List (Int × Pod)) (C : List Pod) (h : Trk upd pods st0 s R W C) :
    Trk upd pods st0 { s with acts := s.acts ++ [.update i] } R W C := by
  have hC : nCreate (s.acts ++ [Action.update i]) = nCreate s.acts := by simp [nCreate_append]
  have hR : nReplace (s.acts ++ [Action.update i]) = nReplace s.acts := by simp [nReplace_append]
  have hD : nDelete (s.acts ++ [Action.update i]) = nDelete s.acts := by simp [nDelete_append]
  refine ⟨h.gen, h.crev, h.urev, h.rdy, ?_, ?_, ?_, ?_, ?_, ?_, h.csub, h.rmem, ?_⟩
  · intro he; simp at he
  · simp only [hC, hR]; exact h.repl
  · simp only [hC, hR]; exact h.pair
  · simp only [hC]; exact h.rdyp
  · simp only [hC]; exact h.upd0
  · simp only [hC, hR, hD]; exact h.updS
  · simp only [hC]; exact h.wmem

theorem trk_hskip (upd : String) (pods : List Pod) (st0 : Status) (s : St) (c : Pod) (C : List Pod) (W : List (Int × Pod))
    (h : Trk upd pods st0 s [] W (c :: C)) : Trk upd pods st0 s [] W C :=
  ⟨h.gen, h.crev, h.urev, h.rdy, h.unch, h.repl, h.pair, h.rdyp, h.upd0, h.updS,
   fun x hx => h.csub x (List.mem_cons_of_mem _ hx), h.rmem, h.wmem⟩

theorem trk_hdel (cur upd : String) (pods : List Pod) (st0 : Status) (s : St) (c : Pod) (C : List Pod) (W : List (Int × Pod))
    (h : Trk upd pods st0 s [] W (c :: C)) :
    Trk upd pods st0 { acts := s.acts ++ [.delete c.ord c.id .scaleDown], status := bump s.status cur upd c.rev (-1) } [] W C := by
  have hC : nCreate (s.acts ++ [Action.delete c.ord c.id .scaleDown]) = nCreate s.acts := by simp [nCreate_append]
  have hR : nReplace (s.acts ++ [Action.delete c.ord c.id .scaleDown]) = nReplace s.acts := by simp [nReplace_append]
  have hD : nDelete (s.acts ++ [Action.delete c.ord c.id .scaleDown]) = nDelete s.acts + 1 := by simp [nDelete_append]
  have hU : (bump s.status cur upd c.rev (-1)).updated = s.status.updated + (if c.rev == upd then -1 else 0) :=
    bump_updated ..
  refine ⟨by simpa using h.gen, by simpa using h.crev, by simpa using h.urev, by simpa using h.rdy,
    ?_, ?_, ?_, ?_, ?_, ?_, fun x hx => h.csub x (List.mem_cons_of_mem _ hx), h.rmem, ?_⟩
  · intro he; simp at he
  · simp only [hC, hR, bump_replicas]; exact h.repl
  · simp only [hC, hR]; exact h.pair
  · simp only [hC, bump_replicas, bump_ready]; exact h.rdyp
  · simp only [hC, hU]; have := h.upd0; split_ifs <;> omega
  · intro hH
    have hc : c.rev = upd := hH c (h.csub c List.mem_cons_self)
    have hU' : (bump s.status cur upd c.rev (-1)).updated = s.status.updated - 1 := by
      rw [hU, hc]; simp; omega
    simp only [hC, hR, hD, hU']
    have := h.updS hH; omega
  · simp only [hC]; exact h.wmem

theorem trk_hwalk (cur upd : String) (pods : List Pod) (st0 : Status) (hi : Init upd pods st0)
    (s : St) (W : List (Int × Pod)) (t : Int) (q : Pod)
    (h : Trk upd pods st0 s [] W []) (hm : (t, q) ∈ W) (hne : (q.rev != upd) = true) :
    Post upd pods st0
      { acts := s.acts ++ [.delete t q.id .update],
        status := if q.rev == cur then { s.status with current := s.status.current - 1 } else s.status } := by
  have e1 : ∀ st : Status, (if q.rev == cur then { st with current := st.current - 1 } else st).observedGen = st.observedGen := by
    intro st; split_ifs <;> rfl
  have e2 : ∀ st : Status, (if q.rev == cur then { st with current := st.current - 1 } else st).currentRev = st.currentRev := by
    intro st; split_ifs <;> rfl
  have e3 : ∀ st : Status, (if q.rev == cur then { st with current := st.current - 1 } else st).updateRev = st.updateRev := by
    intro st; split_ifs <;> rfl
  have e4 : ∀ st : Status, (if q.rev == cur then { st with current := st.current - 1 } else st).updated = st.updated := by
    intro st; split_ifs <;> rfl
  have e5 : ∀ st : Status, (if q.rev == cur then { st with current := st.current - 1 } else st).replicas = st.replicas := by
    intro st; split_ifs <;> rfl
  have e6 : ∀ st : Status, (if q.rev == cur then { st with current := st.current - 1 } else st).ready = st.ready := by
    intro st; split_ifs <;> rfl
  refine ⟨by simp only [e1]; exact h.gen, by simp only [e2]; exact h.crev, by simp only [e3]; exact h.urev, ?_, ?_⟩
  · intro he; simp at he
  · intro hu hy
    simp only [e4, e5, e6] at hu hy
    obtain ⟨hall, hc0, _⟩ := h.core hi hu hy
    exfalso
    rcases h.wmem (t, q) hm with hq | hq
    · have := countedAt_rev (hall q hq).1
      simp [this] at hne
    · omega

theorem runLoops_post (v : SetView) (cur upd : String) (pods : List Pod) (f : Faults) (p : Prepared)
    (hi : Init upd pods p.st0)
    (hinit : Trk upd pods p.st0 { status := p.st0 } p.reps [] p.condemned.reverse) :
    ∀ s, runLoops v cur upd f p = (s, .ok) → Post upd pods p.st0 s := by
  apply runLoops_induct' v cur upd f p (Trk upd pods p.st0) (Post upd pods p.st0)
  · intro s R W C h; exact h.post hi
  · intro s i q R W C h hfs; exact trk_hA v cur upd pods _ s i q R W C h hfs
  · intro s i q R W C h hfs _; exact trk_hB cur upd pods _ s i q R W C h hfs
  · intro s i q R W C h hfs hc; exact trk_hC upd pods _ s i q R W C h hfs hc
  · intro s i R W C h; exact trk_hU upd pods _ s i R W C h
  · intro s c C W h; exact trk_hskip upd pods _ s c C W h
  · intro s c C W h _ _; exact trk_hdel cur upd pods _ s c C W h
  · intro s W t q h hm hne _ _; exact trk_hwalk cur upd pods _ hi s W t q h hm hne
  · exact hinit

theorem init_st0Of (v : SetView) (cur upd : String) (pods : List Pod) : Init upd pods (st0Of v cur upd pods) := by
  refine ⟨by simp [st0Of, census], ?_, ?_⟩
  · rw [← census_ready cur upd]; rfl
  · have := census_ctr false cur upd pods
    simp only [ctr, revK, Bool.false_eq_true, if_false] at this
    exact this

theorem trk_init (v : SetView) (cur upd : String) (pods : List Pod) (b : Int) (E : List Int) :
    Trk upd pods (st0Of v cur upd pods) { status := st0Of v cur upd pods } (repsOf v cur upd b E pods) []
      (condemnedOf b E pods).reverse := by
  have hi := init_st0Of v cur upd pods
  refine ⟨rfl, rfl, rfl, rfl, fun _ => rfl, by simp, by simp, ?_, by simp, by intro _; simp, ?_, ?_, by simp⟩
  · simp only [nCreate_nil, add_zero, hi.r, hi.y]
    have h := count_split v cur upd b E pods Pod.fs (fun p hp => fs_created hp)
    have h2 : cnt Pod.fs pods ≤ cnt (fun p => !p.runningAndReady) pods := by
      apply cnt_mono
      intro p _ hp
      simp [fs_not_rr hp]
    rw [cnt_compl] at h2
    have := cnt_nonneg Pod.fs (condemnedOf b E pods)
    omega
  · intro c hc; exact (mem_condemnedOf.1 (List.mem_reverse.1 hc)).1
  · intro ip hip
    rcases repsOf_mem hip with ⟨hm, _⟩ | ⟨hn, -⟩
    · exact Or.inl hm
    · right; rw [hn]; exact newPod_created ..

/-- Everything C12 (generation, completion, census) needs about a reconcile that ended `.ok`. -/
theorem updateStatefulSet_post (v : SetView) (cur upd : String) (pods : List Pod) (f : Faults) (s : St)
    (h : updateStatefulSet v cur upd pods f = (s, .ok)) : Post upd pods (st0Of v cur upd pods) s := by
  obtain ⟨r, hr, ⟨_, rfl⟩ | ⟨_, hrun⟩⟩ := updateStatefulSet_ok h
  · exact (trk_init v cur upd pods 0 []).post (init_st0Of v cur upd pods)
  · exact runLoops_post v cur upd pods f (prepOf v cur upd r pods) (init_st0Of v cur upd pods)
      (trk_init v cur upd pods _ _) s hrun

end Asts.L1c
