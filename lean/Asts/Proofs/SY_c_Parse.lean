import Asts.Proofs.LogEntries
import Asts.Proofs.SY_c_Base

/-! # `parseEntry` on the call keys

`parseEntry` reads back verb, resource and name of every key whose name part contains no `':'` (object names are DNS
labels; for arbitrary strings this is the explicit hypothesis `ColonFree`). What `String.splitOn ":"` computes is in
`LogEntries`. -/
namespace Asts.SYc

def ColonFree (n : String) : Prop := ':' ∉ n.toList

instance (n : String) : Decidable (ColonFree n) := by unfold ColonFree; infer_instance

/-- a key `s!"<v>:<r>:{n}"` parses back to `(v, r, n)` -/
theorem parse_key {pre v r : String} (h : SYa.Pre3 pre v r) {n : String} (hn : ColonFree n) :
    parseEntry (toString pre ++ toString n) = { verb := v, res := r, name := n } :=
  SYa.parseEntry_pre3 h n (fun _ hx => beq_eq_false_iff_ne.2 (fun e => hn (e ▸ hx)))

theorem parse_updatestatus : parseEntry "updatestatus" = { verb := "updatestatus", res := "", name := "" } :=
  SYa.parseEntry_updatestatus

theorem parse_kUpdateRev {n : String} (hn : ColonFree n) :
    parseEntry (kUpdateRev n) = { verb := "update", res := "rev", name := n } :=
  parse_key SYa.pre_update_rev hn

theorem parse_kGetRev {n : String} (hn : ColonFree n) :
    parseEntry (kGetRev n) = { verb := "get", res := "rev", name := n } :=
  parse_key SYa.pre_get_rev hn

theorem parse_kPatchRev {n : String} (hn : ColonFree n) :
    parseEntry (kPatchRev n) = { verb := "patch", res := "rev", name := n } :=
  parse_key SYa.pre_patch_rev hn

theorem parse_kCreateRev {n : String} (hn : ColonFree n) :
    parseEntry (kCreateRev n) = { verb := "create", res := "rev", name := n } :=
  parse_key SYa.pre_create_rev hn

theorem parse_kDeleteRev {n : String} (hn : ColonFree n) :
    parseEntry (kDeleteRev n) = { verb := "delete", res := "rev", name := n } :=
  parse_key SYa.pre_delete_rev hn

theorem parse_kPatchPod {n : String} (hn : ColonFree n) :
    parseEntry (kPatchPod n) = { verb := "patch", res := "pod", name := n } :=
  parse_key SYa.pre_patch_pod hn

theorem parse_kCreatePod {n : String} (hn : ColonFree n) :
    parseEntry (kCreatePod n) = { verb := "create", res := "pod", name := n } :=
  parse_key SYa.pre_create_pod hn

theorem parse_kDeletePod {n : String} (hn : ColonFree n) :
    parseEntry (kDeletePod n) = { verb := "delete", res := "pod", name := n } :=
  parse_key SYa.pre_delete_pod hn

theorem parse_kUpdatePod {n : String} (hn : ColonFree n) :
    parseEntry (kUpdatePod n) = { verb := "update", res := "pod", name := n } :=
  parse_key SYa.pre_update_pod hn

theorem parse_listRevs : parseEntry "list:revs" = { verb := "list", res := "revs", name := "" } :=
  SYa.parseEntry_list_revs

theorem parse_getSet : parseEntry "get:set" = { verb := "get", res := "set", name := "" } :=
  SYa.parseEntry_get_set

end Asts.SYc
