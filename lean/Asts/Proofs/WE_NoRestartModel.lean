import Mathlib.Tactic
import Asts.Proofs.WE_NoRestartPods

/-! # WE — the monitor `C08noRestart` is true on the model's histories

Hypotheses: hash labels never parse as numbers (`hnum`; the real labels are ten characters of a vowel-free alphabet and
parse only when all ten are digits), the stored revisions have distinct names and are all visible to the set (selector labels
or upgrade marker, not controlled by somebody else), and no world of the history holds more than `freshId` pod objects. -/
namespace Asts.WE
open Asts Asts.SYb

section
variable (h : Hashing) (script : Script) (plan : List Fault) (i : SyncIn)

/-- the world before the edits of round `k` -/
abbrev wBefore (k : Nat) : SyncIn := worldFrom h script 1 plan i k

theorem wAt_eq (k : Nat) : wAt h script plan i k = applyEdits (editsAt script (1 + k)) (wBefore h script plan i k) := rfl

theorem wBefore_succ (k : Nat) : wBefore h script plan i (k + 1) = (round h (wAt h script plan i k) (planAt plan k)).1 := rfl

theorem wAt_allVis (hv : AllVis i.store) : ∀ k, AllVis (wAt h script plan i k).store
  | 0 => by rw [wAt_zero, (applyEdits_frame _ _).store]; exact hv
  | k + 1 => by
    rw [wAt_succ, (applyEdits_frame _ _).store, round_store]
    exact sync_allVis h (settle (wAt h script plan i k)) _ (wAt_allVis hv k)

theorem keeps_of_not_any {es : List Edit} (hes : es.any Edit.isTemplate = false) : ∀ e ∈ es, keepsTemplate e = true := by
  intro e he
  rw [List.any_eq_false] at hes
  have := hes e he
  unfold keepsTemplate
  simpa using this

/-- once a successful reconcile of the un-paused set (round `j`) has seen the template, the invariant holds before every
    later round, as long as no template edit intervenes -/
theorem inv_from (hnum : ∀ d c, h.hashNumOf d c = none) (hn : (i.store.map (·.name)).Nodup) (hv : AllVis i.store)
    (j : Nat) (hok : (histRoundAt h script 1 plan i j).obs.out = "ok")
    (hrun : ((wAt h script plan i j).paused || !(wAt h script plan i j).selectorOk) = false) :
    ∀ d, (∀ x, j < x → x < j + 1 + d → (histRoundAt h script 1 plan i x).edits.any Edit.isTemplate = false) →
      Inv (wBefore h script plan i (j + 1 + d))
  | 0, _ => by
    show Inv (round h (wAt h script plan i j) (planAt plan j)).1
    exact inv_established hnum _ _ (wAt_nodup h script plan i hn j) (wAt_allVis h script plan i hv j) hrun hok
  | d + 1, hno => by
    have ih := inv_from hnum hn hv j hok hrun d (fun x h1 h2 => hno x h1 (by omega))
    have hes := hno (j + 1 + d) (by omega) (by omega)
    show Inv (round h (applyEdits (editsAt script (1 + (j + 1 + d))) (wBefore h script plan i (j + 1 + d))) _).1
    exact inv_preserved hnum _ _ _ (keeps_of_not_any hes) ih

end

theorem mem_take_drop {α} (L : List α) (j k m : Nat) (x : α) (hx : L[m]? = some x) (h1 : j + 1 ≤ m) (h2 : m ≤ k) :
    x ∈ (L.take (k + 1)).drop (j + 1) := by
  rw [List.mem_iff_getElem?]
  refine ⟨m - (j + 1), ?_⟩
  rw [List.getElem?_drop, List.getElem?_take]
  have : j + 1 + (m - (j + 1)) = m := by omega
  rw [this, if_pos (by omega)]
  exact hx

theorem templateSeen_spec (i0 : SyncIn) (rs : List HRound) (k : Nat) (hts : templateSeen i0 rs k = true) :
    ∃ j, j < k ∧ (∃ r, rs[j]? = some r ∧ r.obs.out = "ok" ∧ (specAt i0 rs j).paused = false) ∧
      ∀ m x, rs[m]? = some x → j + 1 ≤ m → m ≤ k → x.edits.any Edit.isTemplate = false := by
  unfold templateSeen at hts
  rw [List.any_eq_true] at hts
  obtain ⟨j, hj, hcond⟩ := hts
  rw [List.mem_range] at hj
  rw [Bool.and_eq_true] at hcond
  obtain ⟨h1, h2⟩ := hcond
  refine ⟨j, hj, ?_, ?_⟩
  · cases hr : rs[j]? with
    | none => rw [hr] at h1; simp at h1
    | some r =>
      rw [hr] at h1
      simp only [Bool.and_eq_true, beq_iff_eq, Bool.not_eq_true'] at h1
      exact ⟨r, rfl, h1.1, h1.2⟩
  · intro m x hx hm1 hm2
    rw [List.all_eq_true] at h2
    have := h2 x (mem_take_drop rs j k m x hx hm1 hm2)
    simpa using this

/-- **`C08noRestart`, the monitor, is true on the model** -/
theorem C08noRestart_model (h : Hashing) (script : Script) (fuel : Nat) (i : SyncIn) (plan : List Fault)
    (hnum : ∀ d c, h.hashNumOf d c = none) (hn : (i.store.map (·.name)).Nodup) (hv : AllVis i.store)
    (hsize : ∀ k, (worldFrom h script 1 plan i k).pods.length ≤ freshId) :
    C08noRestart i (observeHist (runHistory h script fuel 1 0 i plan)) = true := by
  unfold C08noRestart
  rw [List.all_eq_true]
  intro k hk
  rw [List.mem_range, observeHist_length] at hk
  have hget := observe_get h script plan i fuel
  cases k with
  | zero => rw [hget 0 hk]; simp
  | succ k =>
    rw [hget (k + 1) hk]
    simp only [Nat.add_sub_cancel, hget k (by omega)]
    apply or_of_imp
    intro hX
    simp only [Bool.or_eq_false_iff] at hX
    obtain ⟨⟨⟨_, hedit⟩, hsel⟩, hseen⟩ := hX
    have hsel' : i.selectorOk = true := by simpa using hsel
    have hseen' : templateSeen i (observeHist (runHistory h script fuel 1 0 i plan)) (k + 1) = true := by simpa using hseen
    obtain ⟨j, hj, ⟨r, hr, hrok, hrp⟩, hno⟩ := templateSeen_spec _ _ _ hseen'
    rw [hget j (by omega)] at hr
    have hr' : r = obs1 (histRoundAt h script 1 plan i j) := (Option.some.inj hr).symm
    have hokj : (histRoundAt h script 1 plan i j).obs.out = "ok" := by rw [hr'] at hrok; exact hrok
    have hpj : (wAt h script plan i j).paused = false := by
      rw [← (specAt_hist h script plan i fuel j (by omega)).1.1]; exact hrp
    have hrunj : ((wAt h script plan i j).paused || !(wAt h script plan i j).selectorOk) = false := by
      rw [hpj, (wAt_sameFrame h script plan i j).selectorOk, hsel']; rfl
    have hnoT : ∀ x, j < x → x ≤ k + 1 → (histRoundAt h script 1 plan i x).edits.any Edit.isTemplate = false := by
      intro x hx1 hx2
      exact hno x _ (hget x (by omega)) (by omega) hx2
    -- the invariant before round k+1
    obtain ⟨d, hd⟩ : ∃ d, k + 1 = j + 1 + d := ⟨k - j, by omega⟩
    have hI : Inv (wBefore h script plan i (k + 1)) := by
      rw [hd]
      exact inv_from h script plan i hnum hn hv j hokj hrunj d (fun x h1 h2 => hnoT x h1 (by omega))
    have hes : ∀ e ∈ editsAt script (1 + (k + 1)), keepsTemplate e = true := keeps_of_not_any (hnoT (k + 1) (by omega) (le_refl _))
    obtain ⟨hcore, _⟩ := specAt_hist h script plan i fuel (k + 1) hk
    obtain ⟨_, _, hrep, hslots, _⟩ := hcore
    simp only [obs1]
    rw [Bool.and_eq_true]
    refine ⟨?_, ?_⟩
    · -- status half
      rw [Bool.or_eq_true]
      right
      have := norestart_status_step h (wBefore h script plan i (k + 1)) (editsAt script (1 + (k + 1))) (planAt plan (k + 1)) hes
        (inv_pinned hnum hI _)
      simp only [beq_iff_eq]
      exact this
    · -- pods half
      rw [List.all_eq_true]
      intro c hc
      rw [Bool.or_eq_true]
      by_cases hcond : (c.owner == .self && c.selMatch && !c.pod.terminating && !c.pod.failed && !c.pod.succeeded &&
          c.pod.rev == (histRoundAt h script 1 plan i k).obs.status.updateRev &&
          (desired ((specAt i (observeHist (runHistory h script fuel 1 0 i plan)) (k + 1)).replicas.getD 0)
            (specAt i (observeHist (runHistory h script fuel 1 0 i plan)) (k + 1)).slots).contains c.pod.ord &&
          c.name == canonicalName i.setName c.pod.ord) = true
      · right
        simp only [Bool.and_eq_true, beq_iff_eq, Bool.not_eq_true', List.contains_iff_mem] at hcond
        obtain ⟨⟨⟨⟨⟨⟨⟨_, _⟩, hterm⟩, hf⟩, hs⟩, hrev⟩, hD⟩, _⟩ := hcond
        rw [hrep, hslots] at hD
        obtain ⟨q, hq, hqn, hqt⟩ := norestart_pods_step hnum (wBefore h script plan i (k + 1)) (editsAt script (1 + (k + 1)))
          (planAt plan (k + 1)) hes hI (hsize (k + 1)) c hc hterm hf hs hrev hD
        rw [List.any_eq_true]
        exact ⟨q, hq, by simp [hqn, hqt]⟩
      · left
        rw [Bool.not_eq_true']
        exact Bool.eq_false_iff.mpr hcond

end Asts.WE
