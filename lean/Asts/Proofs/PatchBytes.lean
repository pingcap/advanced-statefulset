import Asts.Proofs.Patch
import Asts.Proofs.JsonLex
/-! # Byte-level corollary: `getPatchBytes` on serialised trees -/
namespace Asts.Patch

theorem getPatchBytes_ser (enc : Json) : getPatchBytes goEscape (ser goEscape enc) = (getPatch (canon enc)).map (ser goEscape) := by
  simp [getPatchBytes, parse_ser]

end Asts.Patch
