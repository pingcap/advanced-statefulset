import Asts.Proofs.L1_a_Readings
import Mathlib.Tactic

namespace Asts
open List

theorem created_of_wf {pods : List Pod} (h : wfSnapshot pods = true) : pods.all Pod.created = true := by
  unfold wfSnapshot at h
  rw [Bool.and_eq_true] at h
  exact h.1

theorem creates_only_desired_prop (v : SetView) (cur upd : String) (pods : List Pod) (f : Faults) {o : Int} {rev : String}
    (h : Action.create o rev ∈ (updateStatefulSet v cur upd pods f).1.acts) : o ∈ desired (replicasOf v) v.slots :=
  (uss_seg v cur upd pods f).create_mem h

/-- every desired ordinal is below `r + |slots|`: the scan starts at 0, needs `r` hits and can lose a step only on a slot -/
theorem desired_lt_bound (r : Int) (S : List Int) (h0 : 0 ≤ r) : ∀ o ∈ desired r S, o < r + S.length := by
  intro o ho
  have h1 := desiredAux_lt o ho
  have h2 := List.length_filter_le (fun s => decide ((0 : Int) ≤ s)) S
  omega

end Asts
