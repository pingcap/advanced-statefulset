import Mathlib.Tactic
import Asts.Proofs.WE_Converge
import Asts.Proofs.WE_Lossless

/-! # WE — the monitor `C02afterEdits` on the model's histories -/
namespace Asts.WE
open Asts Asts.C02p

theorem viewInStep_applyEdits (es : List Edit) {w : SyncIn} (hv : ViewInStep w) : ViewInStep (applyEdits es w) := by
  unfold ViewInStep
  rw [(applyEdits_frame es w).current, (applyEdits_frame es w).stored]
  exact hv

section
variable (h : Hashing) (script : Script) (plan : List Fault) (i : SyncIn)

/-- the world the monitor reconstructs from the observation at a round with edits is the model's world of that round -/
theorem worldAtEdit_eq (fuel k : Nat) (hk : k + 1 < (runHistory h script fuel 1 0 i plan).length)
    (hed : (histRoundAt h script 1 plan i (k + 1)).edits.isEmpty = false) :
    worldAtEdit i (observeHist (runHistory h script fuel 1 0 i plan)) (k + 1) = wAt h script plan i (k + 1) := by
  unfold worldAtEdit
  simp only [Nat.add_sub_cancel]
  rw [observe_get h script plan i fuel k (by omega), (specAt_hist h script plan i fuel (k + 1) hk).2 hed]
  simp only [obs1]
  obtain ⟨f1, f2, f3, f4, f5, f6⟩ := wAt_sameFrame h script plan i (k + 1)
  have hst : (wAt h script plan i (k + 1)).stored = (histRoundAt h script 1 plan i k).obs.status := wAt_stored_succ h script plan i k
  have hsto : (wAt h script plan i (k + 1)).store = (histRoundAt h script 1 plan i k).obs.revs := wAt_store_succ h script plan i k
  have hpods : (wAt h script plan i (k + 1)).pods = (histRoundAt h script 1 plan i k).obs.pods := by
    rw [wAt_succ, (applyEdits_frame _ _).pods]; rfl
  have hvis : ViewInStep (wAt h script plan i (k + 1)) := by
    rw [wAt_succ]; exact viewInStep_applyEdits _ (round_viewInStep h _ _)
  have hfresh : (wAt h script plan i (k + 1)).fresh = { gone := false, uidOk := true, deleting := i.view.deleting } := by
    rw [wAt_succ, (applyEdits_frame _ _).fresh]
    show ({ gone := false, uidOk := true, deleting := (wAt h script plan i k).view.deleting } : Fresh) = _
    rw [(wAt_sameFrame h script plan i k).deleting]
  unfold withObs withSpec specOfWorld
  simp only
  unfold ViewInStep at hvis
  rw [← hst, ← hsto, ← hpods, ← hvis, ← f1, ← f2, ← f3, ← f4, ← f5, ← hfresh, ← f6]

end

theorem lastEditIdx_none (rs : List HRound) (hall : ∀ r ∈ rs, r.edits.isEmpty = true) : lastEditIdx rs = none := by
  unfold lastEditIdx
  have : (rs.zipIdx).filter (fun (x : HRound × Nat) => !x.1.edits.isEmpty) = [] := by
    rw [List.filter_eq_nil_iff]
    intro x hx
    have := hall x.1 (List.fst_mem_of_mem_zipIdx (by obtain ⟨a, b⟩ := x; exact hx))
    simp [this]
  rw [this]; rfl

theorem lastEditIdx_eq (rs : List HRound) (k : Nat) (r : HRound) (hk : rs[k]? = some r) (hne : r.edits.isEmpty = false)
    (hafter : ∀ n x, k < n → rs[n]? = some x → x.edits.isEmpty = true) : lastEditIdx rs = some k := by
  have hklt : k < rs.length := by
    by_contra hge
    rw [List.getElem?_eq_none (by omega)] at hk; simp at hk
  have hsplit : rs = rs.take k ++ r :: rs.drop (k + 1) := by
    have h1 : rs.drop k = r :: rs.drop (k + 1) := by
      rw [List.drop_eq_getElem_cons hklt]
      congr 1
      have := List.getElem?_eq_getElem hklt
      rw [this] at hk; exact Option.some.inj hk
    rw [← h1, List.take_append_drop]
  unfold lastEditIdx
  rw [hsplit, List.zipIdx_append, List.zipIdx_cons, List.filter_append, List.filter_cons]
  have htl : ((rs.drop (k + 1)).zipIdx (0 + (rs.take k).length + 1)).filter (fun (x : HRound × Nat) => !x.1.edits.isEmpty) = [] := by
    rw [List.filter_eq_nil_iff]
    intro x hx
    have hmem : x.1 ∈ rs.drop (k + 1) := List.fst_mem_of_mem_zipIdx (by obtain ⟨a, b⟩ := x; exact hx)
    obtain ⟨n, hn⟩ := List.mem_iff_getElem?.mp hmem
    rw [List.getElem?_drop] at hn
    have := hafter (k + 1 + n) x.1 (by omega) hn
    simp [this]
  rw [htl]
  simp only [hne, Bool.not_false, if_true, List.append_nil, List.map_append, List.map_cons, List.map_nil]
  rw [List.getLast?_append]
  simp
  omega

end Asts.WE

namespace Asts.WE
open Asts Asts.C02p Asts.GL

theorem exists_of_editsAt {script : Script} {j : Nat} (hne : (editsAt script j).isEmpty = false) : ∃ e ∈ script, e.1 = j := by
  unfold editsAt at hne
  cases hf : script.filter (·.1 == j) with
  | nil => rw [hf] at hne; simp at hne
  | cons e rest =>
    have : e ∈ script.filter (·.1 == j) := by rw [hf]; exact List.mem_cons_self
    rw [List.mem_filter] at this
    exact ⟨e, this.1, by simpa using this.2⟩

/-- **`C02afterEdits`, the monitor, is true on the model — histories with edits**: the last edits of the script are made
    before round `k + 2`; the world `W` they produce, settled, converges within its bound (what `C02_converges` gives from
    `wfWorld` and `extraMB`); the budget covers `k + 1` rounds plus that bound plus 2; pod names are distinct in the settled
    form of `W` and of every world of the run from it -/
theorem C02afterEdits_model_edits (h : Hashing) (script : Script) (fuel : Nat) (i : SyncIn) (plan : List Fault) (k : Nat)
    (hlast : ∀ e ∈ script, e.1 ≤ k + 2) (hed : (editsAt script (k + 2)).isEmpty = false)
    (hnW : ((settle (wAt h script plan i (k + 1))).pods.map (·.name)).Nodup)
    (hnod : ∀ n, ((settle (roundsN h n (settle (wAt h script plan i (k + 1))))).pods.map (·.name)).Nodup)
    (hconv : ∃ n ≤ roundBound (settle (wAt h script plan i (k + 1))), Final h (roundsN h n (settle (wAt h script plan i (k + 1)))))
    (hfuel : k + 1 + roundBound (settle (wAt h script plan i (k + 1))) + 2 ≤ fuel) :
    C02afterEdits h i (observeHist (runHistory h script fuel 1 0 i plan)) = true := by
  have e12 : 1 + (k + 1) = k + 2 := by omega
  have hedT : (histRoundAt h script 1 plan i (k + 1)).edits.isEmpty = false := by
    show (editsAt script (1 + (k + 1))).isEmpty = false
    rw [e12]; exact hed
  -- the history: k+1 rounds, then the plain run of W
  obtain ⟨e0, he0, he0j⟩ := exists_of_editsAt hed
  obtain ⟨c', hc'⟩ := runHistory_unroll h script 1 i plan (k + 1) fuel 0 (by omega) (fun m hm => by
    unfold pendingAfter
    rw [List.any_eq_true]
    exact ⟨e0, he0, by simp only [decide_eq_true_eq]; omega⟩)
  have htail : (runHistory h script (fuel - (k + 1)) (1 + (k + 1)) c' (worldFrom h script 1 plan i (k + 1)) (planAt plan (k + 1))).map (·.obs) =
      runRounds h (fuel - (k + 1)) 0 (wAt h script plan i (k + 1)) [] := by
    rw [runHistory_last h script _ _ _ _ _ (fun e he => by rw [e12]; exact hlast e he), planAt_succ]
    have : (editsAt script (1 + (k + 1))).isEmpty = false := by rw [e12]; exact hed
    rw [this]; rfl
  obtain ⟨g, hg⟩ : ∃ g, fuel - (k + 1) = g + 1 := ⟨fuel - (k + 2), by omega⟩
  have htlen : 1 ≤ (runHistory h script (fuel - (k + 1)) (1 + (k + 1)) c' (worldFrom h script 1 plan i (k + 1)) (planAt plan (k + 1))).length := by
    have := congrArg List.length htail
    rw [List.length_map] at this
    rw [this, hg]; exact List.length_pos_iff.mpr (runRounds_ne_nil h g 0 _ [])
  have hlen : k + 1 < (runHistory h script fuel 1 0 i plan).length := by
    rw [hc', List.length_append, List.length_map, List.length_range]; omega
  -- the last round with edits
  have hget := observe_get h script plan i fuel
  have hidx : lastEditIdx (observeHist (runHistory h script fuel 1 0 i plan)) = some (k + 1) := by
    apply lastEditIdx_eq _ (k + 1) _ (hget (k + 1) hlen) hedT
    intro n x hn hx
    have hnlt : n < (runHistory h script fuel 1 0 i plan).length := by
      by_contra hge
      rw [List.getElem?_eq_none (by rw [observeHist_length]; omega)] at hx; simp at hx
    rw [hget n hnlt] at hx
    have : x = obs1 (histRoundAt h script 1 plan i n) := (Option.some.inj hx).symm
    rw [this]
    show (editsAt script (1 + n)).isEmpty = true
    rw [editsAt_past script (1 + n) (fun e he => by have := hlast e he; omega)]; rfl
  unfold C02afterEdits
  rw [hidx]
  simp only [Nat.add_eq_zero_iff, one_ne_zero, and_false, beq_iff_eq, Bool.false_or]
  rw [worldAtEdit_eq h script plan i fuel k hlen hedT]
  -- the observations from round k+1 on
  have hdrop : ((observeHist (runHistory h script fuel 1 0 i plan)).drop (k + 1)).map (·.obs) =
      runRounds h (fuel - (k + 1)) 0 (wAt h script plan i (k + 1)) [] := by
    rw [List.map_drop, observeHist_obs, hc', List.map_append, List.drop_left' (by simp), htail]
  rw [hdrop, ← runRounds_settle h _ 0 _ hnW]
  exact C02converges_run h (settle (wAt h script plan i (k + 1))) (fuel - (k + 1)) hnod hconv (by omega)

/-- **… and histories without edits** (empty script, empty fault plan): the clause of the world engine -/
theorem C02afterEdits_model_noedits (h : Hashing) (fuel : Nat) (i : SyncIn)
    (hnod : ∀ n, ((settle (roundsN h n i)).pods.map (·.name)).Nodup)
    (hconv : ∃ n ≤ roundBound i, Final h (roundsN h n i)) (hfuel : roundBound i + 2 ≤ fuel) :
    C02afterEdits h i (observeHist (runHistory h [] fuel 1 0 i [])) = true := by
  unfold C02afterEdits
  rw [lastEditIdx_none _ (by
    intro r hr
    rw [observeHist_eq] at hr
    obtain ⟨x, hx, rfl⟩ := List.mem_map.mp hr
    obtain ⟨n, hn⟩ := List.mem_iff_getElem?.mp hx
    rw [hist_get h [] [] i fuel n x hn]; rfl)]
  simp only
  rw [observeHist_obs, runHistory_nil]
  exact C02converges_run h i fuel hnod hconv hfuel

end Asts.WE
