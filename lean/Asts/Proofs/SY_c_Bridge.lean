import Asts.Proofs.SY_c_Sync
import Asts.Proofs.SY_c_Parse

/-! # C09 (i): from the event-level statement to the monitor `C09reported` -/
namespace Asts.SYc

/-! ### `annotate` recomputes `events` -/

theorem annotate_go_events (plan : List Fault) :
    ∀ (l seen pre : List String) (idx : Nat), (∀ e, (seen.filter (· == e)).length = cnt pre e) →
      (annotate.go plan seen idx l).map (fun x => (x.1, x.2.2)) =
        (eventsFrom plan pre l).map (fun ev => (parseEntry ev.1, ev.2))
  | [], _, _, _, _ => rfl
  | e :: l, seen, pre, idx, hs => by
    simp only [annotate.go, eventsFrom, List.map_cons]
    congr 1
    · rw [hs e]; rfl
    · apply annotate_go_events plan l (e :: seen) (pre ++ [e]) (idx + 1)
      intro e'
      rw [cnt_append, ← hs e', List.filter_cons]
      by_cases h : (e == e') = true
      · simp [h, cnt]
      · simp [h, cnt]

theorem annotate_events (plan : List Fault) (log : List String) :
    (annotate plan log).map (fun x => (x.1, x.2.2)) = (events plan log).map (fun ev => (parseEntry ev.1, ev.2)) :=
  annotate_go_events plan log [] [] 0 (by intro e; rfl)

theorem mem_zip_prev_aux {α} : ∀ (l : List α) (q : Option α) (x : α) (p : Option α),
    (x, p) ∈ l.zip (q :: l.map some) →
      ∃ pre post, l = pre ++ x :: post ∧ p = (if pre = [] then q else pre.getLast?)
  | [], _, _, _, h => by simp at h
  | a :: l, q, x, p, h => by
    simp only [List.map_cons, List.zip_cons_cons, List.mem_cons, Prod.mk.injEq] at h
    rcases h with ⟨rfl, rfl⟩ | h
    · exact ⟨[], l, rfl, by simp⟩
    · obtain ⟨pre, post, e, hp⟩ := mem_zip_prev_aux l (some a) x p h
      refine ⟨a :: pre, post, by rw [e]; rfl, ?_⟩
      rw [hp]
      cases pre with
      | nil => simp
      | cons b pre => simp [List.getLast?_cons_cons]

theorem mem_zip_prev {α} (l : List α) (x : α) (p : Option α) (h : (x, p) ∈ l.zip (none :: l.map some)) :
    ∃ pre post, l = pre ++ x :: post ∧ p = pre.getLast? := by
  obtain ⟨pre, post, e, hp⟩ := mem_zip_prev_aux l none x p h
  refine ⟨pre, post, e, ?_⟩
  rw [hp]
  split_ifs with h
  · rw [h]; rfl
  · rfl

/-- the per-entry check of `C09reported` -/
def benignB (i : SyncIn) (e : Entry) (k : Option ErrKind) (prev : Option (Entry × Nat × Option ErrKind)) : Bool :=
  match k with
  | none => true
  | some kind =>
    (kind == .conflict && (e.verb == "updatestatus" || (e.verb == "update" && (e.res == "rev" || e.res == "pod")))) ||
    (kind == .notFound && e.verb == "patch" && e.res == "pod") ||
    (kind == .invalid && e.verb == "patch" && e.res == "pod" && (i.pods.find? (·.name == e.name)).any (fun c => c.owner == .self)) ||
    (kind == .alreadyExists && e.verb == "create" && e.res == "rev") ||
    (e.verb == "get" && e.res == "rev" && (match prev with | some (p, _, pk) => p.verb == "update" && p.res == "rev" && p.name == e.name && pk.isSome | none => false))

theorem C09reported_eq (i : SyncIn) (plan : List Fault) (o : SyncObs) :
    C09reported i plan o =
      if o.out != "ok" then true else
      ((annotate plan o.log).zip (none :: (annotate plan o.log).map some)).all
        (fun x => benignB i x.1.1 x.1.2.2 x.2) := rfl

/-- what is assumed about object names: no `':'` (so that the keys parse back), and the pods of the snapshot have
    pairwise different names (so that a key identifies its pod) -/
structure NamesOk (h : Hashing) (i : SyncIn) : Prop where
  pods   : ∀ c ∈ i.pods, ColonFree c.name
  nodup  : (i.pods.map (·.name)).Nodup
  store  : ∀ r ∈ i.store, ColonFree r.name
  hash   : ∀ d c, ColonFree (h.nameOf d c)

/-- the context of the headline: nothing exempt, names certified colon-free -/
def cx0 (i : SyncIn) : Cx := { pods := i.pods, exempt := fun _ => False, nameOk := ColonFree }

theorem benignB_of_benign (i : SyncIn) (hnd : (i.pods.map (·.name)).Nodup)
    (prevE : Option Ev) (ev : Ev) (hb : Benign (cx0 i) prevE ev)
    (prev : Option (Entry × Nat × Option ErrKind))
    (hprev : prev.map (fun x => (x.1, x.2.2)) = prevE.map (fun ev => (parseEntry ev.1, ev.2))) :
    benignB i (parseEntry ev.1) ev.2 prev = true := by
  obtain ⟨key, k⟩ := ev
  cases k with
  | none => rfl
  | some kind =>
    rcases hb kind rfl with hx | ⟨rfl, h⟩ | ⟨rfl, n, hn, rfl⟩ | ⟨rfl, c, hc, ho, hn, rfl⟩ | ⟨rfl, n, hn, rfl⟩ |
      ⟨n, pk, hn, rfl, hp⟩
    · exact absurd hx (by simp [cx0])
    -- once the key is parsed back, the check is a computation on string literals
    · rcases h with rfl | ⟨n, hn, rfl⟩ | ⟨n, hn, rfl⟩
      · rw [parse_updatestatus]
        rfl
      · rw [parse_kUpdateRev hn]
        rfl
      · rw [parse_kUpdatePod hn]
        rfl
    · rw [parse_kPatchPod hn]
      rfl
    · have hf := SYa.find_by_name hnd hc
      simp only [benignB, parse_kPatchPod hn, hf, ho, Option.any_some, BEq.rfl, Bool.and_self, Bool.or_true, Bool.true_or]
    · rw [parse_kCreateRev hn]
      rfl
    · rw [hp] at hprev
      cases prev with
      | none => simp at hprev
      | some p =>
        obtain ⟨pe, pidx, pk'⟩ := p
        simp only [Option.map_some, Option.some.injEq, Prod.mk.injEq] at hprev
        obtain ⟨h1, h2⟩ := hprev
        subst h1; subst h2
        simp [benignB, parse_kGetRev hn, parse_kUpdateRev hn]

theorem C09reported_of_benign (i : SyncIn) (plan : List Fault) (o : SyncObs)
    (hnd : (i.pods.map (·.name)).Nodup) (hb : BenignFrom (cx0 i) plan 0 o.log) :
    C09reported i plan o = true := by
  rw [C09reported_eq]
  split_ifs with hout
  · rfl
  · rw [List.all_eq_true]
    rintro ⟨x, prev⟩ hx
    obtain ⟨pre, post, e, hp⟩ := mem_zip_prev _ x prev hx
    have hmap := annotate_events plan o.log
    rw [e, List.map_append, List.map_cons] at hmap
    obtain ⟨pre', rest', he', hpre', hrest'⟩ := List.map_eq_append_iff.1 hmap.symm
    obtain ⟨ev, post', hrest'', hev, _⟩ := List.map_eq_cons_iff.1 hrest'
    subst hrest''
    have hben := hb pre' ev post' he' (Nat.zero_le _)
    have hprev : prev.map (fun x => (x.1, x.2.2)) = pre'.getLast?.map (fun ev => (parseEntry ev.1, ev.2)) := by
      rw [hp, ← List.getLast?_map, ← List.getLast?_map, hpre']
    have := benignB_of_benign i hnd pre'.getLast? ev hben prev hprev
    simp only [Prod.mk.injEq] at hev
    simp only
    rw [← hev.1, ← hev.2]
    exact this

theorem observe_out_ok (o : SyncOut) : (o.observe.out != "ok") = true ↔ o.outcome ≠ .ok := by
  unfold SyncOut.observe
  cases o.outcome <;> simp

end Asts.SYc
