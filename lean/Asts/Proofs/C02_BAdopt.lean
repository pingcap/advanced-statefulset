import Asts.Proofs.C02_BSort
import Asts.Proofs.SY_b_Log
import Asts.Proofs.C02_BDefs

/-! C02, normalising rounds: the adoption stage of the sync under the empty fault plan, exactly. -/
namespace Asts.C02p
open Asts

theorem foldOk_pure {α : Type} (g : List Rev → α → List Rev) (lg : α → List String) (f : RevSt → α → RevSt × Bool)
    (hf : ∀ s x, f s x = ({ store := g s.store x, tr := { log := s.tr.log ++ lg x } }, true)) (xs : List α) (s : RevSt) :
    foldOk xs s f = ({ store := xs.foldl g s.store, tr := { log := s.tr.log ++ (xs.map lg).flatten } }, true) := by
  unfold foldOk
  induction xs generalizing s with
  | nil => simp
  | cons x xs ih =>
    rw [List.foldl_cons]
    have e : (if ((s, true) : RevSt × Bool).2 = true then f ((s, true) : RevSt × Bool).1 x else (s, true)) = f s x := by simp
    rw [e, hf s x, ih]
    simp

def selAll (N : List String) (x : Rev) : Rev := if N.contains x.name then { x with selMatch := true } else x
def ownAll (N : List String) (x : Rev) : Rev := if N.contains x.name then { x with owner := .self } else x

theorem labelStep_nil (s : RevSt) (r : Rev) :
    SYa.labelStep [] s r = ({ store := (if r.marker then s.store.map (SYa.setSel r.name) else s.store),
                              tr := { log := s.tr.log ++ (if r.marker then [s!"update:rev:{r.name}"] else []) } }, true) := by
  unfold SYa.labelStep
  by_cases hm : r.marker = true
  · simp only [hm, if_true, call_nil]
  · simp [hm]

theorem patchStep_nil (s : RevSt) (r : Rev) :
    SYa.patchStep [] s r = ({ store := (if r.owner != .none then s.store else s.store.map (SYa.setOwn r.name)),
                              tr := { log := s.tr.log ++ (if r.owner != .none then [] else [s!"patch:rev:{r.name}"]) } }, true) := by
  unfold SYa.patchStep
  by_cases hm : (r.owner != .none) = true
  · simp [hm]
  · simp only [hm, if_false, call_nil]; rfl

theorem selAll_eq : selAll = SYb.selAll := rfl
theorem ownAll_eq : ownAll = SYb.ownAll := rfl

theorem foldl_label (revs : List Rev) (S : List Rev) :
    revs.foldl (fun S r => if r.marker then S.map (SYa.setSel r.name) else S) S =
      S.map (selAll ((revs.filter (·.marker)).map (·.name))) := by
  induction revs generalizing S with
  | nil => simp [selAll_eq, SYb.selAll_nil]
  | cons r rs ih =>
    rw [List.foldl_cons, ih]
    by_cases hm : r.marker = true
    · simp only [hm, if_true, List.filter_cons_of_pos, List.map_cons, List.map_map]
      apply List.map_congr_left
      intro x _
      exact SYb.selAll_cons r.name _ x
    · simp [hm]

theorem foldl_own (revs : List Rev) (S : List Rev) :
    revs.foldl (fun S r => if r.owner != .none then S else S.map (SYa.setOwn r.name)) S =
      S.map (ownAll ((revs.filter (·.owner == .none)).map (·.name))) := by
  induction revs generalizing S with
  | nil => simp [ownAll_eq, SYb.ownAll_nil]
  | cons r rs ih =>
    rw [List.foldl_cons, ih]
    by_cases hm : r.owner = .none
    · simp only [hm, bne_self_eq_false, Bool.false_eq_true, if_false, beq_self_eq_true, List.filter_cons_of_pos,
        List.map_cons, List.map_map]
      apply List.map_congr_left
      intro x _
      exact SYb.ownAll_cons r.name _ x
    · have h1 : (r.owner != Owner.none) = true := by simpa using hm
      have h2 : (r.owner == Owner.none) = false := by simpa using hm
      simp [h1, h2]

/-- the store after the adoption stage -/
def adoptS (S : List Rev) : List Rev :=
  if (listRevisions S).any (·.owner == .none) then
    (S.map (selAll (((listRevisions S).filter (·.marker)).map (·.name)))).map
      (ownAll (((listRevisions S).filter (·.owner == .none)).map (·.name)))
  else S

/-- **the adoption stage under the empty fault plan**, for a set the uncached GET confirms -/
theorem adopt_nil (fresh : Fresh) (hg : fresh.gone = false) (hu : fresh.uidOk = true) (hd : fresh.deleting = false)
    (S : List Rev) (l0 : List String) :
    ∃ lg, (∀ e ∈ lg, NoPatch e) ∧
      adoptOrphanRevisionsF [] false fresh { store := S, tr := { log := l0 } } =
        ({ store := adoptS S, tr := { log := l0 ++ lg } }, .ok) := by
  obtain ⟨lg, heq⟩ : ∃ lg, adoptOrphanRevisionsF [] false fresh { store := S, tr := { log := l0 } } =
      ({ store := adoptS S, tr := { log := l0 ++ lg } }, .ok) := by
    rw [SYa.adoptF_eq]
    simp only [Bool.false_eq_true, if_false, listRevsF_nil]
    unfold adoptS
    by_cases ho : (listRevisions S).any (·.owner == .none) = true
    · simp only [ho, Bool.not_true, Bool.false_eq_true, if_false, if_true]
      rw [foldOk_pure (fun S r => if r.marker then S.map (SYa.setSel r.name) else S)
        (fun r => if r.marker then [s!"update:rev:{r.name}"] else []) _ labelStep_nil]
      simp only [Bool.not_true, Bool.false_eq_true, if_false, call_nil, Option.isSome_none, hg, hu, hd, Bool.or_self,
        Bool.not_true]
      rw [foldOk_pure (fun S r => if r.owner != .none then S else S.map (SYa.setOwn r.name))
        (fun r => if r.owner != .none then [] else [s!"patch:rev:{r.name}"]) _ patchStep_nil]
      simp only [if_true, foldl_label, foldl_own]
      refine ⟨["list:revs", "list:revs"] ++ ((listRevisions S).map (fun r => if r.marker then [s!"update:rev:{r.name}"] else [])).flatten
        ++ ["get:set"] ++ ((listRevisions S).map (fun r => if r.owner != .none then [] else [s!"patch:rev:{r.name}"])).flatten, ?_⟩
      simp [List.append_assoc]
    · have ho' : (listRevisions S).any (·.owner == .none) = false := by simpa using ho
      simp only [ho', Bool.not_false, if_true, Bool.false_eq_true, if_false]
      exact ⟨["list:revs", "list:revs"], rfl⟩
  -- the adoption stage logs nothing that could be read as a pod patch
  have hlog := SYb.adopt_log [] false fresh { store := S, tr := { log := l0 } }
  rw [heq] at hlog
  exact ⟨lg, fun e he => (hlog.of_append e he).keyed.noPatch (by simp), heq⟩

end Asts.C02p
