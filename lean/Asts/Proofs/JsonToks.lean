import Asts.Model.PatchJson
import Mathlib.Tactic
/-! # The token parser inverts `toks` (for every tree) -/
namespace Asts.Patch

theorem toks_head (t : Json) : ∃ tk tl, toks t = tk :: tl ∧ tk ≠ .rbrack := by
  cases t with
  | null => exact ⟨.null, [], by rw [toks], nofun⟩
  | bool b => exact ⟨if b then .tru else .fls, [], by rw [toks], by cases b <;> nofun⟩
  | num n => exact ⟨.num n, [], by rw [toks], nofun⟩
  | str s => exact ⟨.str s, [], by rw [toks], nofun⟩
  | arr l => exact ⟨.lbrack, toksList l, by rw [toks], nofun⟩
  | obj kvs => exact ⟨.lbrace, toksKvs kvs, by rw [toks], nofun⟩

theorem toks_length_pos (t : Json) : 0 < (toks t).length := by
  obtain ⟨tk, tl, h, _⟩ := toks_head t
  simp [h]

theorem pVal_lbrack (f : Nat) {tk : Tok} {r r1 r2 : List Tok} {x : Json} {l : List Json} (h : tk ≠ .rbrack)
    (e1 : pVal f (tk :: r) = some (x, r1)) (e2 : pTail f r1 = some (l, r2)) :
    pVal (f + 1) (.lbrack :: tk :: r) = some (.arr (x :: l), r2) := by
  cases tk <;> first | exact absurd rfl h | simp only [pVal, e1, e2]

mutual
theorem pVal_toks : ∀ (t : Json) (f : Nat) (rest : List Tok), (toks t).length ≤ f → pVal f (toks t ++ rest) = some (t, rest)
  | t, 0, _, h => absurd h (Nat.not_le.mpr (toks_length_pos t))
  | .null, f + 1, rest, _ => by simp only [toks, List.cons_append, List.nil_append, pVal]
  | .bool true, f + 1, rest, _ => by simp only [toks, if_true, List.cons_append, List.nil_append, pVal]
  | .bool false, f + 1, rest, _ => by simp only [toks, Bool.false_eq_true, if_false, List.cons_append, List.nil_append, pVal]
  | .num n, f + 1, rest, _ => by simp only [toks, List.cons_append, List.nil_append, pVal]
  | .str s, f + 1, rest, _ => by simp only [toks, List.cons_append, List.nil_append, pVal]
  | .arr [], f + 1, rest, _ => by simp only [toks, toksList, List.cons_append, List.nil_append, pVal]
  | .arr (x :: r), f + 1, rest, h => by
    simp only [toks, toksList, List.length_cons, List.length_append] at h
    obtain ⟨tk, tl, hx, h1⟩ := toks_head x
    have e1 := pVal_toks x f (toksTail r ++ rest) (by omega)
    have e2 := pTail_toks r f rest (by omega)
    simp only [toks, toksList, List.cons_append, List.append_assoc]
    rw [hx] at e1 ⊢
    exact pVal_lbrack f h1 e1 e2
  | .obj [], f + 1, rest, _ => by simp only [toks, toksKvs, List.cons_append, List.nil_append, pVal]
  | .obj ((k, v) :: r), f + 1, rest, h => by
    simp only [toks, toksKvs, List.length_cons, List.length_append] at h
    have e1 := pVal_toks v f (toksKvTail r ++ rest) (by omega)
    have e2 := pKvTail_toks r f rest (by omega)
    simp only [toks, toksKvs, List.cons_append, List.append_assoc, pVal, e1, e2]
theorem pTail_toks : ∀ (l : List Json) (f : Nat) (rest : List Tok), (toksTail l).length ≤ f → pTail f (toksTail l ++ rest) = some (l, rest)
  | [], 0, _, h => by simp [toksTail] at h
  | x :: r, 0, _, h => by simp [toksTail] at h
  | [], f + 1, rest, _ => by simp only [toksTail, List.cons_append, List.nil_append, pTail]
  | x :: r, f + 1, rest, h => by
    simp only [toksTail, List.length_cons, List.length_append] at h
    have e1 := pVal_toks x f (toksTail r ++ rest) (by omega)
    have e2 := pTail_toks r f rest (by omega)
    simp only [toksTail, List.cons_append, List.append_assoc, pTail, e1, e2]
theorem pKvTail_toks : ∀ (kvs : List (String × Json)) (f : Nat) (rest : List Tok), (toksKvTail kvs).length ≤ f →
    pKvTail f (toksKvTail kvs ++ rest) = some (kvs, rest)
  | [], 0, _, h => by simp [toksKvTail] at h
  | (k, v) :: r, 0, _, h => by simp [toksKvTail] at h
  | [], f + 1, rest, _ => by simp only [toksKvTail, List.cons_append, List.nil_append, pKvTail]
  | (k, v) :: r, f + 1, rest, h => by
    simp only [toksKvTail, List.length_cons, List.length_append] at h
    have e1 := pVal_toks v f (toksKvTail r ++ rest) (by omega)
    have e2 := pKvTail_toks r f rest (by omega)
    simp only [toksKvTail, List.cons_append, List.append_assoc, pKvTail, e1, e2]
end

theorem parseToks_toks (t : Json) : parseToks (toks t) = some t := by
  have := pVal_toks t ((toks t).length + 1) [] (by omega)
  simp only [List.append_nil] at this
  simp [parseToks, this]

theorem toks_injective (a b : Json) (h : toks a = toks b) : a = b := by
  have ha := parseToks_toks a
  rw [h, parseToks_toks b] at ha
  exact (Option.some.inj ha).symm

end Asts.Patch
