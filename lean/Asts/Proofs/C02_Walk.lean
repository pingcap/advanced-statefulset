import Asts.Proofs.C02_Norm

/-! C02: the action list of a Parallel, fault-free reconcile, with the update walk made explicit. -/
namespace Asts.C02p
open Asts Asts.L1c

/-- the pod the update walk takes down: scanning from the top, the first pod that is not at the update revision (and not
    terminating), provided every pod before it is healthy -/
def walkFind (upd : String) : List (Int × Pod) → Option (Int × Pod)
  | [] => none
  | (t, p) :: rest =>
    if p.rev != upd && !p.terminating then some (t, p)
    else if !p.healthy then none
    else walkFind upd rest

def walkActs : Option (Int × Pod) → List Action
  | some (t, p) => [.delete t p.id .update]
  | none => []

theorem updateWalk_nil_eq (cur upd : String) (l : List (Int × Pod)) (s : St) :
    (updateWalk cur upd [] s l).1.acts = s.acts ++ walkActs (walkFind upd l) ∧ (updateWalk cur upd [] s l).2 = .ok := by
  induction l with
  | nil => simp [updateWalk, walkFind, walkActs]
  | cons ip rest ih =>
    obtain ⟨t, p⟩ := ip
    unfold updateWalk walkFind
    by_cases h1 : (p.rev != upd && !p.terminating) = true
    · simp only [h1, if_true, hit_nil, Bool.false_eq_true, if_false, walkActs, and_self]
    · simp only [h1, Bool.false_eq_true, if_false]
      by_cases h2 : (!p.healthy) = true
      · simp only [h2, if_true, walkActs, List.append_nil, and_self]
      · simp only [h2, Bool.false_eq_true, if_false]
        exact ih

/-- the slots the update walk looks at, top first -/
def walkList (v : SetView) (reps : List (Int × Pod)) : List (Int × Pod) :=
  (reps.filter (fun ip => partOf v ≤ ip.1)).reverse

/-- the walk's target for a whole reconcile -/
def walkTarget (v : SetView) (upd : String) (reps : List (Int × Pod)) : Option (Int × Pod) :=
  if v.strat == .onDelete then none else walkFind upd (walkList v reps)

theorem updateStage_nil_eq (v : SetView) (cur upd : String) (reps : List (Int × Pod)) (s : St) :
    (updateStage v cur upd [] reps s).1.acts = s.acts ++ walkActs (walkTarget v upd reps) ∧
    (updateStage v cur upd [] reps s).2 = .ok := by
  unfold updateStage walkTarget
  split_ifs
  · simp [walkActs]
  · exact updateWalk_nil_eq cur upd _ s

/-- **the actions of a Parallel, fault-free reconcile**, in order -/
theorem recon_acts (v : SetView) (cur upd : String) (pods : List Pod) (r : Int)
    (hr : v.replicas = some r) (hpar : v.parallel = true) (hdel : v.deleting = false)
    :
    (updateStatefulSet v cur upd pods []).1.acts =
      (repsOf v cur upd (maxReplicaAndSlots r v.slots).1 (maxReplicaAndSlots r v.slots).2 pods).flatMap (repActs1 v cur upd) ++
      condActs (condemnedOf (maxReplicaAndSlots r v.slots).1 (maxReplicaAndSlots r v.slots).2 pods).reverse ++
      walkActs (walkTarget v upd ((repsOf v cur upd (maxReplicaAndSlots r v.slots).1 (maxReplicaAndSlots r v.slots).2 pods).map
        (repNew v cur upd))) := by
  obtain ⟨p, hrun, hreps, hcond, -⟩ := updateStatefulSet_run_prep (cur := cur) (upd := upd) (pods := pods) [] hr hdel
  rw [hrun]
  unfold runLoops
  simp only [hpar, Bool.not_true]
  obtain ⟨s1, h1, h2⟩ := replicaLoop_par v cur upd p.reps { status := p.st0 }
  rw [h1]; simp only
  obtain ⟨s2, h3, h4⟩ := condemnedLoop_par cur upd p.fu p.condemned.reverse s1
  rw [h3]; simp only
  rw [(updateStage_nil_eq v cur upd _ s2).1, h4, h2, hreps, hcond]
  simp

end Asts.C02p
