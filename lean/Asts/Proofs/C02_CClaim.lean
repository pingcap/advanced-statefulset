import Asts.Proofs.C02_BClaim

/-! C02, worlds with pod objects that are not members of the set: the claim stage under the empty fault plan — members are
    kept or adopted, non-members the set controls are released, everything else is ignored — and what `applyPatches` then
    does with the log. -/
namespace Asts.C02p
open Asts

/-- the claim stage patches this pod's controller reference: a member orphan is adopted, a non-member the set controls is
    released -/
def needsFlip (c : CPod) : Bool := if c.member then c.owner != .self else c.owner == .self

/-- the calls of the claim stage: one uncached GET before the first adoption, one patch per adoption or release -/
def claimLogM : Bool → List CPod → List String
  | _, [] => []
  | m, c :: rest =>
    if needsFlip c then
      (if c.member && !m then ["get:set"] else []) ++ [s!"patch:pod:{c.name}"] ++ claimLogM (m || c.member) rest
    else claimLogM m rest

/-- a pod the claim stage can deal with: a member the set keeps or adopts, or any non-member -/
def ClaimM (c : CPod) : Prop := c.member = true → Claimable c

theorem claim_foldM (fresh : Fresh) (hg : fresh.gone = false) (hu : fresh.uidOk = true) (hd : fresh.deleting = false)
    (pods : List CPod) (hp : ∀ c ∈ pods, ClaimM c) :
    ∀ o : ClaimOutF, o.failed = false → (o.canAdopt = none ∨ o.canAdopt = some true) →
      ∃ m, pods.foldl (SYa.claimStep [] false fresh) o =
        { claimed := o.claimed ++ pods.filter (·.member), failed := false, canAdopt := m,
          tr := { log := o.tr.log ++ claimLogM o.canAdopt.isSome pods } } := by
  induction pods with
  | nil =>
    intro o hf _
    refine ⟨o.canAdopt, ?_⟩
    simp only [List.foldl_nil, claimLogM, List.append_nil, List.filter_nil]
    cases o; simp_all
  | cons c rest ih =>
    intro o hf hm
    have hrest := fun c hc => hp c (List.mem_cons_of_mem _ hc)
    rw [List.foldl_cons]
    by_cases hmem : c.member = true
    · obtain ⟨hown, hsel, _, hterm⟩ := hp c List.mem_cons_self hmem
      rcases hown with hs | hn
      · have hdec : claimDecision false c = .keep := by simp [claimDecision, hs, hsel, hmem]
        rw [SYa.claimStep_keep o hdec]
        obtain ⟨m, hm'⟩ := ih hrest ⟨o.claimed ++ [c], o.failed, o.canAdopt, o.tr⟩ hf hm
        refine ⟨m, ?_⟩
        rw [hm']
        simp [claimLogM, needsFlip, hs, hmem]
      · have hdec : claimDecision false c = .adopt := by simp [claimDecision, hn, hsel, hmem, hterm]
        have hnf : needsFlip c = true := by simp [needsFlip, hmem, hn]
        rcases hm with hm | hm
        · have hstep : SYa.claimStep [] false fresh o c =
              { o with claimed := o.claimed ++ [c], canAdopt := some true,
                       tr := { log := o.tr.log ++ ["get:set"] ++ [s!"patch:pod:{c.name}"] } } := by
            simp [SYa.claimStep, hdec, hm, call_nil, hg, hu, hd]
          rw [hstep]
          obtain ⟨m, hm'⟩ := ih hrest ⟨o.claimed ++ [c], o.failed, some true, ⟨o.tr.log ++ ["get:set"] ++ [s!"patch:pod:{c.name}"]⟩⟩ hf (Or.inr rfl)
          refine ⟨m, ?_⟩
          rw [hm']
          simp [claimLogM, hnf, hm, hmem]
        · have hstep : SYa.claimStep [] false fresh o c =
              { o with claimed := o.claimed ++ [c],
                       tr := { log := o.tr.log ++ [s!"patch:pod:{c.name}"] } } := by
            simp [SYa.claimStep, hdec, hm, call_nil]
          rw [hstep]
          obtain ⟨m, hm'⟩ := ih hrest ⟨o.claimed ++ [c], o.failed, o.canAdopt, ⟨o.tr.log ++ [s!"patch:pod:{c.name}"]⟩⟩ hf (Or.inr hm)
          refine ⟨m, ?_⟩
          rw [hm']
          simp [claimLogM, hnf, hm, hmem]
    · have hmem' : c.member = false := by simpa using hmem
      by_cases hs : c.owner = .self
      · have hdec : claimDecision false c = .release := by simp [claimDecision, hs, hmem']
        have hnf : needsFlip c = true := by simp [needsFlip, hmem', hs]
        have hstep : SYa.claimStep [] false fresh o c = { o with tr := { log := o.tr.log ++ [s!"patch:pod:{c.name}"] } } := by
          simp [SYa.claimStep, hdec, call_nil]
        rw [hstep]
        obtain ⟨m, hm'⟩ := ih hrest ⟨o.claimed, o.failed, o.canAdopt, ⟨o.tr.log ++ [s!"patch:pod:{c.name}"]⟩⟩ hf hm
        refine ⟨m, ?_⟩
        rw [hm']
        simp [claimLogM, hnf, hmem']
      · have hdec : claimDecision false c = .ignore := by
          cases hco : c.owner with
          | self => exact absurd hco hs
          | none => simp [claimDecision, hco, hmem']
          | other => simp [claimDecision, hco]
        have hnf : needsFlip c = false := by simp [needsFlip, hmem', hs]
        rw [SYa.claimStep_ignore o hdec]
        obtain ⟨m, hm'⟩ := ih hrest o hf hm
        refine ⟨m, ?_⟩
        rw [hm']
        simp [claimLogM, hnf, hmem']

/-- **the claim stage under the empty fault plan**: exactly the members are claimed -/
theorem claim_nilM (fresh : Fresh) (hg : fresh.gone = false) (hu : fresh.uidOk = true) (hd : fresh.deleting = false)
    (pods : List CPod) (hp : ∀ c ∈ pods, ClaimM c) (l0 : List String) :
    ∃ m, claimPodsF [] false fresh pods { log := l0 } =
      { claimed := pods.filter (·.member), failed := false, canAdopt := m, tr := { log := l0 ++ claimLogM false pods } } := by
  rw [SYa.claimPodsF_eq_foldl]
  obtain ⟨m, hm⟩ := claim_foldM fresh hg hu hd pods hp { tr := { log := l0 } } rfl (Or.inl rfl)
  exact ⟨m, by rw [hm]; simp⟩

theorem foldl_claimLogM (Q : List CPod) (hQn : ((Q.filter needsFlip).map (·.name)).Nodup)
    (hcol : ∀ c ∈ Q, needsFlip c = true → ∀ ch ∈ c.name.toList, (ch == ':') = false) :
    ∀ (m : Bool) (P : List CPod),
      (claimLogM m Q).foldl patchStep P = P.map (flipAll ((Q.filter needsFlip).map (·.name))) := by
  induction Q with
  | nil =>
    intro m P
    have : flipAll [] = id := by funext c; simp [flipAll]
    simp [claimLogM, this]
  | cons c rest ih =>
    intro m P
    have hcol' := fun c hc => hcol c (List.mem_cons_of_mem _ hc)
    by_cases hs : needsFlip c = true
    · have hfc : (c :: rest).filter needsFlip = c :: rest.filter needsFlip := by
        rw [List.filter_cons]; simp [hs]
      rw [hfc, List.map_cons] at hQn ⊢
      rw [List.nodup_cons] at hQn
      simp only [claimLogM, hs, if_true, List.foldl_append]
      have hget : (if (c.member && !m) = true then ["get:set"] else ([] : List String)).foldl patchStep P = P := by
        split_ifs
        · simp [patchStep_noPatch (noPatch_of_few SYa.few_get_set)]
        · rfl
      rw [hget, List.foldl_cons, List.foldl_nil, patchStep_patch c.name (hcol c List.mem_cons_self hs), ih hQn.2 hcol']
      unfold setPod
      rw [List.map_map]
      apply List.map_congr_left
      intro x _
      show flipAll _ (if (x.name == c.name) = true then flipOwner x else x) = flipAll _ x
      by_cases hx : x.name = c.name
      · have hx' : (x.name == c.name) = true := by simpa using hx
        rw [if_pos hx']
        have hnot : ((rest.filter needsFlip).map (·.name)).contains x.name = false := by
          rw [hx]
          cases hcon : ((rest.filter needsFlip).map (·.name)).contains c.name
          · rfl
          · exact absurd (List.contains_iff_mem.1 hcon) hQn.1
        unfold flipAll
        rw [flipOwner_name, hnot, List.contains_cons, hx']
        simp
      · have hx' : (x.name == c.name) = false := by simpa using hx
        rw [if_neg (by simp [hx'])]
        unfold flipAll
        rw [List.contains_cons, hx', Bool.false_or]
    · have hs' : needsFlip c = false := by simpa using hs
      have hfc : (c :: rest).filter needsFlip = rest.filter needsFlip := by
        rw [List.filter_cons]; simp [hs']
      rw [hfc] at hQn ⊢
      simp only [claimLogM, hs', Bool.false_eq_true, if_false]
      rw [ih hQn hcol']

/-- what the claim stage's patches leave of a pod: a member is owned, a non-member is not the set's -/
def norm1 (c : CPod) : CPod := if needsFlip c then flipOwner c else c

/-- **the patches of the claim stage**: every member orphan becomes the set's own, every non-member the set controlled
    is released, nothing else changes -/
theorem claimLogM_norm (pods : List CPod) (hn : (pods.map (·.name)).Nodup)
    (hcol : ∀ c ∈ pods, needsFlip c = true → ∀ ch ∈ c.name.toList, (ch == ':') = false) :
    (claimLogM false pods).foldl patchStep pods = pods.map norm1 := by
  have hQn : ((pods.filter needsFlip).map (·.name)).Nodup := (List.Sublist.map _ List.filter_sublist).nodup hn
  rw [foldl_claimLogM pods hQn hcol]
  apply List.map_congr_left
  intro c hc
  unfold flipAll norm1
  by_cases hf : needsFlip c = true
  · have : ((pods.filter needsFlip).map (·.name)).contains c.name = true := by
      rw [List.contains_iff_mem, List.mem_map]
      exact ⟨c, List.mem_filter.2 ⟨hc, hf⟩, rfl⟩
    rw [this, hf]
  · have hf' : needsFlip c = false := by simpa using hf
    have : ((pods.filter needsFlip).map (·.name)).contains c.name = false := by
      cases hcon : ((pods.filter needsFlip).map (·.name)).contains c.name
      · rfl
      · rw [List.contains_iff_mem, List.mem_map] at hcon
        obtain ⟨c', hc', hce⟩ := hcon
        rw [List.mem_filter] at hc'
        have : c' = c := List.inj_on_of_nodup_map hn hc'.1 hc hce
        rw [this, hf'] at hc'
        exact absurd hc'.2 (by decide)
    rw [this, hf']

theorem norm1_member (c : CPod) : (norm1 c).member = c.member := by
  unfold norm1 flipOwner; split_ifs <;> (try rfl) <;> split <;> rfl

theorem norm1_of_member {c : CPod} (hm : c.member = true) (ho : c.owner = .self ∨ c.owner = .none) :
    norm1 c = { c with owner := .self } := by
  unfold norm1 needsFlip flipOwner
  rcases ho with h | h
  · simp only [hm, if_true, h]
    have : (Owner.self != Owner.self) = false := rfl
    rw [this]
    simp only [Bool.false_eq_true, if_false]
    cases c; simp_all
  · simp [hm, h]

theorem norm1_nonmember_owner {c : CPod} (hm : c.member = false) : (norm1 c).owner ≠ .self := by
  unfold norm1 needsFlip flipOwner
  simp only [hm, Bool.false_eq_true, if_false]
  by_cases hs : c.owner = .self
  · simp [hs]
  · have : (c.owner == Owner.self) = false := by simpa using hs
    simp only [this, Bool.false_eq_true, if_false]
    exact hs

end Asts.C02p
