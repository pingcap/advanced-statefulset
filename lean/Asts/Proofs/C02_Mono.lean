import Asts.Proofs.C02_MonoLoops

/-! C02: the OrderedReady policy on normal, settled worlds without Failed/Succeeded pods outside the desired set. -/
namespace Asts.C02p
open Asts Asts.L1c

/-- the calls of the OrderedReady reconcile on settled pods -/
def monoActsOf (v : SetView) (cur upd : String) (b : Int) (E : List Int) (P : List CPod) : List Action :=
  let reps := repsOf v cur upd b E (P.map (·.pod))
  let cond := (condemnedOf b E (P.map (·.pod))).reverse
  (monoRep v cur upd reps).1 ++
    (if (monoRep v cur upd reps).2 then
      (if cond = [] then walkActs (walkTarget v upd reps) else monoCond cond)
     else [])

/-- the class (any update strategy): normal, settled, OrderedReady, no Failed/Succeeded pod outside the desired set -/
def MonoK0 (h : Hashing) (j : SyncIn) : Prop :=
  NSC h j ∧ j.view.parallel = false ∧ (∀ c ∈ j.pods, c.pod.fs = true → inRange (bOf j) (EOf j) c.pod.ord = true)

/-- the same with the `rollingUpdate` block present (or OnDelete) -/
def MonoK (h : Hashing) (j : SyncIn) : Prop := MonoK0 h j ∧ PartOk j.view

section
variable {h : Hashing} {j : SyncIn}

theorem mono_reps_kinds (hs : NSC h j) (cur upd : String) :
    ∀ ip ∈ repsOf j.view cur upd (bOf j) (EOf j) (j.pods.map (·.pod)), Plain ip.2 ∨ ip.2.fs = true ∨ ip.2.created = false := by
  intro ip hip
  obtain ⟨_, ⟨c, hcm, _, hq⟩ | ⟨_, hq⟩⟩ := hs.ctx.mem_repsOf.1 hip
  · rw [hq]
    rcases (hs.settled c hcm).2 with hfs | hrr
    · exact Or.inr (Or.inl hfs)
    · left
      refine ⟨?_, (hs.norm.pods c hcm).2.2.2.2.2.2, hrr, (hs.settled c hcm).1⟩
      unfold Pod.runningAndReady at hrr
      simp only [Bool.and_eq_true, beq_iff_eq] at hrr
      simp [Pod.fs, Pod.failed, Pod.succeeded, hrr.1]
  · right; right
    rw [hq]
    exact newPod_created ..

theorem mono_cond_kinds (hk : MonoK0 h j) :
    ∀ c ∈ (condemnedOf (bOf j) (EOf j) (j.pods.map (·.pod))).reverse, c.runningAndReady = true ∧ c.terminating = false := by
  obtain ⟨hs, _, hnofs⟩ := hk
  intro q hq
  obtain ⟨c, hcm, rfl, hnr⟩ := mem_condemned_rev hq
  refine ⟨?_, (hs.settled c hcm).1⟩
  rcases (hs.settled c hcm).2 with hfs | hrr
  · rw [hnofs c hcm hfs] at hnr; cases hnr
  · exact hrr

/-- **the OrderedReady reconcile, no faults, on a world of the class**: it ends `.ok` and issues `monoActsOf` -/
theorem recon_mono (hk : MonoK0 h j) :
    hk.1.norm.recon.2 = .ok ∧
    hk.1.norm.recon.1.acts = monoActsOf j.view hk.1.norm.curRev.name hk.1.norm.updRev.name (bOf j) (EOf j) j.pods := by
  have hs := hk.1
  have hn := hs.norm
  have hpar := hk.2.1
  unfold NormC.recon
  obtain ⟨p, hrun, hreps, hcond, -⟩ := updateStatefulSet_run_prep (cur := hn.curRev.name) (upd := hn.updRev.name)
    (pods := j.pods.map (·.pod)) [] hn.spec.rep hn.spec.del
  rw [hrun]
  have hreps' : p.reps = repsOf j.view hn.curRev.name hn.updRev.name (bOf j) (EOf j) (j.pods.map (·.pod)) := hreps
  have hcond' : p.condemned = condemnedOf (bOf j) (EOf j) (j.pods.map (·.pod)) := hcond
  unfold runLoops monoActsOf
  simp only [hpar, Bool.not_false]
  obtain ⟨h1, h2⟩ := replicaLoop_mono j.view hn.curRev.name hn.updRev.name p.reps
    (by rw [hreps']; exact mono_reps_kinds hs _ _) { status := p.st0 }
  rw [← hreps', ← hcond']
  by_cases hfl : (monoRep j.view hn.curRev.name hn.updRev.name p.reps).2 = true
  · obtain ⟨s1, e1, a1⟩ := h1 hfl
    rw [e1]
    simp only [hfl, if_true]
    obtain ⟨c1, c2⟩ := condemnedLoop_mono hn.curRev.name hn.updRev.name p.fu p.condemned.reverse
      (by rw [hcond']; exact mono_cond_kinds hk) s1
    by_cases hce : p.condemned.reverse = []
    · rw [c1 hce]
      simp only [hce, if_true]
      obtain ⟨u1, u2⟩ := updateStage_nil_eq j.view hn.curRev.name hn.updRev.name p.reps s1
      refine ⟨u2, ?_⟩
      rw [u1, a1]; simp
    · obtain ⟨s2, e2, a2⟩ := c2 hce
      rw [e2]
      simp only [hce, if_false]
      exact ⟨trivial, by rw [a2, a1]; simp⟩
  · have hfl' : (monoRep j.view hn.curRev.name hn.updRev.name p.reps).2 = false := by simpa using hfl
    obtain ⟨s1, reps', e1, a1⟩ := h2 hfl'
    rw [e1]
    simp only [hfl', Bool.false_eq_true, if_false, List.append_nil]
    exact ⟨trivial, by rw [a1]; simp⟩

end

end Asts.C02p

namespace Asts.C02p
open Asts Asts.L1c

theorem monoRep_delete {v : SetView} {cur upd : String} {reps : List (Int × Pod)} {o : Int} {id : Nat} {w : Why}
    (h : Action.delete o id w ∈ (monoRep v cur upd reps).1) :
    ∃ q, (o, q) ∈ reps ∧ q.fs = true ∧ id = q.id ∧ Action.create o (newPod v cur upd o).rev ∈ (monoRep v cur upd reps).1 := by
  induction reps with
  | nil => simp [monoRep] at h
  | cons ip rest ih =>
    obtain ⟨i, q⟩ := ip
    unfold monoRep at h ⊢
    by_cases hfs : q.fs = true
    · simp only [hfs, if_true, List.mem_cons, Action.delete.injEq, reduceCtorEq, List.not_mem_nil, or_false] at h ⊢
      obtain ⟨rfl, rfl, _⟩ := h
      exact ⟨q, Or.inl rfl, hfs, rfl, Or.inr rfl⟩
    · simp only [hfs, Bool.false_eq_true, if_false] at h ⊢
      by_cases hcr : (!q.created) = true
      · simp only [hcr, if_true, List.mem_singleton, reduceCtorEq] at h
      · simp only [hcr, Bool.false_eq_true, if_false, List.mem_append] at h ⊢
        rcases h with h | h
        · exact absurd (mem_idUpd h).1 (by simp)
        · obtain ⟨q', hq', a, b, c⟩ := ih h
          exact ⟨q', List.mem_cons_of_mem _ hq', a, b, Or.inr c⟩

theorem monoRep_create {v : SetView} {cur upd : String} {reps : List (Int × Pod)} {o : Int} {rev : String}
    (h : Action.create o rev ∈ (monoRep v cur upd reps).1) :
    ∃ q, (o, q) ∈ reps ∧
      ((q.fs = true ∧ rev = (newPod v cur upd o).rev ∧ Action.delete o q.id .replaceFailed ∈ (monoRep v cur upd reps).1) ∨
       (q.fs = false ∧ q.created = false ∧ rev = q.rev)) := by
  induction reps with
  | nil => simp [monoRep] at h
  | cons ip rest ih =>
    obtain ⟨i, q⟩ := ip
    unfold monoRep at h ⊢
    by_cases hfs : q.fs = true
    · simp only [hfs, if_true, List.mem_cons, reduceCtorEq, Action.create.injEq, List.not_mem_nil, or_false, false_or] at h ⊢
      obtain ⟨rfl, rfl⟩ := h
      exact ⟨q, Or.inl rfl, Or.inl ⟨hfs, rfl, by simp⟩⟩
    · simp only [hfs, Bool.false_eq_true, if_false] at h ⊢
      by_cases hcr : (!q.created) = true
      · simp only [hcr, if_true, List.mem_singleton, Action.create.injEq] at h ⊢
        obtain ⟨rfl, rfl⟩ := h
        exact ⟨q, List.mem_cons_self, Or.inr ⟨by simpa using hfs, by simpa using hcr, rfl⟩⟩
      · simp only [hcr, Bool.false_eq_true, if_false, List.mem_append] at h ⊢
        rcases h with h | h
        · exact absurd (mem_idUpd h).1 (by simp)
        · obtain ⟨q', hq', hcase⟩ := ih h
          refine ⟨q', List.mem_cons_of_mem _ hq', ?_⟩
          rcases hcase with ⟨a, b, c⟩ | hc
          · exact Or.inl ⟨a, b, Or.inr c⟩
          · exact Or.inr hc

theorem monoRep_creates_le_one (v : SetView) (cur upd : String) (reps : List (Int × Pod)) :
    (createsOf (monoRep v cur upd reps).1).length ≤ 1 := by
  induction reps with
  | nil => simp [monoRep, createsOf]
  | cons ip rest ih =>
    obtain ⟨i, q⟩ := ip
    unfold monoRep
    by_cases hfs : q.fs = true
    · simp [hfs, createsOf]
    · simp only [hfs, Bool.false_eq_true, if_false]
      by_cases hcr : (!q.created) = true
      · simp [hcr, createsOf]
      · simp only [hcr, Bool.false_eq_true, if_false]
        rw [createsOf_append, createsOf_idUpd]
        exact ih

theorem monoRep_done {v : SetView} {cur upd : String} {reps : List (Int × Pod)} (h : (monoRep v cur upd reps).2 = true) :
    ∀ ip ∈ reps, ip.2.fs = false ∧ ip.2.created = true ∧
      ((ip.2.idOk && ip.2.stOk) = false → Action.update ip.1 ∈ (monoRep v cur upd reps).1) := by
  induction reps with
  | nil => intro ip hip; cases hip
  | cons ip rest ih =>
    obtain ⟨i, q⟩ := ip
    unfold monoRep at h ⊢
    by_cases hfs : q.fs = true
    · simp [hfs] at h
    · simp only [hfs, Bool.false_eq_true, if_false] at h ⊢
      by_cases hcr : (!q.created) = true
      · simp [hcr] at h
      · simp only [hcr, Bool.false_eq_true, if_false] at h ⊢
        intro ip hip
        rcases List.mem_cons.1 hip with rfl | hip
        · exact ⟨by simpa using hfs, by simpa using hcr, fun hbad => List.mem_append_left _ (idUpd_of_bad hbad)⟩
        · obtain ⟨a, b, c⟩ := ih h ip hip
          exact ⟨a, b, fun hbad => List.mem_append_right _ (c hbad)⟩

theorem monoRep_stopped {v : SetView} {cur upd : String} {reps : List (Int × Pod)} (h : (monoRep v cur upd reps).2 = false) :
    ∃ o rev, Action.create o rev ∈ (monoRep v cur upd reps).1 := by
  induction reps with
  | nil => simp [monoRep] at h
  | cons ip rest ih =>
    obtain ⟨i, q⟩ := ip
    unfold monoRep at h ⊢
    by_cases hfs : q.fs = true
    · exact ⟨i, (newPod v cur upd i).rev, by simp [hfs]⟩
    · simp only [hfs, Bool.false_eq_true, if_false] at h ⊢
      by_cases hcr : (!q.created) = true
      · exact ⟨i, q.rev, by simp [hcr]⟩
      · simp only [hcr, Bool.false_eq_true, if_false] at h ⊢
        obtain ⟨o, rev, hm⟩ := ih h
        exact ⟨o, rev, List.mem_append_right _ hm⟩

theorem repNew_id_of_done {v : SetView} {cur upd : String} {reps : List (Int × Pod)} (h : (monoRep v cur upd reps).2 = true) :
    reps.map (repNew v cur upd) = reps := by
  conv_rhs => rw [← List.map_id reps]
  apply List.map_congr_left
  intro ip hip
  unfold repNew
  rw [(monoRep_done h ip hip).1]
  rfl

end Asts.C02p
