import Asts.Proofs.C02_Mono

/-! C02: the OrderedReady policy, along the lines of the Parallel one: the calls without the final update-walk delete
    (`monoA`) and the walk's target (`monoTgt`) first, in either mode; then the `PolicyClass` when the `rollingUpdate` block
    is present. -/
namespace Asts.C02p
open Asts Asts.L1c

/-- the OrderedReady reconcile without the update walk -/
def monoA (v : SetView) (cur upd : String) (b : Int) (E : List Int) (P : List CPod) : List Action :=
  (monoRep v cur upd (repsOf v cur upd b E (P.map (·.pod)))).1 ++
    (if (monoRep v cur upd (repsOf v cur upd b E (P.map (·.pod)))).2 then
      (if (condemnedOf b E (P.map (·.pod))).reverse = [] then [] else monoCond (condemnedOf b E (P.map (·.pod))).reverse)
     else [])

/-- the update walk's target under OrderedReady (the walk runs only over a full set with nothing to scale in) -/
def monoTgt (v : SetView) (cur upd : String) (b : Int) (E : List Int) (P : List CPod) : Option (Int × Pod) :=
  if (monoRep v cur upd (repsOf v cur upd b E (P.map (·.pod)))).2 = true ∧ (condemnedOf b E (P.map (·.pod))).reverse = []
  then walkTarget v upd (repsOf v cur upd b E (P.map (·.pod))) else none

theorem monoActsOf_split (v : SetView) (cur upd : String) (b : Int) (E : List Int) (P : List CPod) :
    monoActsOf v cur upd b E P = monoA v cur upd b E P ++ walkActs (monoTgt v cur upd b E P) := by
  unfold monoActsOf monoA monoTgt
  simp only
  by_cases hfl : (monoRep v cur upd (repsOf v cur upd b E (P.map (·.pod)))).2 = true
  · by_cases hce : (condemnedOf b E (P.map (·.pod))).reverse = []
    · simp [hfl, hce]
    · simp [hfl, hce, walkActs]
  · simp [hfl, walkActs]

section
variable {h : Hashing} {j : SyncIn}

theorem monoA_delete_src (hk : MonoK0 h j) {o : Int} {id : Nat} {w : Why}
    (hm : Action.delete o id w ∈ monoA j.view hk.1.norm.curRev.name hk.1.norm.updRev.name (bOf j) (EOf j) j.pods) :
    ∃ c ∈ j.pods, c.pod.id = id ∧
      ((c.pod.fs = true ∧ inRange (bOf j) (EOf j) c.pod.ord = true ∧
          ∃ rev, Action.create c.pod.ord rev ∈ monoA j.view hk.1.norm.curRev.name hk.1.norm.updRev.name (bOf j) (EOf j) j.pods) ∨
       inRange (bOf j) (EOf j) c.pod.ord = false) := by
  have hs := hk.1
  have hn := hs.norm
  have hctx := hs.ctx
  unfold monoA at hm ⊢
  rw [List.mem_append] at hm
  rcases hm with hm | hm
  · obtain ⟨q, hq, hfs, hid, hcr⟩ := monoRep_delete hm
    obtain ⟨hr, ⟨c, hcm, hco, hqc⟩ | ⟨_, hqn⟩⟩ := hctx.mem_repsOf.1 hq
    · simp only at hr hco hqc
      subst hqc
      exact ⟨c, hcm, hid.symm, Or.inl ⟨hfs, by rw [hco]; exact hr, _, List.mem_append_left _ (by rw [hco]; exact hcr)⟩⟩
    · simp only at hqn
      rw [hqn, newPod_fs] at hfs; cases hfs
  · split_ifs at hm with hfl hce
    · cases hm
    · cases hcl : (condemnedOf (bOf j) (EOf j) (j.pods.map (·.pod))).reverse with
      | nil => exact absurd hcl hce
      | cons c0 rest =>
        rw [hcl] at hm
        simp only [monoCond, List.mem_singleton, Action.delete.injEq] at hm
        have hc0 : c0 ∈ (condemnedOf (bOf j) (EOf j) (j.pods.map (·.pod))).reverse := by rw [hcl]; exact List.mem_cons_self
        obtain ⟨c, hcm, rfl, hr⟩ := mem_condemned_rev hc0
        exact ⟨c, hcm, hm.2.1.symm, Or.inr hr⟩
    · cases hm

theorem monoA_create_src (hk : MonoK0 h j) {o : Int} {rev : String}
    (hm : Action.create o rev ∈ monoA j.view hk.1.norm.curRev.name hk.1.norm.updRev.name (bOf j) (EOf j) j.pods) :
    Action.create o rev ∈ (monoRep j.view hk.1.norm.curRev.name hk.1.norm.updRev.name
      (repsOf j.view hk.1.norm.curRev.name hk.1.norm.updRev.name (bOf j) (EOf j) (j.pods.map (·.pod)))).1 := by
  unfold monoA at hm
  rw [List.mem_append] at hm
  rcases hm with hm | hm
  · exact hm
  · exfalso
    split_ifs at hm with h1 h2
    · cases hm
    · cases hcl : (condemnedOf (bOf j) (EOf j) (j.pods.map (·.pod))).reverse with
      | nil => exact absurd hcl h2
      | cons c0 rest => rw [hcl] at hm; simp [monoCond] at hm
    · cases hm

theorem monoA_facts (hk : MonoK0 h j) :
    ActFacts j.view hk.1.norm.curRev.name hk.1.norm.updRev.name (bOf j) (EOf j) j.pods
      (monoA j.view hk.1.norm.curRev.name hk.1.norm.updRev.name (bOf j) (EOf j) j.pods) := by
  have hs := hk.1
  have hn := hs.norm
  have hctx := hs.ctx
  refine ⟨?_, ?_, ?_, ?_, ?_⟩
  · rintro id hid ⟨o, w, hm⟩
    obtain ⟨c, hcm, hcid, _⟩ := monoA_delete_src hk hm
    have := hctx.id_lt hcm
    omega
  · have hle : (createsOf (monoA j.view hn.curRev.name hn.updRev.name (bOf j) (EOf j) j.pods)).length ≤ 1 := by
      unfold monoA
      rw [createsOf_append]
      have htail : createsOf (if (monoRep j.view hn.curRev.name hn.updRev.name
          (repsOf j.view hn.curRev.name hn.updRev.name (bOf j) (EOf j) (j.pods.map (·.pod)))).2 = true then
            if (condemnedOf (bOf j) (EOf j) (j.pods.map (·.pod))).reverse = [] then []
            else monoCond (condemnedOf (bOf j) (EOf j) (j.pods.map (·.pod))).reverse
          else []) = [] := by
        split_ifs
        · rfl
        · cases (condemnedOf (bOf j) (EOf j) (j.pods.map (·.pod))).reverse <;> rfl
        · rfl
      rw [htail, List.append_nil]
      exact monoRep_creates_le_one _ _ _ _
    match hcl : createsOf (monoA j.view hn.curRev.name hn.updRev.name (bOf j) (EOf j) j.pods), hle with
    | [], _ => exact List.nodup_nil
    | [a], _ => exact List.nodup_singleton a
    | _ :: _ :: _, hle => simp at hle
  · intro o rev hcr
    obtain ⟨q, hq, hcase⟩ := monoRep_create (monoA_create_src hk hcr)
    obtain ⟨hr, hslot⟩ := hctx.mem_repsOf.1 hq
    simp only at hr hslot
    refine ⟨hr, ?_⟩
    rcases hcase with ⟨hfs, hrev, hdel⟩ | ⟨hfs, hcreated, hrev⟩
    · -- the create that replaces a Failed/Succeeded pod comes with its delete
      rcases hslot with ⟨c, hcm, hco, rfl⟩ | ⟨_, hqn⟩
      · exact ⟨hrev, Or.inr ⟨c, hcm, hco, hfs, o, .replaceFailed, List.mem_append_left _ hdel⟩⟩
      · rw [hqn, newPod_fs] at hfs; cases hfs
    · rcases hslot with ⟨c, hcm, _, rfl⟩ | ⟨hnone, hqn⟩
      · have := (hn.pods c hcm).2.2.2.2.2.2
        rw [hcreated] at this; cases this
      · exact ⟨by rw [hrev, hqn]; rfl, Or.inl hnone⟩
  · rintro c hcm ⟨o, w, hm⟩ hfs hr
    obtain ⟨c', hc', hcid, hcase⟩ := monoA_delete_src hk hm
    have : c' = c := hctx.id_inj hc' hcm hcid
    subst this
    rcases hcase with ⟨_, _, hcre⟩ | h2
    · exact hcre
    · rw [hr] at h2; cases h2
  · rintro c hcm ⟨o, w, hm⟩ hfs hr
    exfalso
    obtain ⟨c', hc', hcid, hcase⟩ := monoA_delete_src hk hm
    have : c' = c := hctx.id_inj hc' hcm hcid
    subst this
    rcases hcase with ⟨h1, _⟩ | h2
    · rw [hfs] at h1; cases h1
    · rw [hr] at h2; cases h2

/-- under OrderedReady the walk runs over the slots as they are: the replica loop got through without replacing anything -/
theorem monoTgt_some {v : SetView} {cur upd : String} {b : Int} {E : List Int} {P : List CPod} {tq : Int × Pod}
    (h : monoTgt v cur upd b E P = some tq) :
    (monoRep v cur upd (repsOf v cur upd b E (P.map (·.pod)))).2 = true ∧ (condemnedOf b E (P.map (·.pod))).reverse = [] ∧
      tgtOf v cur upd b E P = some tq := by
  unfold monoTgt at h
  split_ifs at h with hcond
  refine ⟨hcond.1, hcond.2, ?_⟩
  unfold tgtOf
  rw [repNew_id_of_done hcond.1]
  exact h

theorem mono_facts (hk : MonoK h j) :
    ActFacts j.view hk.1.1.norm.curRev.name hk.1.1.norm.updRev.name (bOf j) (EOf j) j.pods
      (monoActsOf j.view hk.1.1.norm.curRev.name hk.1.1.norm.updRev.name (bOf j) (EOf j) j.pods) := by
  have hs := hk.1.1
  rw [monoActsOf_split]
  apply (monoA_facts hk.1).append_walk hs.ctx
  intro t q htg
  obtain ⟨c, hcm, hcp, hco, _, hfs, hrev, hpt, hnod⟩ := target_is_pod hs.ctx hk.2 (monoTgt_some htg).2.2
  exact ⟨c, hcm, hcp, hfs, hs.norm.spec.strat.resolve_right hnod, by rw [hco]; exact hpt, by rw [hcp]; exact hrev⟩

theorem mono_pol (hk : MonoK h j) : Pol hk.1.1.norm :=
  Pol.of_facts (recon_mono hk.1).1 (by rw [(recon_mono hk.1).2]; exact mono_facts hk)

end

end Asts.C02p

namespace Asts.C02p
open Asts Asts.L1c

section
variable {h : Hashing} {j : SyncIn}

/-- when the replica loop got through, every desired ordinal holds a live pod -/
theorem mono_full (hk : MonoK0 h j)
    (hfl : (monoRep j.view hk.1.norm.curRev.name hk.1.norm.updRev.name
      (repsOf j.view hk.1.norm.curRev.name hk.1.norm.updRev.name (bOf j) (EOf j) (j.pods.map (·.pod)))).2 = true) :
    ∀ o, inRange (bOf j) (EOf j) o = true → ∃ c ∈ j.pods, c.pod.ord = o ∧ c.pod.fs = false := by
  have hs := hk.1
  have hn := hs.norm
  have hctx := hs.ctx
  have hdone := monoRep_done hfl
  intro o hr
  have hmem : (o, (slotOf (bOf j) (EOf j) (j.pods.map (·.pod)) o).getD (newPod j.view hn.curRev.name hn.updRev.name o)) ∈
      repsOf j.view hn.curRev.name hn.updRev.name (bOf j) (EOf j) (j.pods.map (·.pod)) := mem_repsOf.2 ⟨hr, rfl⟩
  obtain ⟨hfs, hcr, _⟩ := hdone _ hmem
  obtain ⟨_, ⟨c, hcm, hco, hq⟩ | ⟨_, hq⟩⟩ := hctx.mem_repsOf.1 hmem
  · exact ⟨c, hcm, hco, by rw [← hq]; exact hfs⟩
  · rw [hq, newPod_created] at hcr; cases hcr

/-- **OrderedReady: while something is to do, the reconcile does some of it** (either mode) -/
theorem mono_event (hk0 : MonoK0 h j) (htodo : Todo j hk0.1.norm.updRev.name) :
    LEvent j (monoA j.view hk0.1.norm.curRev.name hk0.1.norm.updRev.name (bOf j) (EOf j) j.pods)
      (monoTgt j.view hk0.1.norm.curRev.name hk0.1.norm.updRev.name (bOf j) (EOf j) j.pods) := by
  have hs := hk0.1
  have hn := hs.norm
  have hctx := hs.ctx
  have hb0 := bOf_nonneg hn
  have hE := EOf_nonneg hn
  by_cases hfl : (monoRep j.view hn.curRev.name hn.updRev.name
      (repsOf j.view hn.curRev.name hn.updRev.name (bOf j) (EOf j) (j.pods.map (·.pod)))).2 = true
  · have hall := mono_full hk0 hfl
    have hdone := monoRep_done hfl
    have hcondE : ∀ c ∈ j.pods, inRange (bOf j) (EOf j) c.pod.ord = false →
        LEvent j (monoA j.view hn.curRev.name hn.updRev.name (bOf j) (EOf j) j.pods)
          (monoTgt j.view hn.curRev.name hn.updRev.name (bOf j) (EOf j) j.pods) := by
      intro c hcm hr
      have hcmem := hctx.condemned_of_out hb0 hE hcm hr
      cases hcl : (condemnedOf (bOf j) (EOf j) (j.pods.map (·.pod))).reverse with
      | nil => rw [hcl] at hcmem; cases hcmem
      | cons c0 rest =>
        have hc0 : c0 ∈ (condemnedOf (bOf j) (EOf j) (j.pods.map (·.pod))).reverse := by rw [hcl]; exact List.mem_cons_self
        obtain ⟨c', hc', rfl, _⟩ := mem_condemned_rev hc0
        refine Or.inr (Or.inl ⟨c', hc', c'.pod.ord, .scaleDown, ?_⟩)
        unfold monoA
        simp only [hfl, if_true, hcl]
        apply List.mem_append_right
        simp [monoCond]
    rcases htodo with ⟨c, hcm, hr⟩ | ⟨o, hr, hnone⟩ | ⟨c, hcm, hr, hfs⟩ | ⟨c, hcm, hr, hfs, hid⟩ |
        ⟨c, hcm, hr, hfs, hroll, hpt, hrev⟩
    · exact hcondE c hcm hr
    · obtain ⟨c, hcm, hco, _⟩ := hall o hr
      exact absurd hco (hnone c hcm)
    · obtain ⟨c', hc', hco', hfs'⟩ := hall c.pod.ord hr
      rw [hctx.ord_inj hc' hcm hco', hfs] at hfs'; cases hfs'
    · have hmem : (c.pod.ord, c.pod) ∈ repsOf j.view hn.curRev.name hn.updRev.name (bOf j) (EOf j) (j.pods.map (·.pod)) :=
        mem_repsOf.2 ⟨hr, by simp [hctx.slot_of_mem hcm hr]⟩
      have hu := (hdone _ hmem).2.2 (by simp [hid])
      refine Or.inr (Or.inr (Or.inl ⟨c, hcm, hr, hfs, hid, ?_⟩))
      unfold monoA
      exact List.mem_append_left _ hu
    · by_cases hce : (condemnedOf (bOf j) (EOf j) (j.pods.map (·.pod))).reverse = []
      · right; right; right
        unfold monoTgt
        rw [if_pos ⟨hfl, hce⟩]
        exact tgt_isSome hs hroll hall hcm hr hpt hrev
      · cases hcl : (condemnedOf (bOf j) (EOf j) (j.pods.map (·.pod))).reverse with
        | nil => exact absurd hcl hce
        | cons c0 rest =>
          have hc0 : c0 ∈ (condemnedOf (bOf j) (EOf j) (j.pods.map (·.pod))).reverse := by rw [hcl]; exact List.mem_cons_self
          obtain ⟨c', hc', rfl, hr'⟩ := mem_condemned_rev hc0
          exact hcondE c' hc' hr'
  · have hfl' : (monoRep j.view hn.curRev.name hn.updRev.name
        (repsOf j.view hn.curRev.name hn.updRev.name (bOf j) (EOf j) (j.pods.map (·.pod)))).2 = false := by simpa using hfl
    obtain ⟨o, rev, hm⟩ := monoRep_stopped hfl'
    refine Or.inl ⟨o, rev, ?_⟩
    unfold monoA
    exact List.mem_append_left _ hm

theorem mono_progress (hk : MonoK h j) (hpos : 0 < muPods j) :
    Event (bOf j) (EOf j) j.pods hk.1.1.norm.recon.1.acts := by
  rw [(recon_mono hk.1).2, monoActsOf_split]
  apply (mono_event hk.1 (mu_pos_cases hk.1.1 hpos)).event
  intro t q htg
  obtain ⟨c, hcm, hcp, _⟩ := target_is_pod hk.1.1.ctx hk.2 (monoTgt_some htg).2.2
  exact ⟨c, hcm, by rw [hcp]⟩

/-- a round keeps the Failed/Succeeded pods inside the desired set -/
theorem monoK0_next (hk : MonoK0 h j) (hp : Pol hk.1.norm) : MonoK0 h (nextW h j) := by
  have hs := hk.1
  have hview := nextW_view hs hp
  have hb : bOf (nextW h j) = bOf j := by unfold bOf; rw [hview]; rfl
  have hE : EOf (nextW h j) = EOf j := by unfold EOf; rw [hview]; rfl
  refine ⟨nextW_ns hs hp, by rw [hview]; exact hk.2.1, ?_⟩
  intro x hx hfs
  obtain ⟨y, hy, hky⟩ := (nextW_pods hs hp).mem hx
  have e1 : y.pod.fs = x.pod.fs := key_transfer (·.pod.fs) (fun _ => rfl) hky
  have e2 : y.pod.ord = x.pod.ord := key_transfer (·.pod.ord) (fun _ => rfl) hky
  obtain ⟨c, hcm, hco, hcfs⟩ := (rawNext_pod hs hp hy).2.2.2.2.2.2.2.2 (by rw [e1]; exact hfs)
  rw [hb, hE, ← e2, ← hco]
  exact hk.2.2 c hcm hcfs

theorem mono_next (hk : MonoK h j) : MonoK h (nextW h j) :=
  ⟨monoK0_next hk.1 (mono_pol hk), by rw [nextW_view hk.1.1 (mono_pol hk)]; exact hk.2⟩

end

theorem mono_class (h : Hashing) : PolicyClass h (MonoK h) where
  ns := fun _ hk => hk.1.1
  part := fun _ hk => hk.2
  pol := fun _ hk => mono_pol hk
  facts := fun _ hk => by rw [(recon_mono hk.1).2]; exact mono_facts hk
  next := fun _ hk => mono_next hk
  progress := fun _ hk hpos => mono_progress hk hpos

end Asts.C02p
