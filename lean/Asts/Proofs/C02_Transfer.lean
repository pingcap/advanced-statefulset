import Asts.Proofs.C02_Sync

/-! C02: `Final` depends on the pod list only through the multiset of the set's own pods with their ids forgotten (plus the
    "nothing to adopt" clause), and not at all on `fresh` or `view.stCurrentReplicas`. -/
namespace Asts.C02p
open Asts Asts.L1c

def podKey (p : Pod) : Pod := { p with id := 0 }
def key (c : CPod) : CPod := { c with pod := podKey c.pod }

theorem key_transfer {β : Type} (g : CPod → β) (hg : ∀ c, g (key c) = g c) {c c' : CPod} (hk : key c' = key c) : g c' = g c := by
  rw [← hg c', ← hg c, hk]

theorem eq_of_key {c c' : CPod} (hk : key c' = key c) : ∃ k, c' = { c with pod := { c.pod with id := k } } := by
  obtain ⟨n, ⟨id, o, ph, rd, tm, rv, io, so⟩, ow, sl, mb⟩ := c
  obtain ⟨n', ⟨id', o', ph', rd', tm', rv', io', so'⟩, ow', sl', mb'⟩ := c'
  simp only [key, podKey, CPod.mk.injEq, Pod.mk.injEq, true_and] at hk
  obtain ⟨rfl, ⟨rfl, rfl, rfl, rfl, rfl, rfl, rfl⟩, rfl, rfl, rfl⟩ := hk
  exact ⟨id', rfl⟩

theorem census_podKey (c u : String) (ps : List Pod) : census c u (ps.map podKey) = census c u ps := by
  unfold census
  simp only [List.length_map, List.filter_map, Status.mk.injEq, Nat.cast_inj, and_true, true_and]
  refine ⟨?_, ?_, ?_⟩ <;> rfl

theorem census_perm (c u : String) {ps qs : List Pod} (hp : ps.Perm qs) : census c u ps = census c u qs := by
  unfold census
  simp only [Status.mk.injEq, Nat.cast_inj, and_true]
  exact ⟨hp.length_eq, (hp.filter _).length_eq, (hp.filter _).length_eq, (hp.filter _).length_eq⟩

theorem census_of_keys (c u : String) {l1 l2 : List CPod} (hp : (l1.map key).Perm (l2.map key)) :
    census c u (l1.map (·.pod)) = census c u (l2.map (·.pod)) := by
  have h1 : ∀ l : List CPod, census c u (l.map (·.pod)) = census c u ((l.map key).map (·.pod)) := by
    intro l
    rw [← census_podKey, List.map_map, List.map_map]
    rfl
  rw [h1 l1, h1 l2]
  exact census_perm c u (hp.map _)

theorem mem_of_keys {l1 l2 : List CPod} (hp : (l1.map key).Perm (l2.map key)) {c : CPod} (hc : c ∈ l1) :
    ∃ c' ∈ l2, key c' = key c := by
  have : key c ∈ l2.map key := hp.mem_iff.1 (List.mem_map.2 ⟨c, hc, rfl⟩)
  rw [List.mem_map] at this
  exact this

def KeyPerm (A B : List CPod) : Prop := (A.map key).Perm (B.map key)

theorem KeyPerm.symm {A B : List CPod} (h : KeyPerm A B) : KeyPerm B A := List.Perm.symm h
theorem KeyPerm.trans {A B C : List CPod} (h1 : KeyPerm A B) (h2 : KeyPerm B C) : KeyPerm A C := List.Perm.trans h1 h2

theorem KeyPerm.mem {A B : List CPod} (h : KeyPerm A B) {x : CPod} (hx : x ∈ A) : ∃ y ∈ B, key y = key x := mem_of_keys h hx

theorem KeyPerm.ords {A B : List CPod} (h : KeyPerm A B) : (A.map (·.pod.ord)).Perm (B.map (·.pod.ord)) := by
  have h1 : ∀ l : List CPod, l.map (·.pod.ord) = (l.map key).map (·.pod.ord) := by
    intro l; rw [List.map_map]; rfl
  rw [h1 A, h1 B]
  exact List.Perm.map _ h

theorem KeyPerm.length {A B : List CPod} (h : KeyPerm A B) : A.length = B.length := by
  have := List.Perm.length_eq h
  simpa using this

theorem KeyPerm.filter {A B : List CPod} (h : KeyPerm A B) (p : CPod → Bool) (hp : ∀ c, p (key c) = p c) :
    KeyPerm (A.filter p) (B.filter p) := by
  unfold KeyPerm at *
  have h1 : ∀ l : List CPod, (l.filter p).map key = (l.map key).filter p := by
    intro l
    rw [List.filter_map]
    congr 1
    apply List.filter_congr
    intro c _
    exact (hp c).symm
  rw [h1 A, h1 B]
  exact List.Perm.filter _ h

theorem mem_ownPods {i : SyncIn} {c : CPod} : c ∈ ownPods i ↔ c ∈ i.pods ∧ c.owner = .self := by
  unfold ownPods; simp [List.mem_filter]

theorem final_transfer (h : Hashing) (i : SyncIn) (x : Int) (fr : Fresh) (P : List CPod)
    (hown : ((P.filter (fun c => c.owner == .self)).map key).Perm ((ownPods i).map key))
    (horph : ∀ c ∈ P, c.owner = .none → ∃ c' ∈ i.pods, c'.owner = .none ∧ c'.selMatch = c.selMatch ∧ c'.member = c.member ∧
      (c'.pod.terminating = true → c.pod.terminating = true))
    (hf : Final h i) :
    Final h { i with view := { i.view with stCurrentReplicas := x }, fresh := fr, pods := P } := by
  have hs := (specOk_iff i).1 hf.spec
  have hp := (podsFinal_iff i).1 hf.pods
  have hr := (revsFinal_iff h i).1 hf.revs
  have hst := hf.status
  set j : SyncIn := { i with view := { i.view with stCurrentReplicas := x }, fresh := fr, pods := P } with hj
  have hownj : ownPods j = P.filter (fun c => c.owner == .self) := rfl
  rw [← hownj] at hown
  have hsj : SpecOk j := hs.of_eq rfl rfl rfl rfl rfl rfl
  have hpj : PodsFinal j := by
    refine ⟨?_, ?_, ?_, ?_⟩
    · intro c hc hself
      have hcj : c ∈ ownPods j := mem_ownPods.2 ⟨hc, hself⟩
      obtain ⟨c', hc', hk⟩ := mem_of_keys hown hcj
      rw [mem_ownPods] at hc'
      obtain ⟨k, rfl⟩ := eq_of_key hk
      have := hp.own _ hc'.1 hc'.2
      exact this
    · intro c hc hnone
      obtain ⟨c', hc', ho, e1, e2, e3⟩ := horph c hc hnone
      rcases hp.orphan c' hc' ho with h1 | h1
      · left; rw [← e1, ← e2]; exact h1
      · right; exact e3 h1
    · intro o ho
      obtain ⟨c, hc, hco⟩ := hp.full o ho
      obtain ⟨c', hc', hk⟩ := mem_of_keys hown.symm hc
      refine ⟨c', hc', ?_⟩
      rw [← hco]
      exact key_transfer (·.pod.ord) (fun _ => rfl) hk
    · have := hown.length_eq
      rw [List.length_map, List.length_map] at this
      rw [this]
      exact hp.len
  have hrevs : ((ownPods j).map (·.pod.rev)).Perm ((ownPods i).map (·.pod.rev)) := by
    have h1 : ∀ l : List CPod, l.map (·.pod.rev) = (l.map key).map (·.pod.rev) := by
      intro l; rw [List.map_map]; rfl
    rw [h1, h1 (ownPods i)]
    exact hown.map _
  have hrj : revsFinal h j = true := by
    rw [revsFinal_iff]
    obtain ⟨l, b1, b2, b3, b4, b5, lim, b6, b7⟩ := hr
    refine ⟨l, b1, b2, b3, b4, b5, lim, b6, ?_⟩
    have hcont : ∀ n, (j.stored.currentRev :: j.stored.updateRev :: (ownPods j).map (·.pod.rev)).contains n =
        (i.stored.currentRev :: i.stored.updateRev :: (ownPods i).map (·.pod.rev)).contains n := fun n =>
      Bool.eq_iff_iff.2 (by rw [List.contains_iff_mem, List.contains_iff_mem]; exact ((hrevs.cons _).cons _).mem_iff)
    simp only [hcont]
    exact b7
  have hstj : inconsistentStatus j.stored (expectedStatus j) = false := by
    have : expectedStatus j = expectedStatus i := by
      simp only [expectedStatus]
      rw [census_of_keys _ _ hown]
      rfl
    rw [this]
    exact hst
  exact final_iff.2 ⟨(specOk_iff j).2 hsj, (podsFinal_iff j).2 hpj, hrj, hstj⟩

/-- `Final` does not see the order or the ids of the pod objects -/
theorem final_keyPerm (h : Hashing) (i : SyncIn) (x : Int) (fr : Fresh) {P : List CPod} (hk : KeyPerm P i.pods)
    (hf : Final h i) : Final h { i with view := { i.view with stCurrentReplicas := x }, fresh := fr, pods := P } := by
  refine final_transfer h i x fr P (hk.filter (fun c => c.owner == .self) (fun _ => rfl)) ?_ hf
  intro c hc hnone
  obtain ⟨c', hc', hkc⟩ := hk.mem hc
  obtain ⟨k, rfl⟩ := eq_of_key hkc.symm
  exact ⟨c', hc', hnone, rfl, rfl, fun ht => ht⟩

end Asts.C02p
