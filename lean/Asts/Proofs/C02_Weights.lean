import Asts.Proofs.C02_GNext
import Mathlib.Algebra.Order.BigOperators.Group.List

/-! C02: the measure, as a function of a pod list; weights are insensitive to order and ids. -/
namespace Asts.C02p
open Asts Asts.L1c

theorem find_ord_some {l : List CPod} (hnd : (l.map (·.pod.ord)).Nodup) {c : CPod} (hc : c ∈ l) :
    l.find? (·.pod.ord == c.pod.ord) = some c :=
  find_unique l _ c hc (by simp) (fun p hp hk => ord_inj_of_nodup hnd hp hc (by simpa using hk))

theorem find_ord_none {l : List CPod} {o : Int} (h : ∀ c ∈ l, c.pod.ord ≠ o) : l.find? (·.pod.ord == o) = none := by
  rw [List.find?_eq_none]
  intro c hc
  simpa using h c hc

theorem wOf_some {v : SetView} {upd : String} {l : List CPod} (hnd : (l.map (·.pod.ord)).Nodup) {c : CPod} (hc : c ∈ l) :
    wOf v upd l c.pod.ord = wPod v upd c.pod.ord c := by
  unfold wOf; rw [find_ord_some hnd hc]

theorem wOf_none {v : SetView} {upd : String} {l : List CPod} {o : Int} (h : ∀ c ∈ l, c.pod.ord ≠ o) : wOf v upd l o = 1 := by
  unfold wOf; rw [find_ord_none h]

theorem wOf_keyPerm {v : SetView} {upd : String} {A B : List CPod} (hk : KeyPerm A B) (hnd : (B.map (·.pod.ord)).Nodup) (o : Int) :
    wOf v upd A o = wOf v upd B o := by
  have hndA : (A.map (·.pod.ord)).Nodup := (hk.ords.nodup_iff).2 hnd
  by_cases hex : ∃ b ∈ B, b.pod.ord = o
  · obtain ⟨b, hb, rfl⟩ := hex
    obtain ⟨a, ha, hka⟩ := hk.symm.mem hb
    have hao : a.pod.ord = b.pod.ord := key_transfer (·.pod.ord) (fun _ => rfl) hka
    rw [wOf_some hnd hb, ← hao, wOf_some hndA ha, hao]
    exact key_transfer (wPod v upd b.pod.ord) (fun _ => rfl) hka
  · have hB : ∀ b ∈ B, b.pod.ord ≠ o := fun b hb hbo => hex ⟨b, hb, hbo⟩
    have hA : ∀ a ∈ A, a.pod.ord ≠ o := by
      intro a ha hao
      obtain ⟨b, hb, hkb⟩ := hk.mem ha
      exact hB b hb ((key_transfer (·.pod.ord) (fun _ => rfl) hkb).trans hao)
    rw [wOf_none hA, wOf_none hB]

/-- the "RollingUpdate still has to replace it" part of the weight -/
def outW (v : SetView) (upd : String) (o : Int) (rev : String) : Nat :=
  if v.strat == .rolling && partOf v ≤ o && rev != upd then 3 else 0

theorem outW_out {v : SetView} {upd : String} {o : Int} {rev : String} (hroll : v.strat = .rolling) (hpt : partOf v ≤ o)
    (hrev : rev ≠ upd) : outW v upd o rev = 3 := by
  unfold outW; simp [hroll, hpt, hrev]

theorem wPod_live {v : SetView} {upd : String} {o : Int} {c : CPod} (hfs : c.pod.fs = false) (hnt : c.pod.terminating = false) :
    wPod v upd o c = outW v upd o c.pod.rev + (if c.pod.idOk then 0 else 1) := by
  unfold wPod outW
  have : (c.pod.failed || c.pod.succeeded) = false := hfs
  simp [this, hnt]

theorem wPod_fs {v : SetView} {upd : String} {o : Int} {c : CPod} (hfs : c.pod.fs = true) (hnt : c.pod.terminating = false) :
    wPod v upd o c = 2 := by
  unfold wPod
  have : (c.pod.failed || c.pod.succeeded) = true := hfs
  simp [this, hnt]

/-- a new pod weighs nothing when the `rollingUpdate` block is present (or the strategy is OnDelete) -/
theorem outW_new (v : SetView) (hpart : v.strat = .onDelete ∨ ∃ p, v.ru = some (some p) ∧ 0 ≤ p) (cur upd : String) (o : Int) :
    outW v upd o (newPodRev v cur upd o) = 0 := by
  unfold outW
  by_cases hc : (v.strat == .rolling && decide (partOf v ≤ o)) = true
  · simp only [Bool.and_eq_true, beq_iff_eq, decide_eq_true_eq] at hc
    have hnod : v.strat ≠ .onDelete := by rw [hc.1]; simp
    obtain ⟨p, hru, _⟩ := hpart.resolve_left hnod
    rw [newPodRev_upd v cur _ o p hru hc.2]
    simp
  · have hc' : (v.strat == .rolling && decide (partOf v ≤ o)) = false := by simpa using hc
    rw [hc']
    rfl

/-- the measure of a pod list against a desired set -/
def muOf (v : SetView) (upd : String) (D : List Int) (pods : List CPod) : Nat :=
  (D.map (wOf v upd pods)).sum + 2 * (pods.filter (fun c => !D.contains c.pod.ord)).length

/-- both measures are a sum of weights over the desired ordinals plus twice a count: weights and count that do not go up
    give `≤`, and a strict drop of one weight or of the count gives `<` -/
theorem sum_add_step {D : List Int} {w w' : Int → Nat} {n n' : Nat} (hw : ∀ o ∈ D, w' o ≤ w o) (hn : n' ≤ n) :
    (D.map w').sum + 2 * n' ≤ (D.map w).sum + 2 * n ∧
    (((∃ o ∈ D, w' o < w o) ∨ n' < n) → (D.map w').sum + 2 * n' < (D.map w).sum + 2 * n) := by
  have hle : (D.map w').sum ≤ (D.map w).sum := List.sum_le_sum hw
  refine ⟨by omega, ?_⟩
  rintro (hlt | hlt)
  · have : (D.map w').sum < (D.map w).sum := List.sum_lt_sum _ _ hw hlt
    omega
  · omega

/-- and they see the pod list only up to order and ids when their weights do -/
theorem sum_add_keyPerm {D : List Int} {w w' : Int → Nat} {A B : List CPod} (hw : ∀ o ∈ D, w o = w' o) (hk : KeyPerm A B) :
    (D.map w).sum + 2 * (A.filter (fun c => !D.contains c.pod.ord)).length =
      (D.map w').sum + 2 * (B.filter (fun c => !D.contains c.pod.ord)).length := by
  rw [List.map_congr_left hw, (hk.filter (fun c => !D.contains c.pod.ord) (fun _ => rfl)).length]

/-- a positive measure, whatever the weights: a pod outside the desired set, or a desired ordinal of positive weight -/
theorem mu_pos_split {D : List Int} {w : Int → Nat} {pods : List CPod}
    (hpos : 0 < (D.map w).sum + 2 * (pods.filter (fun c => !D.contains c.pod.ord)).length) :
    (∃ c ∈ pods, c.pod.ord ∉ D) ∨ ∃ o ∈ D, 0 < w o := by
  by_cases hC : 0 < (pods.filter (fun c => !D.contains c.pod.ord)).length
  · obtain ⟨c, hc⟩ := List.exists_mem_of_length_pos hC
    rw [List.mem_filter] at hc
    exact Or.inl ⟨c, hc.1, by simpa using hc.2⟩
  · right
    by_contra hcon
    have : (D.map w).sum = 0 := by
      apply List.sum_eq_zero
      intro x hx
      rw [List.mem_map] at hx
      obtain ⟨o, ho, rfl⟩ := hx
      by_contra hne
      exact hcon ⟨o, ho, by omega⟩
    omega

theorem muPods_eq (i : SyncIn) :
    muPods i = muOf i.view (updName i) (desired (replicasOf i.view) i.view.slots) i.pods := rfl

theorem muOf_keyPerm {v : SetView} {upd : String} {D : List Int} {A B : List CPod} (hk : KeyPerm A B)
    (hnd : (B.map (·.pod.ord)).Nodup) : muOf v upd D A = muOf v upd D B :=
  sum_add_keyPerm (fun o _ => wOf_keyPerm hk hnd o) hk

end Asts.C02p
