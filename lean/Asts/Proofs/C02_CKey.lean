import Asts.Proofs.C02_CSim

/-! C02, worlds with non-members: list lemmas — taking the members (owned) commutes, up to pod ids, with everything a
    round does to the pod list. -/
namespace Asts.C02p
open Asts Asts.L1c

theorem own_settleOne (c : CPod) : own (settleOne c) = settleOne (own c) := by
  by_cases hfs : (c.pod.failed || c.pod.succeeded) = true
  · have h1 : settleOne c = c := by unfold settleOne; rw [if_pos hfs]
    have h2 : settleOne (own c) = own c := by unfold settleOne; rw [if_pos (by exact hfs)]
    rw [h1, h2]
  · have h1 : settleOne c = { c with pod := { c.pod with phase := .running, ready := true } } := by
      unfold settleOne; rw [if_neg hfs]
    have h2 : settleOne (own c) = { own c with pod := { (own c).pod with phase := .running, ready := true } } := by
      unfold settleOne; rw [if_neg (by exact hfs)]
    rw [h1, h2]
    rfl

theorem key_own (c : CPod) : key (own c) = own (key c) := rfl

theorem keyPerm_map_own {A B : List CPod} (hk : KeyPerm A B) : KeyPerm (A.map own) (B.map own) := by
  unfold KeyPerm at *
  have h1 : ∀ l : List CPod, (l.map own).map key = (l.map key).map own := by
    intro l; rw [List.map_map, List.map_map]; rfl
  rw [h1 A, h1 B]
  exact List.Perm.map _ hk

theorem keyPerm_ownM {A B : List CPod} (hk : KeyPerm A B) : KeyPerm (ownM A) (ownM B) :=
  keyPerm_map_own (hk.filter (·.member) (fun _ => rfl))

theorem ownM_settleStage (X : List CPod) :
    ownM ((X.filter (fun c => !c.pod.terminating)).map settleOne) = ((ownM X).filter (fun c => !c.pod.terminating)).map settleOne := by
  unfold ownM
  rw [List.filter_map, List.map_map, List.filter_map, List.map_map, List.filter_filter, List.filter_filter]
  have e1 : (own ∘ settleOne) = (settleOne ∘ own) := by funext c; exact own_settleOne c
  have e2 : ((fun c : CPod => c.member) ∘ settleOne) = fun c => c.member := by funext c; exact settleOne_member c
  have e3 : ((fun c : CPod => !c.pod.terminating) ∘ own) = fun c => !c.pod.terminating := rfl
  rw [e1, e2, e3]
  congr 2
  funext c
  exact Bool.and_comm _ _

theorem ownM_norm1 (l : List CPod) : ownM (l.map norm1) = ownM l := by
  unfold ownM
  rw [List.filter_map, List.map_map]
  have e1 : ((fun c : CPod => c.member) ∘ norm1) = fun c => c.member := by funext c; exact norm1_member c
  rw [e1]
  apply List.map_congr_left
  intro c _
  simp only [Function.comp]
  unfold norm1 flipOwner own
  split_ifs
  · split <;> rfl
  · rfl

/-- keeping the members commutes with the pod-control calls -/
theorem filterMem_applyActs (setName : String) (orig : List CPod) (acts : List Action) (pods : List CPod) :
    (applyActs setName orig pods acts).filter (·.member) = applyActs setName orig (pods.filter (·.member)) acts := by
  induction acts generalizing pods with
  | nil => rfl
  | cons a rest ih =>
    have hset : ∀ (L : List CPod) (p : CPod → Bool) (f : CPod → CPod), (∀ c, (f c).member = c.member) →
        (setPod L p f).filter (·.member) = setPod (L.filter (·.member)) p f := by
      intro L p f hm
      unfold setPod
      rw [List.filter_map]
      congr 1
      apply List.filter_congr
      intro c _
      simp only [Function.comp]
      split_ifs
      · exact hm c
      · rfl
    cases a with
    | create o rev =>
      unfold applyActs
      rw [ih, List.filter_append]
      rfl
    | delete o id w =>
      unfold applyActs
      rw [ih]
      congr 1
      have e : List.filter (fun c => !(c.pod.id == id && (c.pod.failed || c.pod.succeeded))) (pods.filter (·.member)) =
          (List.filter (fun c => !(c.pod.id == id && (c.pod.failed || c.pod.succeeded))) pods).filter (·.member) := by
        rw [List.filter_filter, List.filter_filter]
        apply List.filter_congr
        intro c _
        exact Bool.and_comm _ _
      rw [e]
      apply hset
      intro c; rfl
    | update o =>
      unfold applyActs
      rw [ih]
      congr 1
      apply hset
      intro c; rfl

theorem names_settleStage_nonmem (X : List CPod) :
    ((((X.filter (fun c => !c.pod.terminating)).map settleOne).filter (fun c => !c.member)).map (·.name)).Sublist
      ((X.filter (fun c => !c.member)).map (·.name)) := by
  rw [filter_settleOne (q := fun c => !c.member) (fun c => by simp only [settleOne_member]),
    map_settleOne (f := (·.name)) settleOne_name, List.filter_filter]
  apply List.Sublist.map
  apply List.monotone_filter_right
  intro c hc
  simp only [Bool.and_eq_true] at hc
  exact hc.1

theorem names_norm1_nonmem (l : List CPod) :
    ((l.map norm1).filter (fun c => !c.member)).map (·.name) = (l.filter (fun c => !c.member)).map (·.name) := by
  rw [List.filter_map, List.map_map]
  have e2 : ((fun c : CPod => !c.member) ∘ norm1) = fun c => !c.member := by
    funext c; simp only [Function.comp, norm1_member]
  rw [e2]
  apply List.map_congr_left
  intro c _
  simp only [Function.comp]
  unfold norm1 flipOwner
  split_ifs
  · split <;> rfl
  · rfl

theorem keyPerm_names {A B : List CPod} (hk : KeyPerm A B) : (A.map (·.name)).Perm (B.map (·.name)) := by
  have h1 : ∀ l : List CPod, l.map (·.name) = (l.map key).map (·.name) := by
    intro l; rw [List.map_map]; rfl
  rw [h1 A, h1 B]
  exact List.Perm.map _ hk

end Asts.C02p
