import Mathlib.Tactic

/-! # `eraseDups` and lists without duplicates -/
namespace Asts.GL

theorem eraseDups_of_nodup {α : Type _} [BEq α] [LawfulBEq α] : ∀ {l : List α}, l.Nodup → l.eraseDups = l
  | [], _ => rfl
  | a :: as, h => by
    have hn := List.nodup_cons.1 h
    rw [List.eraseDups_cons]
    have hf : as.filter (fun b => !b == a) = as := by
      rw [List.filter_eq_self]
      intro b hb
      have : b ≠ a := fun e => hn.1 (e ▸ hb)
      simp [this]
    rw [hf, eraseDups_of_nodup hn.2]

theorem length_eraseDups_le {α : Type _} [BEq α] (l : List α) : l.eraseDups.length ≤ l.length := by
  induction h : l.length using Nat.strong_induction_on generalizing l with
  | _ n ih =>
    cases l with
    | nil => simp
    | cons a as =>
      rw [List.eraseDups_cons]
      have hf := List.length_filter_le (fun b => !b == a) as
      have := ih (as.filter fun b => !b == a).length (by simp only [List.length_cons] at h; omega) _ rfl
      simp only [List.length_cons] at h ⊢
      omega

/-- `eraseDups` removed nothing: there was no duplicate -/
theorem nodup_of_eraseDups_length {α : Type _} [BEq α] [LawfulBEq α] (l : List α)
    (h : l.eraseDups.length = l.length) : l.Nodup := by
  induction l with
  | nil => exact List.nodup_nil
  | cons a as ih =>
    rw [List.eraseDups_cons] at h
    have hf := List.length_filter_le (fun b => !b == a) as
    have he := length_eraseDups_le (as.filter fun b => !b == a)
    simp only [List.length_cons] at h
    have hfl : (as.filter fun b => !b == a).length = as.length := by omega
    have hall := List.length_filter_eq_length_iff.1 hfl
    have hfe : (as.filter fun b => !b == a) = as := List.filter_eq_self.2 hall
    rw [hfe] at h
    refine List.nodup_cons.2 ⟨?_, ih (by omega)⟩
    intro ha
    have := hall a ha
    simp at this

end Asts.GL
