import Asts.Proofs.Rc_Prep

/-! C12 (bounds): the loop invariant relating the running counters to what is still to be processed. -/
set_option linter.unnecessarySeqFocus false
namespace Asts.L1c

/-- not terminating and at revision `x` -/
def liveAt (x : String) (p : Pod) : Bool := !p.terminating && p.rev == x
/-- what the census counts for revision `x` -/
def countedAt (x : String) (p : Pod) : Bool := p.created && !p.terminating && p.rev == x

/-- `current` (k = true) or `updated` (k = false) -/
def ctr (k : Bool) (st : Status) : Int := if k then st.current else st.updated
def revK (k : Bool) (cur upd : String) : String := if k then cur else upd

def ind (b : Bool) : Int := if b then 1 else 0
theorem ind_true : ind true = 1 := rfl
theorem ind_false : ind false = 0 := rfl

theorem ctr_bump (k : Bool) (st : Status) (cur upd rev : String) (d : Int) :
    ctr k (bump st cur upd rev d) = ctr k st + (if rev == revK k cur upd then d else 0) := by
  cases k
  · simp [ctr, revK, bump_updated]
  · simp [ctr, revK, bump_current]

theorem ctr_replicas_irrel (k : Bool) (st : Status) (n : Int) : ctr k { st with replicas := n } = ctr k st := by
  cases k <;> rfl

/-- the invariant of the three loops, for one of the two revision counters -/
structure InvB (k : Bool) (cur upd : String) (s : St) (R W : List (Int × Pod)) (C : List Pod) : Prop where
  lower : cnt (countedAt (revK k cur upd)) (R.map (·.2)) + cnt (liveAt (revK k cur upd)) (W.map (·.2))
            + cnt (liveAt (revK k cur upd)) C ≤ ctr k s.status
  upper : cnt (fun p => p.fs && !liveAt (revK k cur upd) p) (R.map (·.2)) ≤ s.status.replicas - ctr k s.status
  rdy : cnt Pod.fs (R.map (·.2)) ≤ s.status.replicas - s.status.ready
  rdy0 : 0 ≤ s.status.ready

/-- what is to be shown of every status returned with `.ok` -/
def BndK (k : Bool) (st : Status) : Prop :=
  0 ≤ ctr k st ∧ ctr k st ≤ st.replicas ∧ 0 ≤ st.ready ∧ st.ready ≤ st.replicas

theorem InvB.bnd {k cur upd s R W C} (h : InvB k cur upd s R W C) : BndK k s.status := by
  have h1 := h.lower; have h2 := h.upper; have h3 := h.rdy; have h4 := h.rdy0
  have := cnt_nonneg (countedAt (revK k cur upd)) (R.map (·.2))
  have := cnt_nonneg (liveAt (revK k cur upd)) (W.map (·.2))
  have := cnt_nonneg (liveAt (revK k cur upd)) C
  have := cnt_nonneg (fun p => p.fs && !liveAt (revK k cur upd) p) (R.map (·.2))
  have := cnt_nonneg Pod.fs (R.map (·.2))
  refine ⟨?_, ?_, ?_, ?_⟩ <;> omega

theorem ctr_stepReplace (k : Bool) (v : SetView) (cur upd : String) (s : St) (i : Int) (q : Pod) :
    ctr k (stepReplace v cur upd s i q).status =
      ctr k s.status - ind (liveAt (revK k cur upd) q) + ind ((newPod v cur upd i).rev == revK k cur upd) := by
  unfold stepReplace liveAt ind
  simp only [ctr_bump, ctr_replicas_irrel]
  cases ht : q.terminating
  · simp only [Bool.false_eq_true, if_false, ctr_bump, Bool.not_false, Bool.true_and]
    split_ifs <;> omega
  · simp only [if_true, Bool.not_true, Bool.false_and, Bool.false_eq_true, if_false]
    split_ifs <;> omega

theorem replicas_stepReplace (v : SetView) (cur upd : String) (s : St) (i : Int) (q : Pod) :
    (stepReplace v cur upd s i q).status.replicas = s.status.replicas := by
  unfold stepReplace
  simp only [bump_replicas]
  split_ifs <;> simp

theorem ready_stepReplace (v : SetView) (cur upd : String) (s : St) (i : Int) (q : Pod) :
    (stepReplace v cur upd s i q).status.ready = s.status.ready := by
  unfold stepReplace
  simp only [bump_ready]
  split_ifs <;> simp

theorem ctr_stepCreate (k : Bool) (cur upd : String) (s : St) (i : Int) (q : Pod) :
    ctr k (stepCreate cur upd s i q).status = ctr k s.status + ind (q.rev == revK k cur upd) := by
  unfold stepCreate ind
  simp only [ctr_bump, ctr_replicas_irrel]

theorem replicas_stepCreate (cur upd : String) (s : St) (i : Int) (q : Pod) :
    (stepCreate cur upd s i q).status.replicas = s.status.replicas + 1 := by
  unfold stepCreate; simp

theorem ready_stepCreate (cur upd : String) (s : St) (i : Int) (q : Pod) :
    (stepCreate cur upd s i q).status.ready = s.status.ready := by
  unfold stepCreate; simp

theorem cnt_cons_ind (q : Pod → Bool) (p : Pod) (l : List Pod) : cnt q (p :: l) = cnt q l + ind (q p) := by
  rw [cnt_cons]; rfl

theorem ind_nonneg (b : Bool) : 0 ≤ ind b := by cases b <;> decide
theorem ind_le_one (b : Bool) : ind b ≤ 1 := by cases b <;> decide

theorem invB_hA (k : Bool) (v : SetView) (cur upd : String) (s : St) (i : Int) (q : Pod) (R W : List (Int × Pod)) (C : List Pod)
    (h : InvB k cur upd s ((i, q) :: R) W C) (hfs : q.fs = true) :
    InvB k cur upd (stepReplace v cur upd s i q) R (W ++ [(i, newPod v cur upd i)]) C := by
  have h1 := h.lower; have h2 := h.upper; have h3 := h.rdy
  simp only [List.map_cons, cnt_cons_ind] at h1 h2 h3
  have hcr := fs_created hfs
  have hnp : liveAt (revK k cur upd) (newPod v cur upd i) = ((newPod v cur upd i).rev == revK k cur upd) := by
    simp [liveAt, newPod]
  have hcq : countedAt (revK k cur upd) q = liveAt (revK k cur upd) q := by
    simp [countedAt, liveAt, hcr]
  rw [hcq] at h1
  rw [hfs] at h3
  simp only [hfs, Bool.true_and] at h2
  refine ⟨?_, ?_, ?_, ?_⟩
  · rw [ctr_stepReplace]
    simp only [List.map_append, List.map_cons, List.map_nil, cnt_append, cnt_cons_ind, cnt_nil, hnp]
    omega
  · rw [ctr_stepReplace, replicas_stepReplace]
    have := ind_le_one ((newPod v cur upd i).rev == revK k cur upd)
    cases hl : liveAt (revK k cur upd) q <;> simp only [hl, Bool.not_true, Bool.not_false, ind_true, ind_false] at h2 ⊢ <;> omega
  · rw [replicas_stepReplace, ready_stepReplace]
    simp only [ind_true] at h3
    omega
  · rw [ready_stepReplace]; exact h.rdy0

theorem invB_hB (k : Bool) (cur upd : String) (s : St) (i : Int) (q : Pod) (R W : List (Int × Pod)) (C : List Pod)
    (h : InvB k cur upd s ((i, q) :: R) W C) (hfs : q.fs = false) (hc : q.created = false) :
    InvB k cur upd (stepCreate cur upd s i q) R (W ++ [(i, q)]) C := by
  have h1 := h.lower; have h2 := h.upper; have h3 := h.rdy
  simp only [List.map_cons, cnt_cons_ind] at h1 h2 h3
  have hcq : countedAt (revK k cur upd) q = false := by simp [countedAt, hc]
  have hlq : ind (liveAt (revK k cur upd) q) ≤ ind (q.rev == revK k cur upd) := by
    unfold liveAt; cases q.terminating <;> simp [ind_nonneg, ind_false]
  rw [hcq] at h1
  rw [hfs] at h3
  simp only [hfs, Bool.false_and, ind_false] at h1 h2 h3
  refine ⟨?_, ?_, ?_, ?_⟩
  · rw [ctr_stepCreate]
    simp only [List.map_append, List.map_cons, List.map_nil, cnt_append, cnt_cons_ind, cnt_nil]
    omega
  · rw [ctr_stepCreate, replicas_stepCreate]
    have := ind_le_one (q.rev == revK k cur upd)
    omega
  · rw [replicas_stepCreate, ready_stepCreate]; omega
  · rw [ready_stepCreate]; exact h.rdy0

theorem invB_hC (k : Bool) (cur upd : String) (s : St) (i : Int) (q : Pod) (R W : List (Int × Pod)) (C : List Pod)
    (h : InvB k cur upd s ((i, q) :: R) W C) (hfs : q.fs = false) (hc : q.created = true) :
    InvB k cur upd s R (W ++ [(i, q)]) C := by
  have h1 := h.lower; have h2 := h.upper; have h3 := h.rdy
  simp only [List.map_cons, cnt_cons_ind] at h1 h2 h3
  have hcq : countedAt (revK k cur upd) q = liveAt (revK k cur upd) q := by
    simp [countedAt, liveAt, hc]
  rw [hcq] at h1
  rw [hfs] at h3
  simp only [hfs, Bool.false_and, ind_false] at h1 h2 h3
  refine ⟨?_, ?_, ?_, h.rdy0⟩
  · simp only [List.map_append, List.map_cons, List.map_nil, cnt_append, cnt_cons_ind, cnt_nil]
    omega
  · omega
  · omega

theorem invB_hU (k : Bool) (cur upd : String) (s : St) (a : List Action) (R W : List (Int × Pod)) (C : List Pod)
    (h : InvB k cur upd s R W C) : InvB k cur upd { s with acts := a } R W C :=
  ⟨h.lower, h.upper, h.rdy, h.rdy0⟩

theorem invB_hskip (k : Bool) (cur upd : String) (s : St) (c : Pod) (C : List Pod) (W : List (Int × Pod))
    (h : InvB k cur upd s [] W (c :: C)) : InvB k cur upd s [] W C := by
  have h1 := h.lower
  simp only [cnt_cons_ind] at h1
  have := ind_nonneg (liveAt (revK k cur upd) c)
  exact ⟨by omega, h.upper, h.rdy, h.rdy0⟩

theorem invB_hdel (k : Bool) (cur upd : String) (s : St) (c : Pod) (C : List Pod) (W : List (Int × Pod)) (a : List Action)
    (h : InvB k cur upd s [] W (c :: C)) (ht : c.terminating = false) :
    InvB k cur upd { acts := a, status := bump s.status cur upd c.rev (-1) } [] W C := by
  have h1 := h.lower; have h2 := h.upper; have h3 := h.rdy
  simp only [cnt_cons_ind] at h1
  have hl : liveAt (revK k cur upd) c = (c.rev == revK k cur upd) := by simp [liveAt, ht]
  rw [hl] at h1
  refine ⟨?_, ?_, ?_, ?_⟩
  · simp only [ctr_bump]
    cases hb : (c.rev == revK k cur upd) <;> simp only [hb, ind_true, ind_false, Bool.false_eq_true, if_false, if_true] at h1 ⊢ <;> omega
  · simp only [ctr_bump, bump_replicas]
    cases hb : (c.rev == revK k cur upd) <;> simp only [Bool.false_eq_true, if_false, if_true] <;> omega
  · simpa using h3
  · simpa using h.rdy0

theorem invB_hwalk (k : Bool) (cur upd : String) (s : St) (W : List (Int × Pod)) (t : Int) (q : Pod) (a : List Action)
    (h : InvB k cur upd s [] W []) (hm : (t, q) ∈ W) (hne : (q.rev != upd) = true) (ht : q.terminating = false) :
    BndK k ({ acts := a, status := if q.rev == cur then { s.status with current := s.status.current - 1 } else s.status } : St).status := by
  have hb := h.bnd
  have h1 := h.lower
  simp only [List.map_nil, cnt_nil] at h1
  unfold BndK at hb ⊢
  have hne' : (q.rev == upd) = false := by simpa using hne
  cases k with
  | false =>
    -- `updated` is untouched
    have : ∀ st : Status, ctr false (if q.rev == cur then { st with current := st.current - 1 } else st) = ctr false st := by
      intro st; split_ifs <;> rfl
    simp only [this]
    have h2 : ∀ st : Status, (if q.rev == cur then { st with current := st.current - 1 } else st).replicas = st.replicas := by
      intro st; split_ifs <;> rfl
    have h3 : ∀ st : Status, (if q.rev == cur then { st with current := st.current - 1 } else st).ready = st.ready := by
      intro st; split_ifs <;> rfl
    simp only [h2, h3]; exact hb
  | true =>
    by_cases hc : (q.rev == cur) = true
    · simp only [hc, if_true]
      have hl : liveAt (revK true cur upd) q = true := by simp [liveAt, revK, ht, hc]
      have hq : q ∈ W.map (·.2) := List.mem_map.2 ⟨(t, q), hm, rfl⟩
      have := cnt_pos_of_mem hq hl
      simp only [ctr, if_true] at hb h1 ⊢
      omega
    · simp only [hc, Bool.false_eq_true, if_false]; exact hb

/-- every status `runLoops` returns with `.ok` is within bounds, provided the invariant holds initially -/
theorem runLoops_bnd (k : Bool) (v : SetView) (cur upd : String) (f : Faults) (p : Prepared)
    (hinit : InvB k cur upd { status := p.st0 } p.reps [] p.condemned.reverse) :
    ∀ s, runLoops v cur upd f p = (s, .ok) → BndK k s.status := by
  apply runLoops_induct' v cur upd f p (InvB k cur upd) (fun s => BndK k s.status)
  · intro s R W C h; exact h.bnd
  · intro s i q R W C h hfs; exact invB_hA k v cur upd s i q R W C h hfs
  · intro s i q R W C h hfs hc; exact invB_hB k cur upd s i q R W C h hfs hc
  · intro s i q R W C h hfs hc; exact invB_hC k cur upd s i q R W C h hfs hc
  · intro s i R W C h; exact invB_hU k cur upd s _ R W C h
  · intro s c C W h; exact invB_hskip k cur upd s c C W h
  · intro s c C W h ht _; exact invB_hdel k cur upd s c C W _ h ht
  · intro s W t q h hm hne ht _; exact invB_hwalk k cur upd s W t q _ h hm hne ht
  · exact hinit

theorem census_ctr (k : Bool) (cur upd : String) (pods : List Pod) :
    ctr k (census cur upd pods) = cnt (countedAt (revK k cur upd)) pods := by
  cases k <;> simp only [ctr, revK, census, cnt_eq_filter_length, if_true, Bool.false_eq_true, if_false] <;> rfl

theorem census_ready (cur upd : String) (pods : List Pod) :
    (census cur upd pods).ready = cnt Pod.runningAndReady pods := by
  simp [census, cnt_eq_filter_length]

theorem cnt_compl (q : Pod → Bool) (l : List Pod) : cnt (fun p => !q p) l = l.length - cnt q l := by
  unfold cnt
  rw [List.length_eq_countP_add_countP q (l := l)]
  simp

theorem invB_init (k : Bool) (v : SetView) (cur upd : String) (pods : List Pod) (b : Int) (E : List Int)
    (hcr : ∀ p ∈ pods, p.created = true) :
    InvB k cur upd { status := st0Of v cur upd pods } (repsOf v cur upd b E pods) [] (condemnedOf b E pods).reverse := by
  have hctr : ctr k (st0Of v cur upd pods) = cnt (countedAt (revK k cur upd)) pods := by
    rw [← census_ctr]; cases k <;> rfl
  have hrep : (st0Of v cur upd pods).replicas = pods.length := by simp [st0Of, census]
  have hrdy : (st0Of v cur upd pods).ready = cnt Pod.runningAndReady pods := by
    rw [← census_ready cur upd]; rfl
  refine ⟨?_, ?_, ?_, ?_⟩
  · -- lower
    simp only [List.map_nil, cnt_nil, hctr]
    have h := count_split v cur upd b E pods (countedAt (revK k cur upd))
      (by intro p hp; simp only [countedAt, Bool.and_eq_true] at hp; exact hp.1.1)
    have hc : cnt (liveAt (revK k cur upd)) (condemnedOf b E pods).reverse
        = cnt (countedAt (revK k cur upd)) (condemnedOf b E pods) := by
      rw [cnt_perm (List.reverse_perm _)]
      unfold cnt
      congr 1
      apply List.countP_congr
      intro c hc
      have := hcr c (mem_condemnedOf.1 hc).1
      simp [liveAt, countedAt, this]
    rw [hc]; omega
  · -- upper
    simp only [hctr, hrep]
    have h := count_split v cur upd b E pods (fun p => p.fs && !liveAt (revK k cur upd) p)
      (by intro p hp; simp only [Bool.and_eq_true] at hp; exact fs_created hp.1)
    have h2 : cnt (fun p => p.fs && !liveAt (revK k cur upd) p) pods ≤ cnt (fun p => !countedAt (revK k cur upd) p) pods := by
      apply cnt_mono
      intro p _ hp
      simp only [Bool.and_eq_true, Bool.not_eq_true', liveAt, Bool.and_eq_false_iff] at hp
      simp only [countedAt, Bool.not_eq_true', Bool.and_eq_false_iff]
      rcases hp.2 with h | h
      · exact Or.inl (Or.inr h)
      · exact Or.inr h
    rw [cnt_compl] at h2
    have := cnt_nonneg (fun p => p.fs && !liveAt (revK k cur upd) p) (condemnedOf b E pods)
    omega
  · -- ready
    simp only [hrdy, hrep]
    have h := count_split v cur upd b E pods Pod.fs (fun p hp => fs_created hp)
    have h2 : cnt Pod.fs pods ≤ cnt (fun p => !p.runningAndReady) pods := by
      apply cnt_mono
      intro p _ hp
      simp [fs_not_rr hp]
    rw [cnt_compl] at h2
    have := cnt_nonneg Pod.fs (condemnedOf b E pods)
    omega
  · rw [hrdy]; exact cnt_nonneg _ _

/-- bounds of a status, as a `Prop` -/
def Bounded (st : Status) : Prop :=
  0 ≤ st.ready ∧ st.ready ≤ st.replicas ∧ 0 ≤ st.current ∧ st.current ≤ st.replicas ∧
  0 ≤ st.updated ∧ st.updated ≤ st.replicas

theorem C12bounds_iff (st : Status) : C12bounds st = true ↔ Bounded st := by
  simp [C12bounds, Bounded, and_assoc]

theorem census_bounded (cur upd : String) (pods : List Pod) (g : Int) (a b : String) :
    Bounded { census cur upd pods with observedGen := g, currentRev := a, updateRev := b } := by
  simp only [Bounded, census]
  have h1 := List.length_filter_le Pod.runningAndReady pods
  have h2 := List.length_filter_le (fun p => p.created && !p.terminating && p.rev == cur) pods
  have h3 := List.length_filter_le (fun p => p.created && !p.terminating && p.rev == upd) pods
  refine ⟨?_, ?_, ?_, ?_, ?_, ?_⟩ <;> omega

/-- C12 bounds for the status returned by the reconcile -/
theorem updateStatefulSet_bounded (v : SetView) (cur upd : String) (pods : List Pod) (f : Faults)
    (hcr : ∀ p ∈ pods, p.created = true) (s : St)
    (h : updateStatefulSet v cur upd pods f = (s, .ok)) : Bounded s.status := by
  obtain ⟨r, hr, ⟨_, rfl⟩ | ⟨_, hrun⟩⟩ := updateStatefulSet_ok h
  · exact census_bounded ..
  · have hinit : ∀ k, InvB k cur upd { status := (prepOf v cur upd r pods).st0 } (prepOf v cur upd r pods).reps []
        (prepOf v cur upd r pods).condemned.reverse := fun k => invB_init k v cur upd pods _ _ hcr
    have ht := runLoops_bnd true v cur upd f _ (hinit true) s hrun
    have hf := runLoops_bnd false v cur upd f _ (hinit false) s hrun
    simp only [BndK, ctr, if_true, Bool.false_eq_true, if_false] at ht hf
    exact ⟨ht.2.2.1, ht.2.2.2, ht.1, ht.2.1, hf.1, hf.2.1⟩

theorem completeRollingUpdate_bounded (v : SetView) (st : Status) (h : Bounded st) :
    Bounded (completeRollingUpdate v st) := by
  unfold completeRollingUpdate
  split_ifs
  · obtain ⟨h1, h2, h3, h4, h5, h6⟩ := h
    exact ⟨h1, h2, h5, h6, h5, h6⟩
  · exact h

end Asts.L1c
