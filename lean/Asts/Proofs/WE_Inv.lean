import Mathlib.Tactic
import Asts.Proofs.WE_Revert
import Asts.Proofs.SY_b_Scaling

/-! # WE — C08.norestart: the status half on one round, and the invariant behind it

`Pinned h p W`: in the world `W` a round left, the newest revision of the listing the next sync will work on equals the
fresh revision of the template (`EqualRevision`) and is the one `status.updateRevision` names. This is what a successful
reconcile establishes (in worlds without contradicting hash labels) and what `Final` asks of the revisions. From a pinned
world a round that follows ANY batch of replicas / delete-slots / pause / metadata / partition edits — whatever the pods, the
fault plan, the outcome — leaves `status.updateRevision` as it was (`norestart_status_step`).

`Inv W`: store names distinct, every stored revision visible to the set, and the revision `status.updateRevision` names
records the template and is the newest of the store (last in the order `SortControllerRevisions` uses). Under a hashing
whose labels never parse as numbers (`hnum`) it implies `Pinned` for every fault plan (`inv_pinned`), a successful reconcile
establishes it (`inv_established`: whatever `pickF` returns is the newest revision of the store it leaves, `top_pick`), and
every round that follows edits other than a template edit preserves it (`inv_preserved`). -/
namespace Asts.WE
open Asts Asts.SYb

def Pinned (h : Hashing) (p : List Fault) (W : SyncIn) : Prop :=
  ∃ l, (syncListing p (settle W)).getLast? = some l ∧
    equalRev l (freshOf h W.template (W.collisionCount.getD 0) (syncListing p (settle W))) = true ∧
    l.name = W.stored.updateRev

theorem syncListing_congr {i i' : SyncIn} (hs : SameRevisionInputs i i') (p : List Fault) :
    syncListing p i' = syncListing p i := by
  unfold syncListing adoptedStore; rw [hs.adopt]

/-- **the status half of C08.norestart on one round** -/
theorem norestart_status_step (h : Hashing) (W : SyncIn) (es : List Edit) (p : List Fault)
    (hes : ∀ e ∈ es, keepsTemplate e = true) (hpin : Pinned h p W) :
    (round h (applyEdits es W) p).2.status.updateRev = W.stored.updateRev := by
  obtain ⟨l, hl, heq, hname⟩ := hpin
  have hsame : SameRevisionInputs (settle W) (settle (applyEdits es W)) := settle_sameInputs (applyEdits_sameInputs es W hes)
  have hlist := syncListing_congr hsame p
  have hstored : (settle (applyEdits es W)).stored.updateRev = W.stored.updateRev := by
    show (applyEdits es W).stored.updateRev = _
    rw [(applyEdits_frame es W).stored]
  rw [round_status_updateRev]
  by_cases hrun : ((settle (applyEdits es W)).paused || !(settle (applyEdits es W)).selectorOk) = true
  · rw [syncF_eq, if_pos hrun]
    exact hstored
  · have hrun' : ((settle (applyEdits es W)).paused || !(settle (applyEdits es W)).selectorOk) = false := by simpa using hrun
    rcases sync_cases h (settle (applyEdits es W)) p hrun' with ⟨_, hst, _⟩ | ⟨⟨R⟩⟩
    · unfold reportedUpd; rw [hst]; exact hstored
    · rw [R.orep]
      have hp := R.hpick
      rw [hlist, hsame.template, hsame.cc] at hp
      have := (pickF_unchanged h p (settle W).template ((settle W).collisionCount.getD 0) (syncListing p (settle W)) R.sL hl heq).1
      rw [this] at hp
      have hupd : l = R.upd := by
        have := congrArg Prod.snd hp
        simp only [Option.some.injEq, Prod.mk.injEq] at this
        exact this.1
      rw [← hupd]; exact hname

def AllVis (S : List Rev) : Prop := ∀ r ∈ S, visibleRev r = true

def Top (S : List Rev) (l : Rev) : Prop := l ∈ S ∧ ∀ r ∈ S, r = l ∨ revLt r l = true

def Inv (W : SyncIn) : Prop :=
  (W.store.map (·.name)).Nodup ∧ AllVis W.store ∧
  ∃ l, Top W.store l ∧ l.data = W.template ∧ l.name = W.stored.updateRev

theorem visibleRev_iff (r : Rev) : visibleRev r = true ↔ (r.selMatch = true ∨ r.marker = true) ∧ r.owner ≠ .other := by
  unfold visibleRev
  simp only [Bool.and_eq_true, Bool.or_eq_true, bne_iff_ne, ne_eq]

theorem revLt_core {a a' b b' : Rev} (ha : core a' = core a) (hb : core b' = core b) : revLt a' b' = revLt a b := by
  simp only [core, Prod.mk.injEq] at ha hb
  unfold revLt
  rw [ha.1, ha.2.1, ha.2.2.1, hb.1, hb.2.1, hb.2.2.1]

theorem listing_mem {S : List Rev} (hn : (S.map (·.name)).Nodup) (hv : AllVis S) {r : Rev} :
    r ∈ sortRevs (listRevisions S) ↔ r ∈ S := by
  rw [mem_sortRevs, mem_listRevisions_iff hn]
  constructor
  · exact fun hh => hh.1
  · intro hr
    have := (visibleRev_iff r).mp (hv r hr)
    exact ⟨hr, this.1, this.2⟩

theorem pairwise_last {α} {R : α → α → Prop} {L : List α} (hp : L.Pairwise R) {m x : α} (hm : L.getLast? = some m)
    (hx : x ∈ L) : x = m ∨ R x m := by
  have hne : L ≠ [] := by intro hnil; rw [hnil] at hm; simp at hm
  have hlast : L.getLast hne = m := by
    rw [List.getLast?_eq_getLast hne] at hm; exact Option.some.inj hm
  have hsplit : L = L.dropLast ++ [m] := by rw [← hlast]; exact (List.dropLast_append_getLast hne).symm
  rw [hsplit] at hp hx
  rw [List.pairwise_append] at hp
  rcases List.mem_append.mp hx with hx1 | hx1
  · exact Or.inr (hp.2.2 x hx1 m (by simp))
  · simp at hx1; exact Or.inl hx1

theorem last_of_top {S : List Rev} (hn : (S.map (·.name)).Nodup) (hv : AllVis S) {l : Rev} (ht : Top S l) :
    (sortRevs (listRevisions S)).getLast? = some l := by
  have hl : l ∈ sortRevs (listRevisions S) := (listing_mem hn hv).mpr ht.1
  cases hm : (sortRevs (listRevisions S)).getLast? with
  | none => rw [List.getLast?_eq_none_iff] at hm; rw [hm] at hl; simp at hl
  | some m =>
    have hmS : m ∈ S := (listing_mem hn hv).mp (List.mem_of_getLast? hm)
    rcases ht.2 m hmS with h1 | h1
    · rw [h1]
    · have hs : SortedRevs (sortRevs (listRevisions S)) := sortRevs_sorted _
      rcases pairwise_last hs hm hl with h2 | h2
      · rw [h2]
      · rw [h1] at h2; exact absurd h2 (by decide)

theorem top_of_last {S : List Rev} (hn : (S.map (·.name)).Nodup) (hv : AllVis S) {l : Rev}
    (hl : (sortRevs (listRevisions S)).getLast? = some l) : Top S l := by
  have hlS : l ∈ S := (listing_mem hn hv).mp (List.mem_of_getLast? hl)
  refine ⟨hlS, fun r hr => ?_⟩
  have hrL : r ∈ sortRevs (listRevisions S) := (listing_mem hn hv).mpr hr
  have hs : SortedRevs (sortRevs (listRevisions S)) := sortRevs_sorted _
  rcases pairwise_last hs hl hrL with h1 | h1
  · exact Or.inl h1
  · by_cases hne : r.name = l.name
    · exact Or.inl (List.inj_on_of_nodup_map hn hr hlS hne)
    · rcases revLt_total hne with h2 | h2
      · exact Or.inr h2
      · rw [h1] at h2; exact absurd h2 (by decide)

theorem allVis_adopted {S A : List Rev} (ha : AdoptedFrom S A) (hv : AllVis S) : AllVis A := by
  obtain ⟨f, hf, rfl⟩ := ha
  intro y hy
  obtain ⟨x, hx, rfl⟩ := List.mem_map.mp hy
  have := visible_adopted (hf x) (hv x hx)
  exact (visibleRev_iff _).mpr this

theorem top_adopted {S : List Rev} {f : Rev → Rev} (hf : ∀ x, AdoptRel x (f x)) {l : Rev} (ht : Top S l) :
    Top (S.map f) (f l) := by
  refine ⟨List.mem_map_of_mem ht.1, ?_⟩
  intro y hy
  obtain ⟨x, hx, rfl⟩ := List.mem_map.mp hy
  rcases ht.2 x hx with h1 | h1
  · exact Or.inl (by rw [h1])
  · right; rw [revLt_core (hf x).1 (hf l).1]; exact h1

theorem equalRev_fresh_of_hnum {h : Hashing} (hnum : ∀ d c, h.hashNumOf d c = none) (r : Rev) (t : String) (cc : Int)
    (revs : List Rev) : equalRev r (freshOf h t cc revs) = (r.data == t) := by
  unfold equalRev freshOf
  simp only [hnum]
  cases r.hashNum <;> simp

/-- **the invariant pins the update revision**, whatever the fault plan of the next round -/
theorem inv_pinned {h : Hashing} (hnum : ∀ d c, h.hashNumOf d c = none) {W : SyncIn} (hI : Inv W) (p : List Fault) :
    Pinned h p W := by
  obtain ⟨hn, hv, l, ht, hd, hname⟩ := hI
  obtain ⟨f, hf, hA⟩ := adoptedStore_adopted p (settle W)
  have hAn : ((adoptedStore p (settle W)).map (·.name)).Nodup := adoptedStore_nodup p hn
  have hAv : AllVis (adoptedStore p (settle W)) := allVis_adopted (adoptedStore_adopted p (settle W)) hv
  have htop : Top (adoptedStore p (settle W)) (f l) := by rw [hA]; exact top_adopted hf ht
  have hcore := (hf l).1
  simp only [core, Prod.mk.injEq] at hcore
  refine ⟨f l, last_of_top hAn hAv htop, ?_, hcore.1.trans hname⟩
  rw [equalRev_fresh_of_hnum hnum, hcore.2.2.2.1, hd]
  simp

theorem visible_setNumber (e : String) (n : Int) (r : Rev) : visibleRev (setNumber e n r) = visibleRev r := by
  unfold setNumber; split <;> rfl

theorem allVis_pick (h : Hashing) (plan : List Fault) (t : String) (cc0 : Int) (revs : List Rev) (s : RevSt)
    (hv : AllVis s.store) : AllVis (pickF h plan t cc0 revs s).1.store := by
  rcases pickF_store h plan t cc0 revs s with h1 | ⟨e, n, h1⟩ | ⟨cc, _, _, h1, _⟩
  · rw [h1]; exact hv
  · rw [h1]; intro y hy
    obtain ⟨x, hx, rfl⟩ := List.mem_map.mp hy
    rw [visible_setNumber]; exact hv x hx
  · rw [h1]; intro y hy
    rcases mem_insertByName.mp hy with rfl | hy
    · rfl
    · exact hv y hy

theorem allVis_sublist {S T : List Rev} (hs : T.Sublist S) (hv : AllVis S) : AllVis T := fun r hr => hv r (hs.subset hr)

theorem sync_allVis (h : Hashing) (i : SyncIn) (plan : List Fault) (hv : AllVis i.store) : AllVis (syncF h i plan).store := by
  by_cases hrun : (i.paused || !i.selectorOk) = true
  · rw [syncF_eq, if_pos hrun]; exact hv
  · have hrun' : (i.paused || !i.selectorOk) = false := by simpa using hrun
    have hA : AllVis (adoptedStore plan i) := allVis_adopted (adoptedStore_adopted plan i) hv
    rcases sync_cases h i plan hrun' with ⟨_, _, ⟨h3, _⟩ | ⟨sL, hs, _, h3, _⟩⟩ | ⟨⟨R⟩⟩
    · exact allVis_adopted h3 hv
    · rw [h3]; exact allVis_pick h plan _ _ _ sL (by rw [hs]; exact hA)
    · rw [R.ostore]
      apply allVis_sublist (truncateF_store _ _ _ _ _ _ _).1
      rw [R.hT, R.sG_eq]
      exact allVis_pick h plan _ _ _ R.sL (by rw [R.hL]; exact hA)

theorem revLt_of_number {a b : Rev} (hlt : a.number < b.number) : revLt a b = true := (revLt_iff a b).mpr (Or.inl hlt)

theorem top_pick {h : Hashing} (hnum : ∀ d c, h.hashNumOf d c = none) (plan : List Fault) (t : String) (cc0 : Int)
    (A : List Rev) (hn : (A.map (·.name)).Nodup) (hv : AllVis A) (s : RevSt) (hs : s.store = A) {upd : Rev} {cc : Int}
    {sG : RevSt} (hp : pickF h plan t cc0 (sortRevs (listRevisions A)) s = (sG, some (upd, cc))) :
    Top sG.store upd := by
  have hsorted : SortedRevs (sortRevs (listRevisions A)) := sortRevs_sorted _
  have hmemL : ∀ {r : Rev}, r ∈ sortRevs (listRevisions A) ↔ r ∈ A := listing_mem hn hv
  have hnext : ∀ r ∈ A, r.number < (freshOf h t cc0 (sortRevs (listRevisions A))).number := by
    intro r hr
    exact nextRevision_gt hsorted r (hmemL.mpr hr)
  -- a stored revision that records the template is among the equal ones
  have heqmem : ∀ r ∈ A, r.data = t → r ∈ equalsOf h t cc0 (sortRevs (listRevisions A)) := by
    intro r hr hd
    unfold equalsOf
    rw [List.mem_filter]
    refine ⟨hmemL.mpr hr, ?_⟩
    rw [equalRev_fresh_of_hnum hnum, hd]; simp
  unfold pickF at hp
  cases he : (equalsOf h t cc0 (sortRevs (listRevisions A))).getLast? with
  | none =>
    rw [he] at hp
    simp only at hp
    have hnil : equalsOf h t cc0 (sortRevs (listRevisions A)) = [] := List.getLast?_eq_none_iff.mp he
    obtain ⟨_, hst, hret, _⟩ := createRevLoopF_spec h plan (freshOf h t cc0 (sortRevs (listRevisions A))) (s.store.length + 8) cc0 s
    simp only [hp] at hst hret
    obtain ⟨hu1, hu2, _, _, hu5⟩ := hret upd cc rfl
    have hdata : upd.data = t := hu2
    have hnotA : upd ∉ A := by
      intro hA
      have := heqmem upd hA hdata
      rw [hnil] at this; simp at this
    rcases hst with hst | ⟨cc', _, hres, _, hst⟩
    · rw [hst, hs] at hu1; exact absurd hu1 hnotA
    · simp only [Option.some.injEq, Prod.mk.injEq] at hres
      have hupd : upd = candidate h (freshOf h t cc0 (sortRevs (listRevisions A))) cc' := hres.1
      rw [hst, hs]
      refine ⟨by rw [hupd]; exact mem_insertByName.mpr (Or.inl rfl), ?_⟩
      intro r hr
      rcases mem_insertByName.mp hr with h1 | h1
      · exact Or.inl (by rw [h1, hupd])
      · right
        apply revLt_of_number
        rw [hupd]
        exact hnext r h1
  | some e =>
    have hem := mem_equalsOf (List.mem_of_getLast? he)
    have heA : e ∈ A := hmemL.mp hem.1
    cases hl : (sortRevs (listRevisions A)).getLast? with
    | none =>
      rw [List.getLast?_eq_none_iff] at hl
      rw [hl] at hem; simp at hem
    | some l =>
      rw [he, hl] at hp
      simp only at hp
      split_ifs at hp with c1 c2 c3
      · -- the newest revision is used as it is
        simp only [Prod.mk.injEq, Option.some.injEq] at hp
        obtain ⟨h1, h2, _⟩ := hp
        rw [← h1, ← h2, hs]
        exact top_of_last hn hv hl
      · -- the equal revision already carries the next number: impossible
        have := hnext e heA
        simp only [beq_iff_eq] at c2
        omega
      · -- renumbered
        simp only [Prod.mk.injEq, Option.some.injEq] at hp
        obtain ⟨h1, h2, _⟩ := hp
        have hst := (renumberF_spec plan e.name (freshOf h t cc0 (sortRevs (listRevisions A))).number 4 s).2.1
        rw [c3] at hst
        simp only [if_true] at hst
        rw [← h1, hst, hs, ← h2]
        refine ⟨?_, ?_⟩
        · rw [← setNumber_self e]; exact List.mem_map_of_mem heA
        · intro y hy
          obtain ⟨r, hr, rfl⟩ := List.mem_map.mp hy
          by_cases hre : r.name = e.name
          · left
            have : r = e := List.inj_on_of_nodup_map hn hr heA hre
            rw [this, setNumber_self]
          · right
            have hno : setNumber e.name (freshOf h t cc0 (sortRevs (listRevisions A))).number r = r := by
              unfold setNumber
              rw [if_neg (by simpa using hre)]
            rw [hno]
            apply revLt_of_number
            exact hnext r hr
      · simp at hp

theorem top_sublist {S T : List Rev} (hs : T.Sublist S) {l : Rev} (ht : Top S l) (hl : l ∈ T) : Top T l :=
  ⟨hl, fun r hr => ht.2 r (hs.subset hr)⟩

theorem round_stored_updateRev (h : Hashing) (w : SyncIn) (p : List Fault) :
    (round h w p).1.stored.updateRev = reportedUpd (settle w) (syncF h (settle w) p) := round_status_updateRev h w p

/-- **a successful reconcile establishes the invariant** (whatever the edits before it, whatever the fault plan) -/
theorem inv_established {h : Hashing} (hnum : ∀ d c, h.hashNumOf d c = none) (W : SyncIn) (p : List Fault)
    (hn : (W.store.map (·.name)).Nodup) (hv : AllVis W.store)
    (hrun : (W.paused || !W.selectorOk) = false) (hok : (round h W p).2.out = "ok") : Inv (round h W p).1 := by
  have hok' := (round_out_ok h W p).mp hok
  have hrun' : ((settle W).paused || !(settle W).selectorOk) = false := hrun
  refine ⟨?_, ?_, ?_⟩
  · rw [round_store]; exact sync_names_nodup h (settle W) p hn
  · rw [round_store]; exact sync_allVis h (settle W) p hv
  · rcases sync_cases h (settle W) p hrun' with ⟨h1, _⟩ | ⟨⟨R⟩⟩
    · exact absurd hok' h1
    · have hAn : ((adoptedStore p (settle W)).map (·.name)).Nodup := adoptedStore_nodup p hn
      have hAv : AllVis (adoptedStore p (settle W)) := allVis_adopted (adoptedStore_adopted p (settle W)) hv
      have htop := top_pick hnum p (settle W).template ((settle W).collisionCount.getD 0) (adoptedStore p (settle W)) hAn hAv
        R.sL R.hL R.hpick
      obtain ⟨hd, hmem, _⟩ := R.upd_stored
      refine ⟨R.upd, ?_, hd, ?_⟩
      · rw [round_store, R.ostore]
        apply top_sublist (truncateF_store _ _ _ _ _ _ _).1 _ (by rw [← R.ostore]; exact hmem)
        rw [R.hT]; exact htop
      · rw [round_stored_updateRev, R.orep]

/-- **a round that follows edits other than a template edit preserves the invariant** (whatever its outcome) -/
theorem inv_preserved {h : Hashing} (hnum : ∀ d c, h.hashNumOf d c = none) (W : SyncIn) (es : List Edit) (p : List Fault)
    (hes : ∀ e ∈ es, keepsTemplate e = true) (hI : Inv W) : Inv (round h (applyEdits es W) p).1 := by
  have hstat := norestart_status_step h W es p hes (inv_pinned hnum hI p)
  obtain ⟨hn, hv, l, ht, hd, hname⟩ := hI
  have hst : (applyEdits es W).store = W.store := (applyEdits_frame es W).store
  have htpl : (applyEdits es W).template = W.template := (applyEdits_sameInputs es W hes).template
  have hn' : ((settle (applyEdits es W)).store.map (·.name)).Nodup := by
    show ((applyEdits es W).store.map (·.name)).Nodup
    rw [hst]; exact hn
  have hv' : AllVis (settle (applyEdits es W)).store := by
    show AllVis (applyEdits es W).store
    rw [hst]; exact hv
  refine ⟨?_, ?_, ?_⟩
  · rw [round_store]; exact sync_names_nodup h _ p hn'
  · rw [round_store]; exact sync_allVis h _ p hv'
  · -- the revision the status names, adopted, is still the newest
    have hname' : ∀ x : Rev, core x = core l →
        x.data = (round h (applyEdits es W) p).1.template ∧ x.name = (round h (applyEdits es W) p).1.stored.updateRev := by
      intro x hc
      simp only [core, Prod.mk.injEq] at hc
      refine ⟨?_, ?_⟩
      · show x.data = (applyEdits es W).template
        rw [htpl, hc.2.2.2.1]; exact hd
      · show x.name = (round h (applyEdits es W) p).2.status.updateRev
        rw [hstat, hc.1]; exact hname
    rw [round_store]
    by_cases hrun : ((settle (applyEdits es W)).paused || !(settle (applyEdits es W)).selectorOk) = true
    · rw [syncF_eq, if_pos hrun]
      refine ⟨l, ?_, hname' l rfl⟩
      show Top (applyEdits es W).store l
      rw [hst]; exact ht
    · have hrun' : ((settle (applyEdits es W)).paused || !(settle (applyEdits es W)).selectorOk) = false := by simpa using hrun
      obtain ⟨f, hf, hA⟩ := adoptedStore_adopted p (settle (applyEdits es W))
      have hA' : adoptedStore p (settle (applyEdits es W)) = W.store.map f := by
        rw [hA]; show (applyEdits es W).store.map f = _; rw [hst]
      have hAn : ((adoptedStore p (settle (applyEdits es W))).map (·.name)).Nodup := adoptedStore_nodup p hn'
      have hAv : AllVis (adoptedStore p (settle (applyEdits es W))) :=
        allVis_adopted (adoptedStore_adopted p (settle (applyEdits es W))) hv'
      have htopA : Top (adoptedStore p (settle (applyEdits es W))) (f l) := by rw [hA']; exact top_adopted hf ht
      have hlast : (syncListing p (settle (applyEdits es W))).getLast? = some (f l) := last_of_top hAn hAv htopA
      have hcore := (hf l).1
      have heq : equalRev (f l) (freshOf h (settle (applyEdits es W)).template ((settle (applyEdits es W)).collisionCount.getD 0)
          (syncListing p (settle (applyEdits es W)))) = true := by
        rw [equalRev_fresh_of_hnum hnum]
        have hx : (f l).data = (settle (applyEdits es W)).template := (hname' (f l) hcore).1
        rw [hx]; simp
      have hpick : ∀ s : RevSt, pickF h p (settle (applyEdits es W)).template ((settle (applyEdits es W)).collisionCount.getD 0)
          (syncListing p (settle (applyEdits es W))) s = (s, some (f l, (settle (applyEdits es W)).collisionCount.getD 0)) :=
        fun s => (pickF_unchanged h p _ _ _ s hlast heq).1
      rcases sync_cases h (settle (applyEdits es W)) p hrun' with ⟨_, _, ⟨h3, _⟩ | ⟨sL, hs, _, h3, _⟩⟩ | ⟨⟨R⟩⟩
      · obtain ⟨g, hg, hG⟩ := h3
        refine ⟨g l, ?_, hname' (g l) (hg l).1⟩
        rw [hG]; show Top ((applyEdits es W).store.map g) (g l)
        rw [hst]; exact top_adopted hg ht
      · refine ⟨f l, ?_, hname' (f l) hcore⟩
        rw [h3, hpick sL, hs]; exact htopA
      · have hp := R.hpick
        rw [hpick R.sL] at hp
        simp only [Prod.mk.injEq, Option.some.injEq] at hp
        obtain ⟨h1, h2, _⟩ := hp
        obtain ⟨_, hmem, _⟩ := R.upd_stored
        refine ⟨f l, ?_, hname' (f l) hcore⟩
        rw [R.ostore]
        apply top_sublist (truncateF_store _ _ _ _ _ _ _).1 _ (by rw [← R.ostore, h2]; exact hmem)
        rw [R.hT, ← h1, R.hL]; exact htopA

end Asts.WE
