import Asts.Proofs.L1_b_Prep

/-! # L1_b — what the three loops of `updateStatefulSet` may emit

One specification lemma per step function (`ensurePod`, `replicaStep`, `replicaLoop`, `condemnedLoop`, `updateStage`),
each read off the equations of `Rc_Frame`, composed in `runLoops_spec`: every action of a run is *justified* (`Just`)
by the prepared data, at most one action is an update-delete, and under OrderedReady all creates/deletes share one
ordinal. -/
namespace Asts.L1b
open List


def _root_.Asts.Action.ord : Action → Int | .create o _ => o | .delete o _ _ => o | .update o => o
/-- a create or a delete (the actions C05 counts) -/
def _root_.Asts.Action.isCD : Action → Bool | .update _ => false | _ => true
/-- a delete issued by the update walk -/
def _root_.Asts.Action.isUpdDel : Action → Bool | .delete _ _ .update => true | _ => false

/-- what one iteration of the replica loop at slot `(i, p0)` may emit -/
inductive StepAct (v : SetView) (cur upd : String) (i : Int) (p0 : Pod) : Action → Prop
  | del : (p0.failed || p0.succeeded) = true → StepAct v cur upd i p0 (.delete i p0.id .replaceFailed)
  | createNew : (p0.failed || p0.succeeded) = true → StepAct v cur upd i p0 (.create i (newPodRev v cur upd i))
  | createOld : p0.created = false → StepAct v cur upd i p0 (.create i p0.rev)
  | upd : StepAct v cur upd i p0 (.update i)

theorem StepAct.ord_eq {v : SetView} {cur upd : String} {i : Int} {p0 : Pod} {a : Action}
    (h : StepAct v cur upd i p0 a) : a.ord = i := by
  cases h <;> rfl

theorem StepAct.not_updDel {v : SetView} {cur upd : String} {i : Int} {p0 : Pod} {a : Action}
    (h : StepAct v cur upd i p0 a) : a.isUpdDel = false := by
  cases h <;> rfl

theorem ensurePod_spec (cur upd : String) (f : Faults) (mono : Bool) (s : St) (i : Int) (p : Pod) :
    ∃ l, (ensurePod cur upd f mono s i p).st.acts = s.acts ++ l ∧
      (∀ a ∈ l, (a = .create i p.rev ∧ p.created = false) ∨ a = .update i) ∧
      ((ensurePod cur upd f mono s i p).isNext = true → mono = true →
        p.healthy = true ∧ ∀ a ∈ l, a.isCD = false) := by
  cases hc : p.created
  · rw [L1c.ensurePod_vacant _ _ _ _ _ _ hc]
    refine ⟨[.create i p.rev], ?_, fun a ha => Or.inl ⟨List.mem_singleton.1 ha, rfl⟩, fun hn hm => ?_⟩
    · cases f.hit 0 i
      · cases mono <;> rfl
      · rfl
    · subst hm
      cases hf : f.hit 0 i
      · rw [hf] at hn; cases hn
      · rw [hf] at hn; cases hn
  · rw [L1c.ensurePod_created _ _ _ _ _ _ hc]
    -- past the waiting test, OrderedReady has seen a healthy pod
    have hh : ¬ (!p.healthy && mono) = true → mono = true → p.healthy = true := by
      intro h hm
      cases hp : p.healthy
      · exact absurd (by rw [hp, hm]; rfl) h
      · rfl
    split_ifs with h1 h2 h3
    · exact ⟨[], (List.append_nil _).symm, fun _ h => (nomatch h), fun hn => (nomatch hn)⟩
    · exact ⟨[], (List.append_nil _).symm, fun _ h => (nomatch h), fun _ hm => ⟨hh h1 hm, fun _ h => (nomatch h)⟩⟩
    · exact ⟨[.update i], rfl, fun a ha => Or.inr (List.mem_singleton.1 ha), fun hn => (nomatch hn)⟩
    · exact ⟨[.update i], rfl, fun a ha => Or.inr (List.mem_singleton.1 ha),
        fun _ hm => ⟨hh h1 hm, fun a ha => by rw [List.mem_singleton.1 ha]; rfl⟩⟩

theorem replicaStep_spec (v : SetView) (cur upd : String) (f : Faults) (mono : Bool) (s : St) (i : Int) (p0 : Pod) :
    ∃ l, (replicaStep v cur upd f mono s i p0).1.st.acts = s.acts ++ l ∧
      (∀ a ∈ l, StepAct v cur upd i p0 a) ∧
      ((replicaStep v cur upd f mono s i p0).2 = p0 ∨ (replicaStep v cur upd f mono s i p0).2 = newPod v cur upd i) ∧
      ((replicaStep v cur upd f mono s i p0).1.isNext = true →
        ((replicaStep v cur upd f mono s i p0).2.failed || (replicaStep v cur upd f mono s i p0).2.succeeded) = false ∧
        (mono = true → p0.healthy = true ∧ ∀ a ∈ l, a.isCD = false)) := by
  cases hfs : p0.fs
  · rw [L1c.replicaStep_keep _ _ _ _ _ _ _ hfs]
    obtain ⟨l, h1, h2, h3⟩ := ensurePod_spec cur upd f mono s i p0
    refine ⟨l, h1, fun a ha => ?_, Or.inl rfl, fun hn => ⟨hfs, h3 hn⟩⟩
    rcases h2 a ha with ⟨rfl, hc⟩ | rfl
    · exact .createOld hc
    · exact .upd
  · rw [L1c.replicaStep_replace _ _ _ _ _ _ _ hfs]
    split_ifs
    · exact ⟨[.delete i p0.id .replaceFailed], rfl, fun a ha => List.mem_singleton.1 ha ▸ .del hfs, Or.inl rfl,
        fun hn => (nomatch hn)⟩
    · obtain ⟨l, h1, h2, h3⟩ := ensurePod_spec cur upd f mono (L1c.stepDelete cur upd s i p0) i (newPod v cur upd i)
      refine ⟨.delete i p0.id .replaceFailed :: l, h1.trans (List.append_assoc ..), fun a ha => ?_, Or.inr rfl,
        fun hn => ⟨rfl, fun hm => ?_⟩⟩
      · rcases List.mem_cons.1 ha with rfl | ha
        · exact .del hfs
        · rcases h2 a ha with ⟨rfl, _⟩ | rfl
          · exact .createNew hfs
          · exact .upd
      · exact nomatch (Pod.healthy_created (h3 hn hm).1).symm.trans (L1c.newPod_created ..)

/-- a slot after the replica loop: same index, same object or the fresh replacement -/
def SlotRel (v : SetView) (cur upd : String) (x y : Int × Pod) : Prop :=
  y.1 = x.1 ∧ (y.2 = x.2 ∨ y.2 = newPod v cur upd x.1)

/-- what the replica loop over `reps` may emit -/
def RepAct (v : SetView) (cur upd : String) (mono : Bool) (reps : List (Int × Pod)) (a : Action) : Prop :=
  ∃ pre i p post, reps = pre ++ (i, p) :: post ∧ StepAct v cur upd i p a ∧
    (mono = true → ∀ x ∈ pre, x.2.healthy = true)

theorem replicaLoop_spec (v : SetView) (cur upd : String) (f : Faults) (mono : Bool) (reps : List (Int × Pod)) :
    ∀ (s : St) (c : Ctl) (reps' : List (Int × Pod)), replicaLoop v cur upd f mono s reps = (c, reps') →
    ∃ l, c.st.acts = s.acts ++ l ∧
      (∀ a ∈ l, RepAct v cur upd mono reps a) ∧
      List.Forall₂ (SlotRel v cur upd) reps reps' ∧
      (mono = true → ∃ i, ∀ a ∈ l, a.isCD = true → a.ord = i) ∧
      (c.isNext = true →
        (∀ y ∈ reps', (y.2.failed || y.2.succeeded) = false) ∧
        (mono = true → (∀ x ∈ reps, x.2.healthy = true) ∧ ∀ a ∈ l, a.isCD = false)) := by
  induction reps with
  | nil =>
    intro s c reps' h
    simp only [replicaLoop, Prod.mk.injEq] at h
    obtain ⟨rfl, rfl⟩ := h
    exact ⟨[], by simp [Ctl.st], by simp, List.Forall₂.nil, fun _ => ⟨0, by simp⟩, fun _ => ⟨by simp, fun _ => by simp⟩⟩
  | cons ip rest ih =>
    obtain ⟨i, p⟩ := ip
    intro s c reps' h
    obtain ⟨l1, h1, h2, h3, h4⟩ := replicaStep_spec v cur upd f mono s i p
    rw [replicaLoop] at h
    cases hs : replicaStep v cur upd f mono s i p with
    | mk c1 p' =>
      rw [hs] at h h1 h3 h4
      simp only at h1 h3 h4
      have hrel : SlotRel v cur upd (i, p) (i, p') := ⟨rfl, h3⟩
      cases c1 with
      | next s' =>
        simp only [Ctl.st] at h1
        simp only [Ctl.isNext, forall_const] at h4
        simp only at h
        cases hl : replicaLoop v cur upd f mono s' rest with
        | mk c2 rest' =>
          rw [hl] at h
          simp only [Prod.mk.injEq] at h
          obtain ⟨rfl, rfl⟩ := h
          obtain ⟨l2, g1, g2, g3, g4, g5⟩ := ih s' c2 rest' hl
          refine ⟨l1 ++ l2, by rw [g1, h1]; simp, ?_, List.Forall₂.cons hrel g3, ?_, ?_⟩
          · intro a ha
            rcases List.mem_append.1 ha with ha | ha
            · exact ⟨[], i, p, rest, rfl, h2 a ha, fun _ => by simp⟩
            · obtain ⟨pre, j, q, post, e1, e2, e3⟩ := g2 a ha
              refine ⟨(i, p) :: pre, j, q, post, by rw [e1]; rfl, e2, fun hm x hx => ?_⟩
              rcases List.mem_cons.1 hx with rfl | hx
              · exact (h4.2 hm).1
              · exact e3 hm x hx
          · intro hm
            obtain ⟨j, hj⟩ := g4 hm
            refine ⟨j, fun a ha hcd => ?_⟩
            rcases List.mem_append.1 ha with ha | ha
            · have := (h4.2 hm).2 a ha
              rw [this] at hcd; cases hcd
            · exact hj a ha hcd
          · intro hn
            obtain ⟨k1, k2⟩ := g5 hn
            refine ⟨?_, fun hm => ⟨?_, ?_⟩⟩
            · intro y hy
              rcases List.mem_cons.1 hy with rfl | hy
              · exact h4.1
              · exact k1 y hy
            · intro x hx
              rcases List.mem_cons.1 hx with rfl | hx
              · exact (h4.2 hm).1
              · exact (k2 hm).1 x hx
            · intro a ha
              rcases List.mem_append.1 ha with ha | ha
              · exact (h4.2 hm).2 a ha
              · exact (k2 hm).2 a ha
      | done s' o =>
        simp only [Prod.mk.injEq] at h
        obtain ⟨rfl, rfl⟩ := h
        simp only [Ctl.st] at h1
        refine ⟨l1, h1, ?_, List.Forall₂.cons hrel (List.forall₂_same.2 fun x _ => ⟨rfl, Or.inl rfl⟩), ?_, ?_⟩
        · intro a ha
          exact ⟨[], i, p, rest, rfl, h2 a ha, fun _ => by simp⟩
        · intro _
          exact ⟨i, fun a ha _ => (h2 a ha).ord_eq⟩
        · intro hn; simp [Ctl.isNext] at hn

theorem forall₂_mem_left {α β : Type} {R : α → β → Prop} {l1 : List α} {l2 : List β} (h : List.Forall₂ R l1 l2)
    {x : α} (hx : x ∈ l1) : ∃ y ∈ l2, R x y := by
  induction h with
  | nil => simp at hx
  | cons hr _ ih =>
    rcases List.mem_cons.1 hx with rfl | hx
    · exact ⟨_, List.mem_cons_self .., hr⟩
    · obtain ⟨y, hy, hxy⟩ := ih hx
      exact ⟨y, List.mem_cons_of_mem _ hy, hxy⟩

theorem forall₂_mem_right {α β : Type} {R : α → β → Prop} {l1 : List α} {l2 : List β} (h : List.Forall₂ R l1 l2)
    {y : β} (hy : y ∈ l2) : ∃ x ∈ l1, R x y := by
  induction h with
  | nil => simp at hy
  | cons hr _ ih =>
    rcases List.mem_cons.1 hy with rfl | hy
    · exact ⟨_, List.mem_cons_self .., hr⟩
    · obtain ⟨x, hx, hxy⟩ := ih hy
      exact ⟨x, List.mem_cons_of_mem _ hx, hxy⟩

theorem slotRel_map_fst {v : SetView} {cur upd : String} {l1 l2 : List (Int × Pod)}
    (h : List.Forall₂ (SlotRel v cur upd) l1 l2) : l2.map (·.1) = l1.map (·.1) := by
  induction h with
  | nil => rfl
  | cons hr _ ih => simp [ih, hr.1]

theorem condemnedLoop_spec (cur upd : String) (f : Faults) (mono : Bool) (fu : Option Pod) (cs : List Pod) :
    ∀ s : St, ∃ l, (condemnedLoop cur upd f mono fu s cs).st.acts = s.acts ++ l ∧
      (∀ a ∈ l, ∃ c ∈ cs, a = .delete c.ord c.id .scaleDown ∧ (mono = true → cs.head? = some c)) ∧
      (mono = true → (condemnedLoop cur upd f mono fu s cs).isNext = true → cs = []) := by
  induction cs with
  | nil =>
    exact fun s => ⟨[], (List.append_nil _).symm, fun _ h => (nomatch h), fun _ _ => rfl⟩
  | cons c rest ih =>
    intro s
    have hdel : ∀ a ∈ [Action.delete c.ord c.id .scaleDown],
        ∃ d ∈ c :: rest, a = .delete d.ord d.id .scaleDown ∧ (mono = true → (c :: rest).head? = some d) :=
      fun a ha => ⟨c, List.mem_cons_self, List.mem_singleton.1 ha, fun _ => rfl⟩
    have htail : ∀ {l : List Action}, mono = false →
        (∀ a ∈ l, ∃ d ∈ rest, a = .delete d.ord d.id .scaleDown ∧ (mono = true → rest.head? = some d)) →
        ∀ a ∈ l, ∃ d ∈ c :: rest, a = .delete d.ord d.id .scaleDown ∧ (mono = true → (c :: rest).head? = some d) := by
      intro l hm h a ha
      obtain ⟨d, hd, e, _⟩ := h a ha
      exact ⟨d, List.mem_cons_of_mem _ hd, e, fun h => absurd (hm.symm.trans h) Bool.false_ne_true⟩
    rcases L1c.condemnedLoop_cons cur upd f mono fu s c rest with ⟨_, e⟩ | ⟨hm, _, e⟩ | ⟨_, _, e⟩ | ⟨_, _, e⟩
    · rw [e]
      exact ⟨[], (List.append_nil _).symm, fun _ h => (nomatch h), fun _ h => (nomatch h)⟩
    · rw [e]
      obtain ⟨l, h1, h2, _⟩ := ih s
      exact ⟨l, h1, htail hm h2, fun h => absurd (hm.symm.trans h) Bool.false_ne_true⟩
    · rw [e]
      exact ⟨[.delete c.ord c.id .scaleDown], rfl, hdel, fun _ h => (nomatch h)⟩
    · rw [e]
      cases mono
      · obtain ⟨l, h1, h2, _⟩ := ih (L1c.stepScale cur upd s c)
        refine ⟨.delete c.ord c.id .scaleDown :: l, h1.trans (List.append_assoc ..), fun a ha => ?_,
          fun h => (nomatch h)⟩
        rcases List.mem_cons.1 ha with rfl | ha
        · exact hdel _ (List.mem_singleton_self _)
        · exact htail rfl h2 a ha
      · exact ⟨[.delete c.ord c.id .scaleDown], rfl, hdel, fun _ h => (nomatch h)⟩

theorem updateStage_spec (v : SetView) (cur upd : String) (f : Faults) (reps : List (Int × Pod)) (s : St)
    (hs : (reps.map (·.1)).Pairwise (· < ·)) :
    (updateStage v cur upd f reps s).1.acts = s.acts ∨
    (v.strat ≠ .onDelete ∧ ∃ t p, (t, p) ∈ reps ∧ partOf v ≤ t ∧
      (updateStage v cur upd f reps s).1.acts = s.acts ++ [.delete t p.id .update] ∧
      (∀ x ∈ reps, t < x.1 → x.2.healthy = true ∧ x.2.rev = upd) ∧ p.rev ≠ upd ∧ p.terminating = false) := by
  unfold updateStage
  by_cases ho : v.strat = .onDelete
  · left; simp [ho]
  · have ho' : (v.strat == StratType.onDelete) = false := by simpa using ho
    simp only [ho', Bool.false_eq_true, if_false]
    rcases L1c.updateWalk_cases cur upd f (reps.filter (fun ip => partOf v ≤ ip.1)).reverse s with
      h | ⟨pre, t, p, post, e1, e3, e4, e5, h⟩
    · left; rw [h]
    · right
      have e2 : (updateWalk cur upd f s (reps.filter (fun ip => partOf v ≤ ip.1)).reverse).1.acts
          = s.acts ++ [.delete t p.id .update] := by rw [h]
      have e4 : p.rev ≠ upd := bne_iff_ne.1 e4
      have hmem : (t, p) ∈ reps ∧ partOf v ≤ t := by
        have : (t, p) ∈ (reps.filter (fun ip => partOf v ≤ ip.1)).reverse := by
          rw [e1]; exact List.mem_append_right _ List.mem_cons_self
        rwa [List.mem_reverse, List.mem_filter, decide_eq_true_eq] at this
      refine ⟨ho, t, p, hmem.1, hmem.2, e2, fun x hx htx => ?_, e4, e5⟩
      have hxm : x ∈ (reps.filter (fun ip => partOf v ≤ ip.1)).reverse := by
        rw [List.mem_reverse, List.mem_filter, decide_eq_true_eq]
        exact ⟨hx, Int.le_trans hmem.2 (Int.le_of_lt htx)⟩
      -- the walk goes down from the top: what lies above `t` was walked before it
      have hsorted : ((reps.filter (fun ip => partOf v ≤ ip.1)).reverse).Pairwise (fun a b => b.1 < a.1) := by
        rw [List.pairwise_reverse]
        exact (List.pairwise_map.1 hs).filter _
      rw [e1] at hxm hsorted
      rcases List.mem_append.1 hxm with hxm | hxm
      · exact e3 x hxm
      · rcases List.mem_cons.1 hxm with rfl | hxm
        · exact absurd htx (Int.lt_irrefl _)
        · exact absurd htx (Int.lt_asymm ((List.pairwise_cons.1 (List.pairwise_append.1 hsorted).2.1).1 x hxm))

/-- why the model emits an action, in terms of the prepared data -/
inductive Just (v : SetView) (cur upd : String) (mono : Bool) (P : Prepared) : Action → Prop
  | create (pre : List (Int × Pod)) (i : Int) (p : Pod) (post : List (Int × Pod)) (rev : String) :
      P.reps = pre ++ (i, p) :: post →
      (rev = newPodRev v cur upd i ∨ (p.created = false ∧ rev = p.rev)) →
      (mono = true → ∀ x ∈ pre, x.2.healthy = true) → Just v cur upd mono P (.create i rev)
  | replace (i : Int) (p : Pod) : (i, p) ∈ P.reps → (p.failed || p.succeeded) = true →
      Just v cur upd mono P (.delete i p.id .replaceFailed)
  | scale (c : Pod) : c ∈ P.condemned →
      (mono = true → (∀ x ∈ P.reps, x.2.healthy = true) ∧ P.condemned.reverse.head? = some c) →
      Just v cur upd mono P (.delete c.ord c.id .scaleDown)
  | upd (i : Int) (p q : Pod) : (i, p) ∈ P.reps → (q = p ∨ q = newPod v cur upd i) →
      (q.failed || q.succeeded) = false → v.strat ≠ .onDelete → partOf v ≤ i →
      (∀ x ∈ P.reps, i < x.1 → x.2.healthy = true ∧ x.2.rev = upd) →
      (mono = true → P.condemned = [] ∧ ∀ x ∈ P.reps, x.2.healthy = true) →
      Just v cur upd mono P (.delete i q.id .update)
  | update (i : Int) : Just v cur upd mono P (.update i)

theorem RepAct.just {v : SetView} {cur upd : String} {mono : Bool} {P : Prepared} {a : Action}
    (h : RepAct v cur upd mono P.reps a) : Just v cur upd mono P a ∧ a.isUpdDel = false := by
  obtain ⟨pre, i, p, post, e, hs, hm⟩ := h
  refine ⟨?_, hs.not_updDel⟩
  cases hs with
  | del hf => exact .replace i p (by rw [e]; simp) hf
  | createNew hf => exact .create pre i p post _ e (Or.inl rfl) hm
  | createOld hc => exact .create pre i p post _ e (Or.inr ⟨hc, rfl⟩) hm
  | upd => exact .update i

theorem runLoops_spec (v : SetView) (cur upd : String) (f : Faults) (P : Prepared)
    (hs : (P.reps.map (·.1)).Pairwise (· < ·)) :
    (∀ a ∈ (runLoops v cur upd f P).1.acts, Just v cur upd (!v.parallel) P a) ∧
    ((runLoops v cur upd f P).1.acts.filter Action.isUpdDel).length ≤ 1 ∧
    (v.parallel = false → ∃ i, ∀ a ∈ (runLoops v cur upd f P).1.acts, a.isCD = true → a.ord = i) := by
  unfold runLoops
  simp only
  generalize hmono : (!v.parallel) = mono
  have hmono' : v.parallel = false → mono = true := by intro h; rw [← hmono, h]; rfl
  cases hrl : replicaLoop v cur upd f mono { status := P.st0 } P.reps with
  | mk c reps' =>
    obtain ⟨l1, a1, a2, a3, a4, a5⟩ := replicaLoop_spec v cur upd f mono P.reps _ c reps' hrl
    simp only [List.nil_append] at a1
    have hl1 : ∀ a ∈ l1, Just v cur upd mono P a ∧ a.isUpdDel = false := fun a ha => (a2 a ha).just
    have hf1 : l1.filter Action.isUpdDel = [] := by
      rw [List.filter_eq_nil_iff]; intro a ha; simp [(hl1 a ha).2]
    cases c with
    | done s o =>
      simp only [Ctl.st] at a1
      simp only
      rw [a1]
      refine ⟨fun a ha => (hl1 a ha).1, by simp [hf1], fun hp => a4 (hmono' hp)⟩
    | next s =>
      simp only [Ctl.st] at a1
      simp only [Ctl.isNext, forall_const] at a5
      simp only
      obtain ⟨l2, b1, b2, b4⟩ := condemnedLoop_spec cur upd f mono P.fu P.condemned.reverse s
      have hl2 : ∀ a ∈ l2, Just v cur upd mono P a ∧ a.isUpdDel = false := by
        intro a ha
        obtain ⟨d, hd, rfl, hh⟩ := b2 a ha
        refine ⟨.scale d (List.mem_reverse.1 hd) (fun hm => ⟨(a5.2 hm).1, hh hm⟩), rfl⟩
      have hf2 : l2.filter Action.isUpdDel = [] := by
        rw [List.filter_eq_nil_iff]; intro a ha; simp [(hl2 a ha).2]
      cases hcl : condemnedLoop cur upd f mono P.fu s P.condemned.reverse with
      | done s' o =>
        rw [hcl] at b1 b4
        simp only [Ctl.st] at b1
        simp only
        rw [b1, a1]
        refine ⟨fun a ha => ?_, by simp [hf1, hf2], fun hp => ?_⟩
        · rcases List.mem_append.1 ha with ha | ha
          · exact (hl1 a ha).1
          · exact (hl2 a ha).1
        · have hm := hmono' hp
          refine ⟨P.condemned.reverse.head?.elim 0 Pod.ord, fun a ha hcd => ?_⟩
          rcases List.mem_append.1 ha with ha | ha
          · rw [(a5.2 hm).2 a ha] at hcd; cases hcd
          · obtain ⟨d, _, rfl, hd⟩ := b2 a ha
            rw [hd hm]; rfl
      | next s' =>
        rw [hcl] at b1 b4
        simp only [Ctl.st] at b1
        simp only [Ctl.isNext, forall_const] at b4
        simp only
        have hs' : (reps'.map (·.1)).Pairwise (· < ·) := by rw [slotRel_map_fst a3]; exact hs
        rcases updateStage_spec v cur upd f reps' s' hs' with h | ⟨hod, t, q, hq, hpt, e2, e3, _, _⟩
        · rw [h, b1, a1]
          refine ⟨fun a ha => ?_, by simp [hf1, hf2], fun hp => ?_⟩
          · rcases List.mem_append.1 ha with ha | ha
            · exact (hl1 a ha).1
            · exact (hl2 a ha).1
          · have hm := hmono' hp
            have hc : P.condemned = [] := by simpa using b4 hm
            refine ⟨0, fun a ha hcd => ?_⟩
            rcases List.mem_append.1 ha with ha | ha
            · have := (a5.2 hm).2 a ha
              rw [this] at hcd; cases hcd
            · obtain ⟨d, hd, _⟩ := b2 a ha
              rw [hc] at hd; simp at hd
        · rw [e2, b1, a1]
          obtain ⟨x, hx, hxq⟩ := forall₂_mem_right a3 hq
          obtain ⟨i, p⟩ := x
          obtain ⟨hi, hqp⟩ := hxq
          simp only at hi hqp
          subst hi
          have hjust : Just v cur upd mono P (.delete t q.id .update) := by
            refine .upd t p q hx hqp (a5.1 _ hq) hod hpt ?_ ?_
            · intro x hx htx
              obtain ⟨y, hy, hy1, hy2⟩ := forall₂_mem_left a3 hx
              have := e3 y hy (by rw [hy1]; exact htx)
              rcases hy2 with hy2 | hy2
              · rw [← hy2]; exact this
              · exact nomatch (hy2 ▸ Pod.healthy_created this.1).symm.trans (L1c.newPod_created ..)
            · intro hm
              exact ⟨by simpa using b4 hm, (a5.2 hm).1⟩
          refine ⟨fun a ha => ?_, ?_, fun hp => ?_⟩
          · rcases List.mem_append.1 ha with ha | ha
            · rcases List.mem_append.1 ha with ha | ha
              · exact (hl1 a ha).1
              · exact (hl2 a ha).1
            · simp only [List.mem_singleton] at ha; rw [ha]; exact hjust
          · have := List.length_filter_le Action.isUpdDel [Action.delete t q.id Why.update]
            simpa [List.filter_append, hf1, hf2] using this
          · have hm := hmono' hp
            have hc : P.condemned = [] := by simpa using b4 hm
            refine ⟨t, fun a ha hcd => ?_⟩
            rcases List.mem_append.1 ha with ha | ha
            · rcases List.mem_append.1 ha with ha | ha
              · have := (a5.2 hm).2 a ha
                rw [this] at hcd; cases hcd
              · obtain ⟨d, hd, _⟩ := b2 a ha
                rw [hc] at hd; simp at hd
            · simp only [List.mem_singleton] at ha; rw [ha]; rfl

end Asts.L1b
