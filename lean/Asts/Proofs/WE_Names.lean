import Mathlib.Tactic
import Asts.Proofs.C02_CFront
import Asts.Proofs.WE_Converge

/-! # WE — pod names stay distinct along a run

A round looks at a world only through `settle` (`round h W p` is a function of `settle W`). Inside the premises of C02
(`wfWorld`, `extraMB`) the convergence proof carries the stage invariant `Stg` through every round (`stg_rounds`), and `Stg`
contains `PreM.podNames`: **the settled form of every world of the run has pairwise distinct pod names**
(`pod_names_distinct_along_run`): the hypothesis under which `settle` is idempotent and a paused or silent round is `settle`
(`WE_Pause`, `WE_SilentFix`). -/
namespace Asts.WE
open Asts Asts.C02p

/-- **pod names are pairwise distinct in (the settled form of) every world of the run**, from `wfWorld` and `extraMB` of the
    initial world: members canonically named, one member per ordinal, no non-member under the canonical name of a desired
    ordinal, distinct names to begin with -/
theorem pod_names_distinct_along_run (h : Hashing) (i : SyncIn) (hw : wfWorld h i = true) (hx : extraMB h i = true) :
    ∀ n, ((settle (roundsN h n i)).pods.map (·.name)).Nodup := by
  intro n
  obtain ⟨s1, s2, s3, s4⟩ := stg_settle (preNMB_of_wf hw hx)
  rw [settle_roundsN]
  cases hleg : legacyB i.view <;> cases hpar : i.view.parallel
  · exact (stg_rounds (mono_conv h) n (s4 hleg hpar)).pre.podNames
  · exact (stg_rounds (par_conv h) n (s3 hleg hpar)).pre.podNames
  · exact (stg_rounds (lmono_conv h) n (s2 hleg hpar)).pre.podNames
  · exact (stg_rounds (lpar_conv h) n (s1 hleg hpar)).pre.podNames

theorem extraMB_podNames {h : Hashing} {i : SyncIn} (hx : extraMB h i = true) : (i.pods.map (·.name)).Nodup := by
  unfold extraMB at hx
  simp only [Bool.and_eq_true, decide_eq_true_eq] at hx
  exact hx.1.1.1.1.1.1.1.2

theorem wfWorld_not_paused {h : Hashing} {i : SyncIn} (hw : wfWorld h i = true) : i.paused = false := by
  cases hp : i.paused with
  | false => rfl
  | true => unfold wfWorld at hw; simp [hp] at hw

theorem plainWorld_names (h : Hashing) (i : SyncIn) (hw : wfWorld h i = true) (hx : extraMB h i = true) :
    ∀ n, ((settle (plainWorld h i [] n)).pods.map (·.name)).Nodup := by
  intro n; rw [plainWorld_roundsN]; exact pod_names_distinct_along_run h i hw hx n

end Asts.WE
