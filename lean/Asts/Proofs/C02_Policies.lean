import Asts.Proofs.C02_MonoClass

/-! C02: the decidable readings of the hypotheses give the class invariant of each pod management policy on the
    settled world; the measure stays within the monitor's round bound. -/
namespace Asts.C02p
open Asts Asts.L1c

theorem normC_of_normCB {h : Hashing} {i : SyncIn} (hb : normCB h i = true) : NormC h i := by
  unfold normCB at hb
  simp only [Bool.and_eq_true, List.all_eq_true, decide_eq_true_eq, beq_iff_eq, Bool.not_eq_true', Bool.or_eq_true] at hb
  obtain ⟨⟨⟨⟨⟨⟨hspec, hpods⟩, hdist⟩, hrev⟩, hsm⟩, hsmR⟩, hgone⟩ := hb
  have hs := (specOk_iff i).1 hspec
  refine ⟨hs, ?_, ?_, ?_, ?_, hsm, hsmR, hgone⟩
  · intro c hc
    obtain ⟨⟨⟨⟨⟨⟨a1, a2⟩, a3⟩, a4⟩, a5⟩, a6⟩, a7⟩ := hpods c hc
    exact ⟨a1, a2, a3, a4, a5, a6, a7⟩
  · unfold distinctOrdsC at hdist
    apply GL.nodup_of_eraseDups_length
    simpa using hdist
  · unfold revsQuiet at hrev
    cases hl : (listedRevs i).getLast? with
    | none => simp [hl] at hrev
    | some l =>
      simp only [hl, Bool.and_eq_true, Bool.not_eq_true'] at hrev
      exact ⟨l, rfl, hrev.1⟩
  · unfold revsQuiet at hrev
    cases hl : (listedRevs i).getLast? with
    | none => simp [hl] at hrev
    | some l =>
      simp only [hl, Bool.and_eq_true, Bool.not_eq_true'] at hrev
      exact hrev.2

theorem partOk_of_partB {v : SetView} (hb : partB v = true) : PartOk v := by
  unfold partB at hb
  simp only [Bool.or_eq_true, beq_iff_eq] at hb
  rcases hb with h1 | h1
  · exact Or.inl h1
  · right
    cases hru : v.ru with
    | none => rw [hru] at h1; cases h1
    | some x =>
      cases x with
      | none => rw [hru] at h1; cases h1
      | some p => rw [hru] at h1; exact ⟨p, rfl, by simpa using h1⟩

theorem parK_of_normB {h : Hashing} {i : SyncIn} (hb : normB h i = true) : ParK h (settle i) := by
  unfold normB at hb
  simp only [Bool.and_eq_true] at hb
  obtain ⟨⟨⟨h1, hp⟩, h2⟩, h3⟩ := hb
  exact ⟨nsc_settle (normC_of_normCB h1) (by simpa [roomB] using h2), h3, partOk_of_partB hp⟩

theorem settleOne_fs (c : CPod) : (settleOne c).pod.fs = c.pod.fs := by
  unfold settleOne
  by_cases hfs : (c.pod.failed || c.pod.succeeded) = true
  · simp [hfs]
  · simp only [hfs, Bool.false_eq_true, if_false]
    have : c.pod.fs = false := by
      unfold Pod.fs
      cases hh : (c.pod.failed || c.pod.succeeded)
      · rfl
      · exact absurd hh hfs
    rw [this]; rfl

theorem monoK0_settle {h : Hashing} {i : SyncIn} (hn : NormC h i) (h2 : roomB i = true) (h3 : i.view.parallel = false)
    (h4 : noFsOutB i = true) : MonoK0 h (settle i) := by
  refine ⟨nsc_settle hn (by simpa [roomB] using h2), h3, ?_⟩
  intro x hx hfs
  obtain ⟨c0, hc0, -, hk⟩ := settle_src i hx
  have e1 : (settleOne c0).pod.fs = x.pod.fs := key_transfer (·.pod.fs) (fun _ => rfl) hk
  have e2 : (settleOne c0).pod.ord = x.pod.ord := key_transfer (·.pod.ord) (fun _ => rfl) hk
  rw [settleOne_fs] at e1; rw [settleOne_ord] at e2
  unfold noFsOutB at h4
  rw [List.all_eq_true] at h4
  have := h4 c0 hc0
  have hc0fs : (c0.pod.failed || c0.pod.succeeded) = true := by rw [← e1] at hfs; exact hfs
  simp only [hc0fs, Bool.not_true, Bool.false_or, List.contains_iff_mem] at this
  rw [← e2]
  exact (mem_desired_iff hn _).1 this

theorem monoK_of_normOB {h : Hashing} {i : SyncIn} (hb : normOB h i = true) : MonoK h (settle i) := by
  unfold normOB at hb
  simp only [Bool.and_eq_true, Bool.not_eq_true'] at hb
  obtain ⟨⟨⟨⟨h1, hp⟩, h2⟩, h3⟩, h4⟩ := hb
  exact ⟨monoK0_settle (normC_of_normCB h1) h2 h3 h4, partOk_of_partB hp⟩

end Asts.C02p

namespace Asts.C02p
open Asts Asts.L1c

theorem wPod_le_four {v : SetView} {upd : String} {o : Int} {c : CPod} (hnt : c.pod.terminating = false) : wPod v upd o c ≤ 4 := by
  unfold wPod
  rw [hnt]
  simp only [Bool.false_eq_true, if_false, Nat.add_zero]
  split_ifs <;> omega

/-- **the measure is within the bound the monitor `C02converges` allows** (`roundBound` of `Spec/World.lean`) -/
theorem mu_le_roundBound (i : SyncIn) : muPods (settle i) + 3 ≤ roundBound i := by
  have hD : (desired (replicasOf i.view) i.view.slots).length = (replicasOf i.view).toNat := (desired_isDesired _ _).len
  have hw : ∀ o, wOf (settle i).view (updName (settle i)) (settle i).pods o ≤ 4 := by
    intro o
    unfold wOf
    cases hf : (settle i).pods.find? (·.pod.ord == o) with
    | none => simp
    | some c => exact wPod_le_four (settle_settled i c (List.mem_of_find?_eq_some hf)).1
  have hsum : ((desired (replicasOf i.view) i.view.slots).map (wOf (settle i).view (updName (settle i)) (settle i).pods)).sum
      ≤ 4 * (replicasOf i.view).toNat := by
    have := List.sum_le_card_nsmul ((desired (replicasOf i.view) i.view.slots).map (wOf (settle i).view (updName (settle i)) (settle i).pods)) 4
      (by intro x hx; rw [List.mem_map] at hx; obtain ⟨o, _, rfl⟩ := hx; exact hw o)
    rw [List.length_map, hD] at this
    simpa [Nat.mul_comm] using this
  have hfilt : ((settle i).pods.filter (fun c => !(desired (replicasOf i.view) i.view.slots).contains c.pod.ord)).length ≤ i.pods.length :=
    le_trans (List.length_filter_le _ _) (settle_length_le i)
  have hmu : muPods (settle i) ≤ 4 * (replicasOf i.view).toNat + 2 * i.pods.length := by
    rw [muPods_eq]
    unfold muOf
    have e1 : replicasOf (settle i).view = replicasOf i.view := rfl
    have e2 : (settle i).view.slots = i.view.slots := rfl
    rw [e1, e2]
    omega
  unfold roundBound
  omega

end Asts.C02p

namespace Asts.C02p
open Asts Asts.L1c

/-- the hypotheses may be checked on the settled world instead (pods created in the last round count as admitted) -/
theorem parK_of_normB_settled {h : Hashing} {i : SyncIn} (hb : normB h (settle i) = true) : ParK h (settle i) := by
  unfold normB at hb
  simp only [Bool.and_eq_true] at hb
  obtain ⟨⟨⟨h1, hp⟩, h2⟩, h3⟩ := hb
  exact ⟨⟨normC_of_normCB h1, idOk_of_idPos (settle_idPos i) (normC_of_normCB h1).small, settle_settled i, by simpa [roomB] using h2⟩, h3, partOk_of_partB hp⟩

theorem monoK0_settled {h : Hashing} {i : SyncIn} (hn : NormC h (settle i)) (h2 : roomB (settle i) = true)
    (h3 : i.view.parallel = false) (h4 : noFsOutB (settle i) = true) : MonoK0 h (settle i) := by
  refine ⟨⟨hn, idOk_of_idPos (settle_idPos i) hn.small, settle_settled i, by simpa [roomB] using h2⟩, h3, ?_⟩
  intro x hx hfs
  unfold noFsOutB at h4
  rw [List.all_eq_true] at h4
  have := h4 x hx
  have hxfs : (x.pod.failed || x.pod.succeeded) = true := hfs
  simp only [hxfs, Bool.not_true, Bool.false_or, List.contains_iff_mem] at this
  exact (mem_desired_iff hn _).1 this

theorem monoK_of_normOB_settled {h : Hashing} {i : SyncIn} (hb : normOB h (settle i) = true) : MonoK h (settle i) := by
  unfold normOB at hb
  simp only [Bool.and_eq_true, Bool.not_eq_true'] at hb
  obtain ⟨⟨⟨⟨h1, hp⟩, h2⟩, h3⟩, h4⟩ := hb
  exact ⟨monoK0_settled (normC_of_normCB h1) h2 h3 h4, partOk_of_partB hp⟩

end Asts.C02p
