import Asts.Proofs.C02_Walk

/-! C02: `applyActs` pod by pod: what a list of pod-control calls does to an object that is already there (`eff`) and which
    new objects it leaves (`news`). -/
namespace Asts.C02p
open Asts Asts.L1c

/-- the object a successful create leaves in the API -/
def mkPod (setName : String) (o : Int) (rev : String) : CPod :=
  { name := canonicalName setName o, owner := .self, selMatch := true, member := true,
    pod := { id := freshId + o.toNat, ord := o, phase := .none, ready := false, terminating := false, rev := rev,
             idOk := true, stOk := true } }

def wasOrphan (setName : String) (orig : List CPod) (o : Int) : Bool :=
  (orig.find? (·.name == canonicalName setName o)).any (·.owner == .none)

def delStep (id : Nat) (c : CPod) : CPod :=
  if c.pod.id == id then { c with pod := { c.pod with terminating := true } } else c

def updStep (setName : String) (orig : List CPod) (o : Int) (c : CPod) : CPod :=
  if c.name == canonicalName setName o then
    { c with owner := (if wasOrphan setName orig o then .none else c.owner), pod := { c.pod with idOk := true } }
  else c

def eff (setName : String) (orig : List CPod) : List Action → CPod → Option CPod
  | [], c => some c
  | .create _ _ :: rest, c => eff setName orig rest c
  | .delete _ id _ :: rest, c =>
    if c.pod.id == id && (c.pod.failed || c.pod.succeeded) then none
    else eff setName orig rest (delStep id c)
  | .update o :: rest, c => eff setName orig rest (updStep setName orig o c)

def news (setName : String) (orig : List CPod) : List Action → List CPod
  | [] => []
  | .create o rev :: rest => (eff setName orig rest (mkPod setName o rev)).toList ++ news setName orig rest
  | .delete _ _ _ :: rest => news setName orig rest
  | .update _ :: rest => news setName orig rest

theorem applyActs_eq (setName : String) (orig : List CPod) (acts : List Action) (pods : List CPod) :
    applyActs setName orig pods acts = pods.filterMap (eff setName orig acts) ++ news setName orig acts := by
  induction acts generalizing pods with
  | nil => simp [applyActs, eff, news]
  | cons a rest ih =>
    cases a with
    | create o rev =>
      unfold applyActs
      rw [ih]
      simp only [List.filterMap_append, eff, news, List.append_assoc]
      congr 1
    | delete o id w =>
      unfold applyActs
      rw [ih]
      simp only [news]
      congr 1
      unfold setPod
      rw [List.filterMap_map, List.filterMap_filter]
      apply List.filterMap_congr
      intro c _
      simp only [Function.comp, eff, delStep]
      by_cases h1 : (c.pod.id == id && (c.pod.failed || c.pod.succeeded)) = true
      · simp [h1]
      · simp only [h1, Bool.false_eq_true, if_false, Bool.not_false, if_true]
    | update o =>
      unfold applyActs
      rw [ih]
      simp only [news]
      congr 1
      unfold setPod
      rw [List.filterMap_map]
      apply List.filterMap_congr
      intro c _
      simp only [Function.comp, eff, updStep, wasOrphan]
      rfl

end Asts.C02p

namespace Asts.C02p
open Asts Asts.L1c

/-- what no pod-control call changes, and what it can only switch on -/
structure SameBody (c c1 : CPod) : Prop where
  name : c1.name = c.name
  sel : c1.selMatch = c.selMatch
  mem : c1.member = c.member
  id : c1.pod.id = c.pod.id
  ord : c1.pod.ord = c.pod.ord
  phase : c1.pod.phase = c.pod.phase
  ready : c1.pod.ready = c.pod.ready
  rev : c1.pod.rev = c.pod.rev
  stOk : c1.pod.stOk = c.pod.stOk
  idOk : c.pod.idOk = true → c1.pod.idOk = true
  term : c.pod.terminating = true → c1.pod.terminating = true

theorem SameBody.refl (c : CPod) : SameBody c c := ⟨rfl, rfl, rfl, rfl, rfl, rfl, rfl, rfl, rfl, fun h => h, fun h => h⟩

theorem SameBody.trans {a b c : CPod} (h1 : SameBody a b) (h2 : SameBody b c) : SameBody a c :=
  ⟨h2.name.trans h1.name, h2.sel.trans h1.sel, h2.mem.trans h1.mem, h2.id.trans h1.id, h2.ord.trans h1.ord,
   h2.phase.trans h1.phase, h2.ready.trans h1.ready, h2.rev.trans h1.rev, h2.stOk.trans h1.stOk,
   fun h => h2.idOk (h1.idOk h), fun h => h2.term (h1.term h)⟩

theorem delStep_same (id : Nat) (c : CPod) : SameBody c (delStep id c) := by
  unfold delStep; split_ifs
  · exact ⟨rfl, rfl, rfl, rfl, rfl, rfl, rfl, rfl, rfl, fun h => h, fun _ => rfl⟩
  · exact SameBody.refl c

theorem updStep_same (setName : String) (orig : List CPod) (o : Int) (c : CPod) : SameBody c (updStep setName orig o c) := by
  unfold updStep
  by_cases hc : (c.name == canonicalName setName o) = true
  · rw [if_pos hc]
    exact ⟨rfl, rfl, rfl, rfl, rfl, rfl, rfl, rfl, rfl, fun _ => rfl, fun h => h⟩
  · rw [if_neg hc]
    exact SameBody.refl c

theorem eff_same (setName : String) (orig : List CPod) (acts : List Action) (c c1 : CPod)
    (h : eff setName orig acts c = some c1) : SameBody c c1 := by
  induction acts generalizing c with
  | nil => simp only [eff, Option.some.injEq] at h; rw [← h]; exact SameBody.refl c
  | cons a rest ih =>
    cases a with
    | create o rev => exact ih c h
    | delete o id w =>
      unfold eff at h
      split_ifs at h
      exact (delStep_same id c).trans (ih _ h)
    | update o =>
      unfold eff at h
      exact (updStep_same setName orig o c).trans (ih _ h)

theorem eff_owner (setName : String) (orig : List CPod) (hno : ∀ o, wasOrphan setName orig o = false)
    (acts : List Action) (c c1 : CPod) (h : eff setName orig acts c = some c1) : c1.owner = c.owner := by
  induction acts generalizing c with
  | nil => simp only [eff, Option.some.injEq] at h; rw [← h]
  | cons a rest ih =>
    cases a with
    | create o rev => exact ih c h
    | delete o id w =>
      unfold eff at h
      split_ifs at h
      rw [ih _ h]; unfold delStep; split_ifs <;> rfl
    | update o =>
      unfold eff at h
      rw [ih _ h]; unfold updStep
      rw [hno o]
      simp only [Bool.false_eq_true, if_false]
      split_ifs <;> rfl

def DelHits (acts : List Action) (id : Nat) : Prop := ∃ o w, Action.delete o id w ∈ acts

theorem delHits_cons_delete {acts : List Action} {o : Int} {id id' : Nat} {w : Why} :
    DelHits (.delete o id w :: acts) id' ↔ id = id' ∨ DelHits acts id' := by
  unfold DelHits
  constructor
  · rintro ⟨o', w', hm⟩
    rcases List.mem_cons.1 hm with h | h
    · cases h; exact Or.inl rfl
    · exact Or.inr ⟨o', w', h⟩
  · rintro (rfl | ⟨o', w', hm⟩)
    · exact ⟨o, w, List.mem_cons_self⟩
    · exact ⟨o', w', List.mem_cons_of_mem _ hm⟩

theorem delHits_cons_other {acts : List Action} {a : Action} {id' : Nat} (ha : ∀ o id w, a ≠ .delete o id w) :
    DelHits (a :: acts) id' ↔ DelHits acts id' := by
  unfold DelHits
  constructor
  · rintro ⟨o', w', hm⟩
    rcases List.mem_cons.1 hm with h | h
    · exact absurd h.symm (ha _ _ _)
    · exact ⟨o', w', h⟩
  · rintro ⟨o', w', hm⟩
    exact ⟨o', w', List.mem_cons_of_mem _ hm⟩

theorem delStep_fs (id : Nat) (c : CPod) :
    ((delStep id c).pod.failed || (delStep id c).pod.succeeded) = (c.pod.failed || c.pod.succeeded) := by
  unfold delStep; split_ifs <;> rfl
theorem updStep_fs (setName : String) (orig : List CPod) (o : Int) (c : CPod) :
    ((updStep setName orig o c).pod.failed || (updStep setName orig o c).pod.succeeded) = (c.pod.failed || c.pod.succeeded) := by
  unfold updStep; split_ifs <;> rfl

theorem eff_noDel (setName : String) (orig : List CPod) (acts : List Action) (c : CPod) (hnd : ¬ DelHits acts c.pod.id) :
    ∃ c1, eff setName orig acts c = some c1 ∧ c1.pod.terminating = c.pod.terminating := by
  induction acts generalizing c with
  | nil => exact ⟨c, rfl, rfl⟩
  | cons a rest ih =>
    cases a with
    | create o rev =>
      rw [delHits_cons_other (by intro _ _ _ h; cases h)] at hnd
      exact ih c hnd
    | delete o id w =>
      rw [delHits_cons_delete, not_or] at hnd
      unfold eff
      have hne : (c.pod.id == id) = false := by simpa using fun h => hnd.1 h.symm
      simp only [hne, Bool.false_and, Bool.false_eq_true, if_false, delStep]
      exact ih c hnd.2
    | update o =>
      rw [delHits_cons_other (by intro _ _ _ h; cases h)] at hnd
      unfold eff
      have hid : (updStep setName orig o c).pod.id = c.pod.id := (updStep_same setName orig o c).id
      obtain ⟨c1, h1, h2⟩ := ih (updStep setName orig o c) (by rw [hid]; exact hnd)
      refine ⟨c1, h1, h2.trans ?_⟩
      unfold updStep; split_ifs <;> rfl

/-- an object a delete hits is gone at once when Failed/Succeeded, terminating otherwise -/
theorem eff_del (setName : String) (orig : List CPod) (acts : List Action) (c : CPod) (hd : DelHits acts c.pod.id) :
    ((c.pod.failed || c.pod.succeeded) = true → eff setName orig acts c = none) ∧
    (∀ c1, eff setName orig acts c = some c1 → c1.pod.terminating = true) := by
  induction acts generalizing c with
  | nil => obtain ⟨o, w, hm⟩ := hd; cases hm
  | cons a rest ih =>
    cases a with
    | create o rev =>
      rw [delHits_cons_other (by intro _ _ _ h; cases h)] at hd
      exact ih c hd
    | delete o id w =>
      unfold eff
      by_cases hid : c.pod.id = id
      · have hb : (c.pod.id == id) = true := by simpa using hid
        constructor
        · intro hfs; simp [hb, hfs]
        · intro c1 h1
          split_ifs at h1
          have hs := eff_same setName orig rest _ _ h1
          apply hs.term
          unfold delStep; simp [hb]
      · have hb : (c.pod.id == id) = false := by simpa using hid
        rw [delHits_cons_delete] at hd
        have hd' : DelHits rest c.pod.id := by
          rcases hd with h | h
          · exact absurd h.symm hid
          · exact h
        simp only [hb, Bool.false_and, Bool.false_eq_true, if_false, delStep]
        exact ih c hd'
    | update o =>
      rw [delHits_cons_other (by intro _ _ _ h; cases h)] at hd
      unfold eff
      have hid : (updStep setName orig o c).pod.id = c.pod.id := (updStep_same setName orig o c).id
      have := ih (updStep setName orig o c) (by rw [hid]; exact hd)
      rw [updStep_fs] at this
      exact this

theorem eff_upd (setName : String) (orig : List CPod) (acts : List Action) (c c1 : CPod) (o : Int)
    (hu : Action.update o ∈ acts) (hname : c.name = canonicalName setName o) (h : eff setName orig acts c = some c1) :
    c1.pod.idOk = true := by
  induction acts generalizing c with
  | nil => cases hu
  | cons a rest ih =>
    cases a with
    | create o' rev =>
      rcases List.mem_cons.1 hu with h' | h'
      · cases h'
      · exact ih c h' hname h
    | delete o' id w =>
      rcases List.mem_cons.1 hu with h' | h'
      · cases h'
      · unfold eff at h
        split_ifs at h
        exact ih _ h' (by rw [(delStep_same id c).name]; exact hname) h
    | update o' =>
      unfold eff at h
      rcases List.mem_cons.1 hu with h' | h'
      · cases h'
        have hs := eff_same setName orig rest _ _ h
        apply hs.idOk
        unfold updStep
        simp [hname]
      · exact ih _ h' (by rw [(updStep_same setName orig o' c).name]; exact hname) h

/-- a freshly created object is left alone by calls that delete only older ids, when no original pod is an orphan -/
theorem eff_mkPod (setName : String) (orig : List CPod) (hno : ∀ o, wasOrphan setName orig o = false)
    (acts : List Action) (o : Int) (rev : String) (hnd : ¬ DelHits acts (freshId + o.toNat)) :
    eff setName orig acts (mkPod setName o rev) = some (mkPod setName o rev) := by
  obtain ⟨c1, h1, h2⟩ := eff_noDel setName orig acts (mkPod setName o rev) hnd
  have hs := eff_same setName orig acts _ _ h1
  have ho := eff_owner setName orig hno acts _ _ h1
  rw [h1]
  congr 1
  obtain ⟨name, pod, owner, sel, mem⟩ := c1
  obtain ⟨id, ord, phase, ready, term, rv, idOk, stOk⟩ := pod
  have e1 := hs.name; have e2 := hs.sel; have e3 := hs.mem; have e4 := hs.id; have e5 := hs.ord
  have e6 := hs.phase; have e7 := hs.ready; have e8 := hs.rev; have e9 := hs.stOk; have e10 := hs.idOk rfl
  simp only [mkPod] at *
  subst e1 e2 e3 e4 e5 e6 e7 e8 e9 e10 h2 ho
  rfl

end Asts.C02p
