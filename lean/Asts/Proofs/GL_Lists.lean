import Asts.Proofs.L1_a_Final
import Asts.Proofs.L1_b_C07
import Asts.Proofs.List_Dedup

/-! # GL — glue, list level: the hypotheses of the reconcile-level theorems are inherited by sublists

The reconcile inside a sync runs on the *claimed* pods, a sublist of the pods of the world. The reconcile-level theorems
(`Props/C03`, `C04`, `C05`, `C07`, …) ask for `wfSnapshot` and for one of two forms of "ids identify the pods of the
snapshot and are below `freshId`" (`Asts.IdsOk` of `L1_a_*`, `Asts.L1b.IdsOk` of `L1_b_*`). Both are inherited by
sublists, and the first implies the second. -/
namespace Asts.GL
open Asts

theorem wfSnapshot_iff (pods : List Pod) :
    wfSnapshot pods = true ↔ (∀ p ∈ pods, p.created = true) ∧ (pods.map (·.ord)).Nodup := by
  constructor
  · intro h
    exact ⟨L1b.wfSnapshot_created h, L1b.wfSnapshot_nodup h⟩
  · rintro ⟨hc, hn⟩
    unfold wfSnapshot distinctOrds
    simp only [Bool.and_eq_true, List.all_eq_true, beq_iff_eq]
    refine ⟨hc, ?_⟩
    rw [eraseDups_of_nodup hn, List.length_map]

theorem wfSnapshot_sublist {l pods : List Pod} (hs : l.Sublist pods) (h : wfSnapshot pods = true) :
    wfSnapshot l = true := by
  rw [wfSnapshot_iff] at h ⊢
  exact ⟨fun p hp => h.1 p (hs.subset hp), h.2.sublist (hs.map _)⟩

theorem idsOk_sublist {l pods : List Pod} (hs : l.Sublist pods) (h : IdsOk pods) : IdsOk l :=
  ⟨h.nodup.sublist (hs.map _), fun p hp => h.small p (hs.subset hp)⟩

/-- the `L1_a` form of the id hypothesis (ids pairwise distinct) gives the `L1_b` form (ids injective on the snapshot) -/
theorem idsOkB_of_idsOk {pods : List Pod} (h : IdsOk pods) : L1b.IdsOk pods :=
  ⟨fun _ hp _ hq he => List.inj_on_of_nodup_map h.nodup hp hq he, h.small⟩

theorem idsOk_of_idsOkB {pods : List Pod} (hn : pods.Nodup) (h : L1b.IdsOk pods) : IdsOk pods :=
  ⟨(List.nodup_map_iff_inj_on hn).2 (fun p hp q hq he => h.inj p hp q hq he), h.lt⟩

theorem idsOkB_sublist {l pods : List Pod} (hs : l.Sublist pods) (h : L1b.IdsOk pods) : L1b.IdsOk l :=
  ⟨fun p hp q hq he => h.inj p (hs.subset hp) q (hs.subset hq) he, fun p hp => h.lt p (hs.subset hp)⟩

/-- ids that are positions (what the driver and `reindex` produce), in the `L1_a` form -/
theorem idsOk_of_pos {pods : List Pod} (hpos : ∀ (k : Nat) (p : Pod), pods[k]? = some p → p.id = k)
    (hlen : pods.length ≤ freshId) : IdsOk pods := by
  refine idsOk_of_positions ?_ hlen
  apply List.ext_getElem?
  intro k
  by_cases hk : k < pods.length
  · have h1 : pods[k]? = some pods[k] := List.getElem?_eq_getElem hk
    simp [hk, hpos k _ h1]
  · simp [hk]

theorem created_sublist {l pods : List Pod} (hs : l.Sublist pods) (h : pods.all Pod.created = true) :
    l.all Pod.created = true := by
  rw [List.all_eq_true] at h ⊢
  exact fun p hp => h p (hs.subset hp)

theorem C05_nil (v : SetView) (pods : List Pod) : C05 v pods [] = true := rfl

theorem C07_nil (v : SetView) (cur upd : String) (pods : List Pod) : C07 v cur upd pods [] = true := by
  unfold C07
  simp only [updateDeletes, List.filterMap_nil, List.isEmpty_nil, ite_self, List.length_nil, Nat.zero_le, decide_true,
    List.all_nil, Bool.and_self, Bool.true_and]
  split <;> rfl

end Asts.GL
