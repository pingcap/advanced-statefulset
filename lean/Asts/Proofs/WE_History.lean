import Mathlib.Tactic
import Asts.Proofs.WE_Edits
import Asts.Proofs.GL_World

/-! # WE — `runHistory` once the script is exhausted is `runRounds` -/
namespace Asts.WE
open Asts Asts.GL

theorem runHistory_succ (h : Hashing) (script : Script) (fuel j silent : Nat) (i : SyncIn) (plan : List Fault) :
    runHistory h script (fuel + 1) j silent i plan =
      (let es := editsAt script j
       let i0 := applyEdits es i
       let silent0 := if es.isEmpty then silent else 0
       let silent' := if (round h i0 plan).2.out == "ok" && (round h i0 plan).2.writes == 0 then silent0 + 1 else 0
       if silent' ≥ 2 && !pendingAfter script j then [{ edits := es, world := i0, obs := (round h i0 plan).2 }]
       else { edits := es, world := i0, obs := (round h i0 plan).2 } :: runHistory h script fuel (j + 1) silent' (round h i0 plan).1 []) := rfl

theorem editsAt_past (script : Script) (j : Nat) (hs : ∀ e ∈ script, e.1 < j) : editsAt script j = [] := by
  unfold editsAt
  rw [List.map_eq_nil_iff, List.filter_eq_nil_iff]
  intro e he
  have := hs e he
  simp only [beq_iff_eq]
  omega

theorem pendingAfter_past (script : Script) (j : Nat) (hs : ∀ e ∈ script, e.1 ≤ j) : pendingAfter script j = false := by
  unfold pendingAfter
  rw [List.any_eq_false]
  intro e he
  have := hs e he
  simp only [decide_eq_true_eq]
  omega

/-- **from the round of the last edits on a history is a plain run**: when no edit of the script lies after round `j`, the
    observations of `runHistory` from round `j` are those of `runRounds` from the world the edits of round `j` produce -/
theorem runHistory_last (h : Hashing) (script : Script) :
    ∀ (fuel j silent : Nat) (i : SyncIn) (plan : List Fault), (∀ e ∈ script, e.1 ≤ j) →
      (runHistory h script fuel j silent i plan).map (·.obs) =
        runRounds h fuel (if (editsAt script j).isEmpty then silent else 0) (applyEdits (editsAt script j) i) plan
  | 0, _, _, _, _, _ => rfl
  | fuel + 1, j, silent, i, plan, hs => by
    -- no edits in round `j + 1`
    have ih : ∀ s' w, (runHistory h script fuel (j + 1) s' w []).map (·.obs) = runRounds h fuel s' w [] := fun s' w => by
      rw [runHistory_last h script fuel (j + 1) s' w [] (fun e he => Nat.le_succ_of_le (hs e he)),
        editsAt_past script (j + 1) (fun e he => Nat.lt_succ_of_le (hs e he))]
      rfl
    rw [runHistory_succ, runRounds_succ, pendingAfter_past script j hs]
    simp only [Bool.not_false, Bool.and_true, decide_eq_true_eq]
    rw [apply_ite (List.map _)]
    simp only [List.map_cons, List.map_nil, ih]

theorem runHistory_past (h : Hashing) (script : Script) (fuel j silent : Nat) (i : SyncIn) (plan : List Fault)
    (hs : ∀ e ∈ script, e.1 < j) :
    (runHistory h script fuel j silent i plan).map (·.obs) = runRounds h fuel silent i plan := by
  rw [runHistory_last h script fuel j silent i plan (fun e he => Nat.le_of_lt (hs e he)), editsAt_past script j hs]
  rfl

theorem runHistory_nil (h : Hashing) (fuel j silent : Nat) (i : SyncIn) (plan : List Fault) :
    (runHistory h [] fuel j silent i plan).map (·.obs) = runRounds h fuel silent i plan :=
  runHistory_past h [] fuel j silent i plan (fun e he => by simp at he)

end Asts.WE
