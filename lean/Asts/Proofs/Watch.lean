import Mathlib.Tactic
import Asts.Model.Watch
import Asts.Spec.Watch

/-! # Lemmas for C20 (the repaired relay, `Variant.fixed`)

`Inv` is an inductive invariant of `act .fixed`; everything in `Props/C20` follows from it plus the two measures `rank`, `mu`. -/
namespace Asts.Watch

theorem convert_typ (e : Ev) : (convert e).typ = e.typ := by
  unfold convert; split <;> rfl

theorem convert_id (e : Ev) : (convert e).id = e.id := by
  unfold convert; split <;> rfl

theorem convert_set (e : Ev) (h : e.pay = .asSet) : (convert e).pay = .builtin := by
  unfold convert; simp [h]

theorem convert_nonset (e : Ev) (h : e.pay ≠ .asSet) : convert e = e := by
  unfold convert; simp [h]

theorem convert_eq_expected (e : Ev) : convert e = Spec.expected e := by
  rcases e with ⟨t, p, i⟩
  cases p <;> simp [convert, Spec.expected]

/-- where every event the source offered is: received, in the relay's hand, still queued, or cut off by the end of the source
    (`rest`, possible only once the source is closed); after the relay left its loop only the prefix property is left -/
def Flow (w : W) : Prop :=
  match w.pc with
  | .recvWait => ∃ rest, w.sent.map convert = w.log ++ (w.queue.map convert ++ rest) ∧ (w.srcClosed = false → rest = [])
  | .sendWait o => ∃ rest, w.sent.map convert = w.log ++ o :: (w.queue.map convert ++ rest) ∧ (w.srcClosed = false → rest = [])
  | _ => ∃ rest, w.sent.map convert = w.log ++ rest

structure Inv (w : W) : Prop where
  flow : Flow w
  noPanic : w.panicked = false
  stopClosed : w.stopped = true → w.srcClosed = true
  exitedClosed : w.pc = .exited → w.resultClosed = true

theorem inv_init : Inv {} := by
  refine ⟨⟨[], ?_, ?_⟩, rfl, ?_, ?_⟩ <;> simp

theorem flow_prefix {w : W} (h : Flow w) : ∃ rest, w.sent.map convert = w.log ++ rest := by
  rcases w with ⟨queue, srcClosed, pc, resultClosed, stopped, panicked, log, sent⟩
  cases pc <;> simp only [Flow] at h ⊢
  · obtain ⟨rest, h, _⟩ := h; exact ⟨_, h⟩
  · obtain ⟨rest, h, _⟩ := h; exact ⟨_, h⟩
  all_goals exact h

theorem inv_srcSend {w : W} (e : Ev) (h : Inv w) : Inv (act .fixed w (.srcSend e)) := by
  rcases w with ⟨queue, srcClosed, pc, resultClosed, stopped, panicked, log, sent⟩
  obtain ⟨hf, hp, hs, hx⟩ := h
  simp only at hp hs hx
  cases srcClosed
  · refine ⟨?_, hp, hs, hx⟩
    cases pc with
    | recvWait =>
      obtain ⟨rest, h1, h2⟩ := hf
      obtain rfl := h2 rfl
      dsimp only at h1
      exact Exists.intro [] ⟨by simp [act, h1], fun _ => rfl⟩
    | sendWait o =>
      obtain ⟨rest, h1, h2⟩ := hf
      obtain rfl := h2 rfl
      dsimp only at h1
      exact Exists.intro [] ⟨by simp [act, h1], fun _ => rfl⟩
    | _ =>
      obtain ⟨rest, h1⟩ := hf
      dsimp only at h1
      exact Exists.intro (rest ++ [convert e]) (by simp [act, h1])
  · exact ⟨hf, hp, hs, hx⟩

/-- cutting the queue down to `k` entries (the source ends / is stopped) keeps `Flow` once the source counts as closed -/
theorem flow_cut {queue : List Ev} {pc : Pc} {log sent : List Ev} {c r s p : Bool} (k : Nat) {r' s' p' : Bool}
    (hf : Flow ⟨queue, c, pc, r, s, p, log, sent⟩) : Flow ⟨queue.take k, true, pc, r', s', p', log, sent⟩ := by
  have hq : queue.map convert = (queue.take k).map convert ++ (queue.drop k).map convert := by
    rw [← List.map_append, List.take_append_drop]
  cases pc <;> simp only [Flow] at hf ⊢
  · obtain ⟨rest, h1, _⟩ := hf
    exact ⟨(queue.drop k).map convert ++ rest, by rw [h1, hq]; simp only [List.append_assoc], by simp⟩
  · obtain ⟨rest, h1, _⟩ := hf
    exact ⟨(queue.drop k).map convert ++ rest, by rw [h1, hq]; simp only [List.append_assoc], by simp⟩
  all_goals exact hf

theorem inv_srcClose {w : W} (k : Nat) (h : Inv w) : Inv (act .fixed w (.srcClose k)) := by
  rcases w with ⟨queue, srcClosed, pc, resultClosed, stopped, panicked, log, sent⟩
  obtain ⟨hf, hp, hs, hx⟩ := h
  simp only at hp hs hx
  cases srcClosed
  · exact ⟨by simpa [act] using flow_cut k hf, hp, fun _ => by simp [act], by simpa [act] using hx⟩
  · simpa [act] using (⟨hf, hp, hs, hx⟩ : Inv _)

theorem inv_consumerStop {w : W} (k : Nat) (h : Inv w) : Inv (act .fixed w (.consumerStop k)) := by
  rcases w with ⟨queue, srcClosed, pc, resultClosed, stopped, panicked, log, sent⟩
  obtain ⟨hf, hp, hs, hx⟩ := h
  simp only at hp hs hx
  cases stopped
  · exact ⟨by simpa [act] using flow_cut k hf, hp, fun _ => by simp [act], by simpa [act] using hx⟩
  · simpa [act] using (⟨hf, hp, hs, hx⟩ : Inv _)

theorem inv_consumerRecv {w : W} (h : Inv w) : Inv (act .fixed w .consumerRecv) := by
  rcases w with ⟨queue, srcClosed, pc, resultClosed, stopped, panicked, log, sent⟩
  obtain ⟨hf, hp, hs, hx⟩ := h
  simp only at hp hs hx
  cases pc
  case sendWait o =>
    refine ⟨?_, hp, hs, by simp [act]⟩
    simp only [Flow, act] at hf ⊢
    obtain ⟨rest, h1, h2⟩ := hf
    exact ⟨rest, by simp [h1], h2⟩
  all_goals exact ⟨hf, hp, hs, hx⟩

/-- the five ways the repaired relay moves -/
theorem relayStep_cases {w w' : W} (hs : relayStep? .fixed w = some w') :
    (∃ e q, w.pc = .recvWait ∧ w.queue = e :: q ∧ w' = { w with queue := q, pc := .sendWait (convert e) }) ∨
    (w.pc = .recvWait ∧ w.queue = [] ∧ w.srcClosed = true ∧ w' = { w with pc := .stopping }) ∨
    (∃ o, w.pc = .sendWait o ∧ w.stopped = true ∧ w' = { w with pc := .stopping }) ∨
    (w.pc = .stopping ∧ w' = { w with pc := .closing, stopped := true, srcClosed := true }) ∨
    (w.pc = .closing ∧ w' = { w with pc := .exited, resultClosed := true }) := by
  rcases w with ⟨queue, srcClosed, pc, resultClosed, stopped, panicked, log, sent⟩
  cases pc with
  | recvWait =>
    cases queue with
    | nil =>
      cases srcClosed
      · cases hs
      · obtain rfl := Option.some.inj hs
        exact .inr (.inl ⟨rfl, rfl, rfl, rfl⟩)
    | cons e q =>
      obtain rfl := Option.some.inj hs
      exact .inl ⟨e, q, rfl, rfl, rfl⟩
  | sendWait o =>
    cases stopped
    · cases hs
    · obtain rfl := Option.some.inj hs
      exact .inr (.inr (.inl ⟨o, rfl, rfl, rfl⟩))
  | stopping =>
    obtain rfl := Option.some.inj hs
    exact .inr (.inr (.inr (.inl ⟨rfl, rfl⟩)))
  | closing =>
    obtain rfl := Option.some.inj hs
    exact .inr (.inr (.inr (.inr ⟨rfl, rfl⟩)))
  | exited => cases hs

theorem inv_relayStep {w w' : W} (h : Inv w) (hs : relayStep? .fixed w = some w') : Inv w' := by
  obtain ⟨hf, hp, hsc, hx⟩ := h
  rcases relayStep_cases hs with ⟨e, q, h1, h2, rfl⟩ | ⟨h1, h2, h3, rfl⟩ | ⟨o, h1, h2, rfl⟩ | ⟨h1, rfl⟩ | ⟨h1, rfl⟩
  · refine ⟨?_, hp, hsc, by simp⟩
    simp only [Flow, h1, h2] at hf ⊢
    obtain ⟨rest, h3, h4⟩ := hf
    exact ⟨rest, by simpa using h3, h4⟩
  · refine ⟨?_, hp, hsc, by simp⟩
    simp only [Flow, h1, h2] at hf ⊢
    obtain ⟨rest, h4, _⟩ := hf
    exact ⟨rest, by simpa using h4⟩
  · refine ⟨?_, hp, hsc, by simp⟩
    simp only [Flow, h1] at hf ⊢
    obtain ⟨rest, h4, _⟩ := hf
    exact ⟨_, h4⟩
  · refine ⟨?_, hp, fun _ => rfl, by simp⟩
    simp only [Flow, h1] at hf ⊢
    exact hf
  · refine ⟨?_, hp, hsc, fun _ => rfl⟩
    simp only [Flow, h1] at hf ⊢
    exact hf

theorem inv_act {w : W} (a : Act) (h : Inv w) : Inv (act .fixed w a) := by
  cases a with
  | srcSend e => exact inv_srcSend e h
  | srcClose k => exact inv_srcClose k h
  | consumerRecv => exact inv_consumerRecv h
  | consumerStop k => exact inv_consumerStop k h
  | relayStep =>
    show Inv ((relayStep? .fixed w).getD w)
    cases hs : relayStep? .fixed w with
    | none => simpa using h
    | some w' => simpa using inv_relayStep h hs

theorem inv_exec {w : W} (as : List Act) (h : Inv w) : Inv (exec .fixed w as) := by
  induction as generalizing w with
  | nil => exact h
  | cons a as ih => exact ih (inv_act a h)

theorem inv_reachable {w : W} (h : Reachable .fixed w) : Inv w := by
  obtain ⟨as, rfl⟩ := h
  exact inv_exec as inv_init

theorem reachable_act {v : Variant} {w : W} (a : Act) (h : Reachable v w) : Reachable v (act v w a) := by
  obtain ⟨as, rfl⟩ := h
  exact ⟨as ++ [a], by simp [exec, List.foldl_append]⟩

theorem reachable_exec {v : Variant} {w : W} (as : List Act) (h : Reachable v w) : Reachable v (exec v w as) := by
  obtain ⟨bs, rfl⟩ := h
  exact ⟨bs ++ as, by simp [exec, List.foldl_append]⟩

theorem rank_decreases {v : Variant} {w w' : W} (hs : relayStep? v w = some w') : rank w' < rank w := by
  rcases w with ⟨queue, srcClosed, pc, resultClosed, stopped, panicked, log, sent⟩
  cases pc
  case recvWait =>
    cases queue with
    | nil =>
      cases srcClosed
      · simp [relayStep?] at hs
      · simp [relayStep?] at hs; subst hs; simp [rank]
    | cons e q =>
      simp only [relayStep?, relayTake, Option.some.injEq] at hs
      split_ifs at hs <;> (subst hs; simp [rank])
  case sendWait o =>
    simp only [relayStep?] at hs
    split_ifs at hs
    simp only [Option.some.injEq] at hs; subst hs; simp [rank]
  case stopping => simp [relayStep?] at hs; subst hs; simp [rank]
  case closing => simp [relayStep?] at hs; subst hs; simp [rank]
  case exited => simp [relayStep?] at hs

theorem relayRun_bound {v : Variant} {w w' : W} {n : Nat} (h : RelayRun v w n w') : rank w' + n ≤ rank w := by
  induction h with
  | done w => simp
  | step hs _ ih => have := rank_decreases hs; omega

/-- the consumer has stopped, or the source has ended and nothing is left to deliver -/
def Finishing (w : W) : Prop :=
  w.stopped = true ∨ (w.srcClosed = true ∧ w.queue = [] ∧ ∀ o, w.pc ≠ .sendWait o)

theorem finishing_relayStep {w w' : W} (hq : Finishing w) (hs : relayStep? .fixed w = some w') : Finishing w' := by
  unfold Finishing at hq ⊢
  rcases relayStep_cases hs with ⟨e, q, h1, h2, rfl⟩ | ⟨h1, h2, h3, rfl⟩ | ⟨o, h1, h2, rfl⟩ | ⟨h1, rfl⟩ | ⟨h1, rfl⟩
  · rcases hq with hq | ⟨_, hq, _⟩
    · exact Or.inl hq
    · simp [h2] at hq
  · exact Or.inr ⟨h3, h2, by simp⟩
  · exact Or.inl h2
  · exact Or.inl rfl
  · rcases hq with hq | ⟨h2, h3, _⟩
    · exact Or.inl hq
    · exact Or.inr ⟨h2, h3, by simp⟩

theorem finishing_blocked {w : W} (hi : Inv w) (hq : Finishing w) (hs : relayStep? .fixed w = none) :
    w.pc = .exited ∧ w.resultClosed = true := by
  rcases w with ⟨queue, srcClosed, pc, resultClosed, stopped, panicked, log, sent⟩
  obtain ⟨hf, hp, hsc, hx⟩ := hi
  simp only [Finishing] at hq hsc hx
  cases pc
  case recvWait =>
    cases queue with
    | nil =>
      have hc : srcClosed = true := by
        rcases hq with hq | ⟨hq, _, _⟩
        · exact hsc hq
        · exact hq
      subst hc
      simp [relayStep?] at hs
    | cons e q => simp [relayStep?] at hs
  case sendWait o =>
    rcases hq with hq | ⟨_, _, hq⟩
    · subst hq; simp [relayStep?] at hs
    · exact absurd rfl (hq o)
  case stopping => simp [relayStep?] at hs
  case closing => simp [relayStep?] at hs
  case exited => exact ⟨rfl, hx rfl⟩

theorem cleanup_run {w w' : W} {n : Nat} (hi : Inv w) (hq : Finishing w) (hr : RelayRun .fixed w n w')
    (hmax : relayStep? .fixed w' = none) : n ≤ rank w ∧ w'.pc = .exited ∧ w'.resultClosed = true := by
  refine ⟨by have := relayRun_bound hr; omega, ?_⟩
  induction hr with
  | done w => exact finishing_blocked hi hq hmax
  | step hs _ ih => exact ih (inv_relayStep hi hs) (finishing_relayStep hq hs) hmax

/-- a maximal run of relay steps exists from every state (so `cleanup_run` is not vacuous) and is what `settle` computes -/
theorem settleN_run (v : Variant) (n : Nat) (w : W) (hn : rank w ≤ n) :
    ∃ k, RelayRun v w k (settleN v n w) ∧ relayStep? v (settleN v n w) = none := by
  induction n generalizing w with
  | zero =>
    rcases w with ⟨queue, srcClosed, pc, resultClosed, stopped, panicked, log, sent⟩
    cases pc <;> simp [rank] at hn
    exact ⟨0, .done _, by simp [settleN, relayStep?]⟩
  | succ n ih =>
    cases hs : relayStep? v w with
    | none => exact ⟨0, by simpa [settleN, hs] using RelayRun.done w, by simp [settleN, hs]⟩
    | some w' =>
      have hlt := rank_decreases hs
      obtain ⟨k, hk, hb⟩ := ih w' (by omega)
      exact ⟨k + 1, by simpa [settleN, hs] using RelayRun.step hs hk, by simpa [settleN, hs] using hb⟩

theorem rank_le_four (w : W) : rank w ≤ 4 := by
  rcases w with ⟨queue, srcClosed, pc, resultClosed, stopped, panicked, log, sent⟩
  cases pc <;> simp [rank]

theorem settle_blocked (v : Variant) (w : W) : relayStep? v (settle v w) = none :=
  (settleN_run v 4 w (rank_le_four w)).choose_spec.2

theorem settle_run (v : Variant) (w : W) : ∃ k, RelayRun v w k (settle v w) :=
  let ⟨k, hk, _⟩ := settleN_run v 4 w (rank_le_four w); ⟨k, hk⟩

theorem stop_when_stopped (v : Variant) (w : W) (k : Nat) (h : w.stopped = true) : act v w (.consumerStop k) = w := by
  simp [act, h]

/-! ## cleanup under every schedule: `mu` -/

theorem mu_relayStep {w w' : W} (hs : relayStep? .fixed w = some w') : mu w' < mu w := by
  rcases relayStep_cases hs with ⟨e, q, h1, h2, rfl⟩ | ⟨h1, h2, h3, rfl⟩ | ⟨o, h1, h2, rfl⟩ | ⟨h1, rfl⟩ | ⟨h1, rfl⟩
  · simp only [mu, h1, h2, List.length_cons]; omega
  · simp only [mu, h1]; omega
  · simp only [mu, h1]; omega
  · simp only [mu, h1]; omega
  · simp only [mu, h1]; omega

theorem stopped_relayStep {w w' : W} (hst : w.stopped = true) (hs : relayStep? .fixed w = some w') : w'.stopped = true := by
  rcases relayStep_cases hs with ⟨e, q, h1, h2, rfl⟩ | ⟨h1, h2, h3, rfl⟩ | ⟨o, h1, h2, rfl⟩ | ⟨h1, rfl⟩ | ⟨h1, rfl⟩ <;> simp [hst]

theorem mu_act_stopped {w : W} (a : Act) (hi : Inv w) (hst : w.stopped = true) :
    mu (act .fixed w a) ≤ mu w ∧ (act .fixed w a).stopped = true := by
  have hc := hi.stopClosed hst
  cases a with
  | srcSend e => simp [act, hc, hst]
  | srcClose k => simp [act, hc, hst]
  | consumerStop k => simp [act, hst]
  | consumerRecv =>
    rcases w with ⟨queue, srcClosed, pc, resultClosed, stopped, panicked, log, sent⟩
    simp only at hst
    cases pc <;> simp [act, mu, hst]
  | relayStep =>
    show mu ((relayStep? .fixed w).getD w) ≤ _ ∧ ((relayStep? .fixed w).getD w).stopped = true
    cases hs : relayStep? .fixed w with
    | none => simpa using hst
    | some w' => exact ⟨by simpa using (mu_relayStep hs).le, by simpa using stopped_relayStep hst hs⟩

def countRelay (as : List Act) : Nat := (as.filter (· = Act.relayStep)).length

theorem stopped_enabled {w : W} (hi : Inv w) (hst : w.stopped = true) (hne : w.pc ≠ .exited) :
    ∃ w', relayStep? .fixed w = some w' := by
  have hc := hi.stopClosed hst
  rcases w with ⟨queue, srcClosed, pc, resultClosed, stopped, panicked, log, sent⟩
  simp only at hst hc hne
  subst hst hc
  cases pc with
  | recvWait => cases queue <;> exact ⟨_, rfl⟩
  | exited => exact absurd rfl hne
  | _ => exact ⟨_, rfl⟩

theorem mu_zero_iff (w : W) : mu w = 0 ↔ w.pc = .exited := by
  rcases w with ⟨queue, srcClosed, pc, resultClosed, stopped, panicked, log, sent⟩
  cases pc <;> simp [mu]

theorem mu_exec_stopped {w : W} (as : List Act) (hi : Inv w) (hst : w.stopped = true) :
    mu (exec .fixed w as) + countRelay as ≤ mu w ∨ (exec .fixed w as).pc = .exited := by
  induction as generalizing w with
  | nil => left; simp [exec, countRelay]
  | cons a as ih =>
    have hstep := mu_act_stopped a hi hst
    have hi' := inv_act a hi
    have ih' := ih hi' hstep.2
    show mu (exec .fixed (act .fixed w a) as) + countRelay (a :: as) ≤ mu w ∨ (exec .fixed (act .fixed w a) as).pc = .exited
    rcases ih' with ih' | ih'
    · by_cases ha : a = .relayStep
      · subst ha
        by_cases hne : w.pc = .exited
        · -- already exited: every later state is exited too (mu stays 0)
          have h0 : mu w = 0 := (mu_zero_iff w).mpr hne
          have : mu (act .fixed w .relayStep) = 0 := by have := hstep.1; omega
          right
          have : mu (exec .fixed (act .fixed w .relayStep) as) = 0 := by omega
          exact (mu_zero_iff _).mp this
        · obtain ⟨w', hs⟩ := stopped_enabled hi hst hne
          have hlt := mu_relayStep hs
          have hact : act .fixed w .relayStep = w' := by simp [act, hs]
          left
          have hcnt : countRelay (Act.relayStep :: as) = countRelay as + 1 := by simp [countRelay]
          subst hact
          rw [hcnt]
          omega
      · left
        have hcnt : countRelay (a :: as) = countRelay as := by simp [countRelay, ha]
        rw [hcnt]
        have := hstep.1
        omega
    · exact Or.inr ih'

end Asts.Watch
