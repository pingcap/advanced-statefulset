import Asts.Proofs.GL_Lists
import Asts.Proofs.SY_a_Sync

/-! # GL — glue, sync level: the reconcile inside a sync

`syncF` reaches `updateStatefulSet` only after the adoption phase, the claim pass and the resolution of the revisions all
succeeded; it then records the revision names it resolved in `SyncOut.cur` / `SyncOut.upd`. The decomposition lemma
`syncF_reconcile` says: whenever `upd ≠ ""` the recorded actions ARE the actions of
`updateStatefulSet i.view o.cur o.upd (o.claimed.map (·.pod)) pf` for the fault list `pf` the model builds
(`syncFaults`), the claimed pods are a sublist of the pods of the world, and a written status is the completed status of
that reconcile, which ended `.ok`. -/
namespace Asts.GL
open Asts Asts.SYa

/-- the pod objects a sync hands to its reconcile -/
def syncPods (o : SyncOut) : List Pod := o.claimed.map (·.pod)

/-- the reconcile-level fault list `syncF` builds from the API-level plan, the pods of the world and the claimed pods -/
def syncFaults (i : SyncIn) (plan : List Fault) (o : SyncOut) : Faults :=
  podFaults i.setName plan i.pods o.claimed (rangeOf i).1 (rangeOf i).2

/-- the reconcile a sync runs, recomputed from the sync's own output -/
def syncReconcile (i : SyncIn) (plan : List Fault) (o : SyncOut) : St × Outcome :=
  updateStatefulSet i.view o.cur o.upd (syncPods o) (syncFaults i plan o)

/-- one step of the claim pass appends the pod it looks at to the claimed list, or leaves the list alone: by the
    equations of `claimStep` per decision (`Sync_Claim`) -/
theorem claimStep_claimed (plan : List Fault) (d : Bool) (fresh : Fresh) (o : ClaimOutF) (c : CPod) :
    (claimStep plan d fresh o c).claimed = o.claimed ∨ (claimStep plan d fresh o c).claimed = o.claimed ++ [c] := by
  have adopt : ∀ (o' : ClaimOutF) (b : Bool), claimDecision d c = .adopt → o'.canAdopt = some b →
      (claimStep plan d fresh o' c).claimed = o'.claimed ∨ (claimStep plan d fresh o' c).claimed = o'.claimed ++ [c] := by
    intro o' b hd hca
    cases b with
    | false => rw [claimStep_adopt_false o' hd hca]; exact Or.inl rfl
    | true =>
      obtain ⟨f, b, e, _⟩ := claimStep_adopt_true (plan := plan) (fresh := fresh) o' hd hca
      rw [e]
      cases b with
      | false => exact Or.inl rfl
      | true => exact Or.inr rfl
  cases hd : claimDecision d c with
  | keep => rw [claimStep_keep o hd]; exact Or.inr rfl
  | ignore => rw [claimStep_ignore o hd]; exact Or.inl rfl
  | release =>
    obtain ⟨f, e⟩ := claimStep_release (plan := plan) (fresh := fresh) o hd
    rw [e]; exact Or.inl rfl
  | adopt =>
    cases hca : o.canAdopt with
    | some b => exact adopt o b hd hca
    | none => rw [claimStep_adopt_none o hd hca]; exact adopt _ _ hd rfl

theorem foldl_claimStep_claimed (plan : List Fault) (d : Bool) (fresh : Fresh) :
    ∀ (pods : List CPod) (o : ClaimOutF),
      ∃ l, (pods.foldl (claimStep plan d fresh) o).claimed = o.claimed ++ l ∧ l.Sublist pods
  | [], o => ⟨[], by simp, List.Sublist.refl _⟩
  | c :: cs, o => by
    obtain ⟨l, hl, hs⟩ := foldl_claimStep_claimed plan d fresh cs (claimStep plan d fresh o c)
    rw [List.foldl_cons, hl]
    rcases claimStep_claimed plan d fresh o c with h | h
    · exact ⟨l, by rw [h], hs.cons c⟩
    · exact ⟨c :: l, by rw [h]; simp, hs.cons_cons c⟩

theorem claimPodsF_claimed_sublist (plan : List Fault) (d : Bool) (fresh : Fresh) (pods : List CPod) (tr : Tr) :
    (claimPodsF plan d fresh pods tr).claimed.Sublist pods := by
  obtain ⟨l, hl, hs⟩ := foldl_claimStep_claimed plan d fresh pods { tr := tr }
  rw [claimPodsF_eq_foldl, hl]
  simpa using hs

/-- what the last stage records, whatever the status write and the truncation of the history did -/
theorem finishCore_fields (i : SyncIn) (plan : List Fault) (claimed : List CPod) (revs : List Rev) (cur upd : Rev)
    (cc : Int) (s : RevSt) (st : St) (out : Outcome) :
    (finishCore i plan claimed revs cur upd cc s st out).cur = cur.name ∧
    (finishCore i plan claimed revs cur upd cc s st out).upd = upd.name ∧
    (finishCore i plan claimed revs cur upd cc s st out).claimed = claimed ∧
    (finishCore i plan claimed revs cur upd cc s st out).acts = st.acts ∧
    (∀ st', (finishCore i plan claimed revs cur upd cc s st out).status = some st' →
      out = .ok ∧ st' = completeRollingUpdate i.view st.status) ∧
    ((finishCore i plan claimed revs cur upd cc s st out).outcome = .ok → out = .ok) := by
  rcases finishCore_cases i plan claimed revs cur upd cc s st out with
    ⟨hne, e⟩ | ⟨hok, _, _, e⟩ | ⟨hok, _, _, t, _, e⟩ | ⟨hok, _, t, _, e⟩
  · rw [e]; exact ⟨rfl, rfl, rfl, rfl, fun _ (h : none = some _) => (nomatch h), fun h => absurd h hne⟩
  · rw [e]; exact ⟨rfl, rfl, rfl, rfl, fun _ (h : none = some _) => (nomatch h), fun (h : Outcome.err = .ok) => (nomatch h)⟩
  · rw [e]; exact ⟨rfl, rfl, rfl, rfl, fun _ h => ⟨hok, (Option.some.inj h).symm⟩, fun _ => hok⟩
  · rw [e]; exact ⟨rfl, rfl, rfl, rfl, fun _ (h : none = some _) => (nomatch h), fun _ => hok⟩

/-- what a sync that got as far as its reconcile looks like -/
structure Reached (i : SyncIn) (plan : List Fault) (o : SyncOut) : Prop where
  sub : o.claimed.Sublist i.pods
  acts : o.acts = (syncReconcile i plan o).1.acts
  status : ∀ st, o.status = some st → (syncReconcile i plan o).2 = .ok ∧
    st = completeRollingUpdate i.view (syncReconcile i plan o).1.status
  ok : o.outcome = .ok → (syncReconcile i plan o).2 = .ok

theorem finishF_reached (i : SyncIn) (plan : List Fault) (claimed : List CPod) (revs : List Rev) (cur upd : Rev)
    (cc : Int) (s : RevSt) (hsub : claimed.Sublist i.pods) :
    Reached i plan (finishF i plan claimed revs cur upd cc s) := by
  obtain ⟨h1, h2, h3, h4, h5, h6⟩ := finishCore_fields i plan claimed revs cur upd cc
    { s with tr := { log := s.tr.log ++ ((reconcileOf i plan claimed cur upd).1.acts.map
        (actLog i.setName plan i.pods claimed (rangeOf i).1 (rangeOf i).2)).flatten } }
    (reconcileOf i plan claimed cur upd).1 (reconcileOf i plan claimed cur upd).2
  have hrec : syncReconcile i plan (finishF i plan claimed revs cur upd cc s) = reconcileOf i plan claimed cur upd := by
    unfold syncReconcile syncPods syncFaults finishF
    rw [h1, h2, h3]
    rfl
  refine ⟨?_, ?_, ?_, ?_⟩
  · show (finishCore i plan claimed revs cur upd cc _ _ _).claimed.Sublist i.pods
    rw [h3]; exact hsub
  · rw [hrec]; exact h4
  · rw [hrec]; exact h5
  · rw [hrec]; exact h6

/-- a sync that stopped before its reconcile: nothing recorded -/
def Idle (o : SyncOut) : Prop := o.acts = [] ∧ o.status = none ∧ o.cur = "" ∧ o.upd = ""

theorem afterClaimF_cases (h : Hashing) (i : SyncIn) (plan : List Fault) (s : RevSt) (failed : Bool)
    (claimed : List CPod) (hsub : claimed.Sublist i.pods) :
    Reached i plan (afterClaimF h i plan s failed claimed) ∨ Idle (afterClaimF h i plan s failed claimed) := by
  unfold afterClaimF
  split
  · exact Or.inr ⟨rfl, rfl, rfl, rfl⟩
  split
  · exact Or.inr ⟨rfl, rfl, rfl, rfl⟩
  · split
    · exact Or.inr ⟨rfl, rfl, rfl, rfl⟩
    · exact Or.inl (finishF_reached i plan claimed _ _ _ _ _ hsub)

theorem syncF_cases (h : Hashing) (i : SyncIn) (plan : List Fault) :
    Reached i plan (syncF h i plan) ∨ Idle (syncF h i plan) := by
  rw [syncF_eq]
  split
  · exact Or.inr ⟨rfl, rfl, rfl, rfl⟩
  · split
    · exact afterClaimF_cases h i plan _ _ _ (claimPodsF_claimed_sublist plan _ _ _ _)
    · exact Or.inr ⟨rfl, rfl, rfl, rfl⟩

theorem syncF_acts_ind {P : List Action → Prop} (h : Hashing) (i : SyncIn) (plan : List Fault) (hnil : P [])
    (hrec : P (syncReconcile i plan (syncF h i plan)).1.acts) : P (syncF h i plan).acts := by
  rcases syncF_cases h i plan with hr | hi
  · rw [hr.acts]; exact hrec
  · rw [hi.1]; exact hnil

/-- **The decomposition lemma.** A sync whose output names an update revision got as far as its reconcile: the claimed
    pods are a sublist of the pods of the world, the recorded actions are exactly those of
    `updateStatefulSet i.view o.cur o.upd (o.claimed.map (·.pod)) (syncFaults i plan o)`, a written status is that
    reconcile's completed status and presupposes that it ended `.ok`, and so does an `.ok` outcome of the sync. -/
theorem syncF_reconcile (h : Hashing) (i : SyncIn) (plan : List Fault) (hu : (syncF h i plan).upd ≠ "") :
    Reached i plan (syncF h i plan) := by
  rcases syncF_cases h i plan with hr | hi
  · exact hr
  · exact absurd hi.2.2.2 hu

theorem syncF_reconcile_of_acts (h : Hashing) (i : SyncIn) (plan : List Fault)
    (hu : (syncF h i plan).acts ≠ [] ∨ (syncF h i plan).status ≠ none) : Reached i plan (syncF h i plan) := by
  rcases syncF_cases h i plan with hr | hi
  · exact hr
  · rcases hu with hu | hu
    · exact absurd hi.1 hu
    · exact absurd hi.2.1 hu

theorem syncF_claimed_sublist (h : Hashing) (i : SyncIn) (plan : List Fault) :
    (syncF h i plan).claimed.Sublist i.pods := by
  rw [syncF_eq]
  split
  · exact List.nil_sublist _
  · split
    · have hsub := claimPodsF_claimed_sublist plan i.view.deleting i.fresh i.pods
        (adoptOrphanRevisionsF plan i.view.deleting i.fresh { store := i.store }).1.tr
      rename_i s1 hA
      rw [hA] at hsub
      generalize (claimPodsF plan i.view.deleting i.fresh i.pods s1.tr).claimed = cl at hsub ⊢
      generalize (claimPodsF plan i.view.deleting i.fresh i.pods s1.tr).failed = fl
      generalize ({ s1 with tr := (claimPodsF plan i.view.deleting i.fresh i.pods s1.tr).tr } : RevSt) = s2
      unfold afterClaimF
      split
      · exact List.nil_sublist _
      split
      · exact hsub
      · split
        · exact hsub
        · exact (finishF_reached i plan cl _ _ _ _ _ hsub).sub
    · exact List.nil_sublist _

end Asts.GL
