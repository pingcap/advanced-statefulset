import Asts.Proofs.SY_b_GetRevs
import Asts.Proofs.C02_Store

/-! C02, normalising rounds: the sorted listing of a store with distinct names is determined by its members. -/
namespace Asts.C02p
open Asts

/-- visible to `ListRevisions` -/
def Vis (r : Rev) : Prop := (r.selMatch = true ∨ r.marker = true) ∧ r.owner ≠ .other

theorem vis_iff_visB (r : Rev) : Vis r ↔ visB r = true := by
  unfold Vis visB
  simp only [Bool.and_eq_true, bne_iff_ne, ne_eq, Bool.or_eq_true]
  tauto

/-- the sorted listing is the sorted list `X` as soon as `X` has the right members -/
theorem listing_eq_of_mem {S X : List Rev} (hn : (S.map (·.name)).Nodup) (hX : SortedRevs X)
    (hXn : (X.map (·.name)).Nodup) (hmem : ∀ r, r ∈ X ↔ r ∈ S ∧ Vis r) : sortRevs (listRevisions S) = X := by
  apply sorted_unique (sortRevs_sorted _) hX (sorted_listing_names_nodup S)
  rw [List.perm_ext_iff_of_nodup (List.Nodup.of_map _ (sorted_listing_names_nodup S)) (List.Nodup.of_map _ hXn)]
  intro r
  rw [mem_sortRevs, mem_listRevisions_iff hn, hmem]
  rfl

theorem mem_listing {S : List Rev} (hn : (S.map (·.name)).Nodup) {r : Rev} :
    r ∈ sortRevs (listRevisions S) ↔ r ∈ S ∧ Vis r := by
  rw [mem_sortRevs, mem_listRevisions_iff hn]; rfl

theorem find_name_some {l : List Rev} (hn : (l.map (·.name)).Nodup) {r : Rev} (hr : r ∈ l) :
    l.find? (·.name == r.name) = some r := by
  induction l with
  | nil => cases hr
  | cons a t ih =>
    rw [List.map_cons, List.nodup_cons] at hn
    rcases List.mem_cons.1 hr with rfl | hr'
    · simp
    · have hne : a.name ≠ r.name := fun e => hn.1 (e ▸ List.mem_map_of_mem hr')
      rw [List.find?_cons_of_neg (by simpa using hne)]
      exact ih hn.2 hr'

theorem find_name_none {l : List Rev} {n : String} (h : ∀ r ∈ l, r.name ≠ n) : l.find? (·.name == n) = none := by
  rw [List.find?_eq_none]
  intro r hr
  simpa using h r hr

theorem find_getD_name {l : List Rev} (n : String) (d : Rev) :
    ((l.find? (·.name == n)).getD d).name = if n ∈ l.map (·.name) then n else d.name := by
  cases hf : l.find? (·.name == n) with
  | none =>
    rw [List.find?_eq_none] at hf
    have : n ∉ l.map (·.name) := by
      intro hm
      rw [List.mem_map] at hm
      obtain ⟨r, hr, rfl⟩ := hm
      exact absurd (hf r hr) (by simp)
    simp [this]
  | some r =>
    have h1 := List.find?_some hf
    have h2 := List.mem_of_find?_eq_some hf
    have : n ∈ l.map (·.name) := List.mem_map.2 ⟨r, h2, by simpa using h1⟩
    simp only [Option.getD_some, this, if_true]
    simpa using h1

end Asts.C02p
