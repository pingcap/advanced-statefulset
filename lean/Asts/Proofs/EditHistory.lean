import Asts.Props.C02
import Asts.Proofs.EditAlgebra
import Asts.Model.WorldEdits
import Mathlib.Tactic

/-! # what a scale edit converges to — the desired-ordinal algebra carried through `C02_converges`

`Final` pins the ordinals of the set's own pods to the desired set. Rounds never touch the spec, so the world a history converges
to after a scale edit has the pods of `desired` of the *edited* spec; the edit algebra says what that is in terms of the pods
before the edit. -/
namespace Asts.EditHist
open Asts Asts.C02p List

theorem roundsN_desired (h : Hashing) (n : Nat) (i : SyncIn) :
    desired (replicasOf (roundsN h n i).view) (roundsN h n i).view.slots = desired (replicasOf i.view) i.view.slots := by
  induction n with
  | zero => rfl
  | succ n ih => rw [roundsN_succ]; exact ih

/-- in a final world the set's own pods sit on exactly the desired ordinals, one each -/
theorem final_ords {h : Hashing} {i : SyncIn} (hf : Final h i) :
    ((ownPods i).map (·.pod.ord)).Perm (desired (replicasOf i.view) i.view.slots) := by
  unfold Final finalB at hf
  simp only [Bool.and_eq_true] at hf
  have hp := hf.1.1.2
  unfold podsFinal at hp
  simp only [Bool.and_eq_true, List.all_eq_true, List.any_eq_true, beq_iff_eq] at hp
  obtain ⟨⟨-, hall⟩, hlen⟩ := hp
  have hD := desired_isDesired (replicasOf i.view) i.view.slots
  have hnd : (desired (replicasOf i.view) i.view.slots).Nodup := hD.sorted.imp (fun h => ne_of_lt h)
  have hsub : desired (replicasOf i.view) i.view.slots ⊆ (ownPods i).map (·.pod.ord) := by
    intro o ho
    obtain ⟨c, hc, hco⟩ := hall o ho
    exact List.mem_map.2 ⟨c, hc, hco⟩
  have hsp := List.subperm_of_subset hnd hsub
  exact (hsp.perm_of_length_le (by rw [List.length_map]; omega)).symm

/-- a replicas edit leaves `replicas` at the new value (whether or not it had it before) and the slots alone -/
theorem editReplicas_view (n : Int) (W : SyncIn) :
    replicasOf (applyEdit (.replicas n) W).view = n ∧ (applyEdit (.replicas n) W).view.slots = W.view.slots := by
  show replicasOf (editReplicas n W).view = n ∧ (editReplicas n W).view.slots = W.view.slots
  unfold editReplicas replicasOf
  split_ifs with hc
  · rw [beq_iff_eq] at hc; rw [hc]; exact ⟨rfl, rfl⟩
  · exact ⟨rfl, rfl⟩

end Asts.EditHist
