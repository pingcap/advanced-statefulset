import Asts.Proofs.SY_c_Base
import Asts.Proofs.Sync_Phases

/-! # C09 (i): the call log read back with the faults that fired, and the "benign" list

`events plan log` pairs every entry of a log with the fault the plan assigns to it (`planAt` at its occurrence number) —
exactly what `Tr.call` returned when the entry was appended, and exactly what `annotate` of `Spec/Sync.lean` recomputes.
`Benign` is the list of failures the code swallows on purpose, stated on keys; `BenignFrom n` says that every fault that
fired at a position `≥ n` is on that list. -/
namespace Asts.SYc

abbrev Ev := String × Option ErrKind

def eventsFrom (plan : List Fault) : List String → List String → List Ev
  | _, [] => []
  | pre, e :: rest => (e, planAt plan e (cnt pre e)) :: eventsFrom plan (pre ++ [e]) rest

/-- every entry with the fault that fired at it (`none` = the call went through) -/
def events (plan : List Fault) (log : List String) : List Ev := eventsFrom plan [] log

theorem eventsFrom_append (plan : List Fault) :
    ∀ (a b pre : List String), eventsFrom plan pre (a ++ b) = eventsFrom plan pre a ++ eventsFrom plan (pre ++ a) b
  | [], b, pre => by simp [eventsFrom]
  | e :: a, b, pre => by
    simp only [List.cons_append, eventsFrom]
    rw [eventsFrom_append plan a b (pre ++ [e])]
    simp

theorem events_append (plan : List Fault) (a b : List String) :
    events plan (a ++ b) = events plan a ++ eventsFrom plan a b := by
  unfold events; rw [eventsFrom_append]; simp

theorem events_snoc (plan : List Fault) (a : List String) (k : String) :
    events plan (a ++ [k]) = events plan a ++ [(k, planAt plan k (cnt a k))] := by
  rw [events_append]; rfl

@[simp] theorem eventsFrom_length (plan : List Fault) : ∀ (l pre : List String), (eventsFrom plan pre l).length = l.length
  | [], _ => rfl
  | _ :: l, pre => by simp [eventsFrom, eventsFrom_length plan l]

@[simp] theorem events_length (plan : List Fault) (l : List String) : (events plan l).length = l.length :=
  eventsFrom_length plan l []

theorem eventsFrom_map_fst (plan : List Fault) : ∀ (l pre : List String), (eventsFrom plan pre l).map (·.1) = l
  | [], _ => rfl
  | _ :: l, pre => by simp [eventsFrom, eventsFrom_map_fst plan l]

theorem eventsFrom_nil_plan : ∀ (l pre : List String), ∀ ev ∈ eventsFrom [] pre l, ev.2 = none
  | [], _, ev, h => by simp [eventsFrom] at h
  | e :: l, pre, ev, h => by
    simp only [eventsFrom, List.mem_cons] at h
    rcases h with h | h
    · subst h; rfl
    · exact eventsFrom_nil_plan l _ ev h

/-- what the benign list is relative to: the pod snapshot (a release patch is recognised by its pod being controlled by
    the set), a set of keys that are left out of the judgement (`exempt`; empty for the headline, the pod-control keys
    for the statement about arbitrary plans), and a certificate for object names -/
structure Cx where
  pods   : List CPod
  exempt : String → Prop
  nameOk : String → Prop

/-- the failures swallowed on purpose, on keys. `prev` is the event just before. Every object name that occurs is
    certified by `cx.nameOk` (used for "contains no ':'" when the keys are parsed back). -/
def Benign (cx : Cx) (prev : Option Ev) (ev : Ev) : Prop :=
  ∀ kind, ev.2 = some kind →
    cx.exempt ev.1 ∨
    (kind = .conflict ∧ (ev.1 = "updatestatus" ∨ (∃ n, cx.nameOk n ∧ ev.1 = kUpdateRev n) ∨
        ∃ n, cx.nameOk n ∧ ev.1 = kUpdatePod n)) ∨
    (kind = .notFound ∧ ∃ n, cx.nameOk n ∧ ev.1 = kPatchPod n) ∨
    (kind = .invalid ∧ ∃ c ∈ cx.pods, c.owner = .self ∧ cx.nameOk c.name ∧ ev.1 = kPatchPod c.name) ∨
    (kind = .alreadyExists ∧ ∃ n, cx.nameOk n ∧ ev.1 = kCreateRev n) ∨
    (∃ n pk, cx.nameOk n ∧ ev.1 = kGetRev n ∧ prev = some (kUpdateRev n, some pk))

theorem benign_none (cx : Cx) (prev : Option Ev) (k : String) : Benign cx prev (k, none) := by
  intro kind h; cases h

theorem benign_exempt {cx : Cx} {prev : Option Ev} {ev : Ev} (h : cx.exempt ev.1) : Benign cx prev ev :=
  fun _ _ => Or.inl h

theorem benign_conflict_status (cx : Cx) (prev : Option Ev) : Benign cx prev ("updatestatus", some .conflict) := by
  intro kind hk
  cases hk
  exact Or.inr (Or.inl ⟨rfl, Or.inl rfl⟩)

theorem benign_conflict_updateRev {cx : Cx} (prev : Option Ev) {n : String} (hn : cx.nameOk n) :
    Benign cx prev (kUpdateRev n, some .conflict) := by
  intro kind hk
  cases hk
  exact Or.inr (Or.inl ⟨rfl, Or.inr (Or.inl ⟨n, hn, rfl⟩)⟩)

theorem benign_notFound_patchPod {cx : Cx} (prev : Option Ev) {n : String} (hn : cx.nameOk n) :
    Benign cx prev (kPatchPod n, some .notFound) := by
  intro kind hk
  cases hk
  exact Or.inr (Or.inr (Or.inl ⟨rfl, n, hn, rfl⟩))

theorem benign_invalid_release {cx : Cx} (prev : Option Ev) {c : CPod} (hc : c ∈ cx.pods) (ho : c.owner = .self)
    (hn : cx.nameOk c.name) : Benign cx prev (kPatchPod c.name, some .invalid) := by
  intro kind hk
  cases hk
  exact Or.inr (Or.inr (Or.inr (Or.inl ⟨rfl, c, hc, ho, hn, rfl⟩)))

theorem benign_exists_createRev {cx : Cx} (prev : Option Ev) {n : String} (hn : cx.nameOk n) :
    Benign cx prev (kCreateRev n, some .alreadyExists) := by
  intro kind hk
  cases hk
  exact Or.inr (Or.inr (Or.inr (Or.inr (Or.inl ⟨rfl, n, hn, rfl⟩))))

/-- the refreshing Get after a failed renumbering Update: whatever it answers is ignored -/
theorem benign_refresh {cx : Cx} {n : String} (hn : cx.nameOk n) (pk : ErrKind) (k : Option ErrKind) :
    Benign cx (some (kUpdateRev n, some pk)) (kGetRev n, k) :=
  fun _ _ => Or.inr (Or.inr (Or.inr (Or.inr (Or.inr ⟨n, pk, hn, rfl, rfl⟩))))

/-- every fault that fired at a position `≥ n` of the log is benign -/
def BenignFrom (cx : Cx) (plan : List Fault) (n : Nat) (log : List String) : Prop :=
  ∀ pre x post, events plan log = pre ++ x :: post → n ≤ pre.length → Benign cx pre.getLast? x

theorem benignFrom_len (cx : Cx) (plan : List Fault) (log : List String) :
    BenignFrom cx plan log.length log := by
  intro pre x post h hn
  have := congrArg List.length h
  simp at this; omega

theorem benignFrom_mono {cx : Cx} {plan : List Fault} {n m : Nat} {log : List String} (hnm : n ≤ m)
    (h : BenignFrom cx plan n log) : BenignFrom cx plan m log :=
  fun pre x post he hm => h pre x post he (by omega)

theorem benignFrom_snoc {cx : Cx} {plan : List Fault} {n : Nat} {log : List String} {k : String}
    (h : BenignFrom cx plan n log)
    (hk : Benign cx (events plan log).getLast? (k, planAt plan k (cnt log k))) :
    BenignFrom cx plan n (log ++ [k]) := by
  intro pre x post he hn
  rw [events_snoc] at he
  rcases List.eq_nil_or_concat post with hp | ⟨post', y, hp⟩
  · subst hp
    have := List.append_inj' he (by simp)
    obtain ⟨h1, h2⟩ := this
    simp only [List.cons.injEq, and_true] at h2
    subst h1; subst h2; exact hk
  · subst hp
    have he' : events plan log ++ [(k, planAt plan k (cnt log k))] = (pre ++ x :: post') ++ [y] := by
      rw [he]; simp
    have := List.append_inj' he' (by simp)
    exact h pre x post' this.1 hn

theorem benignFrom_snoc_none {cx : Cx} {plan : List Fault} {n : Nat} {log : List String} {k : String}
    (h : BenignFrom cx plan n log) (hk : planAt plan k (cnt log k) = none) :
    BenignFrom cx plan n (log ++ [k]) :=
  benignFrom_snoc h (by rw [hk]; exact benign_none _ _ _)

theorem events_getLast_snoc (plan : List Fault) (a : List String) (k : String) :
    (events plan (a ++ [k])).getLast? = some (k, planAt plan k (cnt a k)) := by
  rw [events_snoc]; simp

theorem planAt_none_of_no_key {plan : List Fault} {k : String} (h : ∀ f ∈ plan, f.key ≠ k) (occ : Nat) :
    planAt plan k occ = none := by
  unfold planAt
  rw [Option.map_eq_none_iff, List.find?_eq_none]
  intro f hf
  simp [h f hf]

theorem benignFrom_append_free {cx : Cx} {plan : List Fault} {n : Nat} {log : List String} :
    ∀ (ext : List String), (∀ k ∈ ext, ∀ f ∈ plan, f.key ≠ k) → BenignFrom cx plan n log →
      BenignFrom cx plan n (log ++ ext) := by
  intro ext
  induction ext using List.reverseRecOn with
  | nil => intro _ h; simpa using h
  | append_singleton ext k ih =>
    intro hfree h
    rw [← List.append_assoc]
    refine benignFrom_snoc_none (ih (fun k' hk' => hfree k' (by simp [hk'])) h) ?_
    exact planAt_none_of_no_key (hfree k (by simp)) _

/-- a fault fires exactly where a plan entry matches key and occurrence number -/
theorem planAt_isSome_iff (plan : List Fault) (k : String) (occ : Nat) :
    (planAt plan k occ).isSome = true ↔ ∃ f ∈ plan, f.key = k ∧ f.occ = occ := by
  unfold planAt
  rw [Option.isSome_map, List.find?_isSome]
  simp

/-- the event at a decomposition point: the entry there, with the plan's verdict for its occurrence number among the
    entries before -/
theorem events_at (plan : List Fault) (a : List String) (k : String) (b : List String) :
    events plan (a ++ k :: b) = events plan a ++ (k, planAt plan k (cnt a k)) :: eventsFrom plan (a ++ [k]) b := by
  rw [events_append]; rfl

theorem foldl_foldOk_false {α β} (f : β → α → β × Bool) :
    ∀ (xs : List α) (b : β), (xs.foldl (fun (acc : β × Bool) x => if acc.2 then f acc.1 x else acc) (b, false)) = (b, false)
  | [], _ => rfl
  | _ :: xs, b => by simp [List.foldl_cons, foldl_foldOk_false f xs b]

/-- invariant rule for `foldOk`: a run that ends with `true` made only successful steps -/
theorem foldOk_inv_ok {α β} (P : β → Prop) (f : β → α → β × Bool) :
    ∀ (xs : List α) (init : β), P init → (∀ b, ∀ x ∈ xs, P b → (f b x).2 = true → P (f b x).1) →
      (foldOk xs init f).2 = true → P (foldOk xs init f).1
  | [], init, h0, _, _ => by simpa [foldOk] using h0
  | x :: xs, init, h0, hstep, hok => by
    rw [foldOk_cons] at hok ⊢
    split at hok
    · rename_i hx
      rw [if_pos hx]
      exact foldOk_inv_ok P f xs _ (hstep init x (by simp) h0 hx) (fun b y hy => hstep b y (by simp [hy])) hok
    · simp at hok

end Asts.SYc
