import Mathlib.Tactic
import Asts.Model.Sync

/-! # `claimDecision` and `claimPodsF` (C10, pod half)

The API calls appended by `claimPodsF` are described by a structured event list (`CEv`): the log of the model is the
rendering (`CEv.key`) of that list, and every statement about order, faults and the once-only uncached read is made on the
events (which carry the pod they were issued for), not on strings. -/

namespace Asts.SYa
open Asts

theorem foldl_inv {α β : Type _} (Inv : β → Prop) (f : β → α → β) (l : List α) (b : β)
    (h0 : Inv b) (hstep : ∀ b a, a ∈ l → Inv b → Inv (f b a)) : Inv (l.foldl f b) := by
  induction l generalizing b with
  | nil => simpa
  | cons x xs ih =>
    simp only [List.foldl_cons]
    exact ih _ (hstep _ _ (by simp) h0) (fun b a ha hb => hstep b a (by simp [ha]) hb)

theorem find_by_name {pods : List CPod} (hnd : (pods.map (·.name)).Nodup) {c : CPod} (hc : c ∈ pods) :
    pods.find? (·.name == c.name) = some c := by
  induction pods with
  | nil => cases hc
  | cons a l ih =>
    simp only [List.map_cons, List.nodup_cons] at hnd
    rcases List.mem_cons.1 hc with rfl | hc'
    · simp
    · have hne : a.name ≠ c.name := by
        intro e
        exact hnd.1 (by rw [e]; exact List.mem_map_of_mem hc')
      rw [List.find?_cons_of_neg (by simpa using hne)]
      exact ih hnd.2 hc'

/-- the fault (if any) that the plan injects into the `occ`-th call with key `k` -/
def look (plan : List Fault) (k : String) (occ : Nat) : Option ErrKind :=
  (plan.find? (fun f => f.key == k && f.occ == occ)).map (·.kind)

/-- how often key `k` has been called in `log` -/
def occIn (log : List String) (k : String) : Nat := (log.filter (· == k)).length

theorem call_eq (t : Tr) (plan : List Fault) (k : String) :
    t.call plan k = ({ log := t.log ++ [k] }, look plan k (occIn t.log k)) := rfl

@[simp] theorem call_log (t : Tr) (plan : List Fault) (k : String) : (t.call plan k).1.log = t.log ++ [k] := rfl

/-! ## the retry loops under the empty fault plan -/

/-- fault-free, the status write fails exactly when the set no longer exists -/
theorem statusWriteF_nil (gone : Bool) (fuel : Nat) (t : Tr) :
    statusWriteF [] gone (fuel + 1) t = ({ log := t.log ++ ["updatestatus"] }, !gone) := by
  unfold statusWriteF
  simp [call_eq, look]

theorem updateAttempts_nil (key : String) (fuel n : Nat) : updateAttempts [] key (fuel + 1) n = (n + 1, true) := by
  unfold updateAttempts
  simp

/-! ## (1) the decision table of `claimDecision`

The decision reads the owner and four Booleans; each line of the table is checked by evaluation over these. -/

theorem claimDecision_keep_iff (d : Bool) (c : CPod) :
    claimDecision d c = .keep ↔ c.owner = .self ∧ c.selMatch = true ∧ c.member = true := by
  unfold claimDecision
  generalize c.owner = o, c.selMatch = s, c.member = m, c.pod.terminating = t
  revert s m t d
  cases o <;> decide +kernel

theorem claimDecision_adopt_iff (d : Bool) (c : CPod) :
    claimDecision d c = .adopt ↔
      c.owner = .none ∧ c.selMatch = true ∧ c.member = true ∧ c.pod.terminating = false ∧ d = false := by
  unfold claimDecision
  generalize c.owner = o, c.selMatch = s, c.member = m, c.pod.terminating = t
  revert s m t d
  cases o <;> decide +kernel

theorem claimDecision_release_iff (d : Bool) (c : CPod) :
    claimDecision d c = .release ↔ c.owner = .self ∧ ¬(c.selMatch = true ∧ c.member = true) ∧ d = false := by
  unfold claimDecision
  generalize c.owner = o, c.selMatch = s, c.member = m, c.pod.terminating = t
  revert s m t d
  cases o <;> decide +kernel

theorem claimDecision_ignore_iff (d : Bool) (c : CPod) :
    claimDecision d c = .ignore ↔
      ¬(c.owner = .self ∧ c.selMatch = true ∧ c.member = true) ∧
      ¬(c.owner = .none ∧ c.selMatch = true ∧ c.member = true ∧ c.pod.terminating = false ∧ d = false) ∧
      ¬(c.owner = .self ∧ ¬(c.selMatch = true ∧ c.member = true) ∧ d = false) := by
  unfold claimDecision
  generalize c.owner = o, c.selMatch = s, c.member = m, c.pod.terminating = t
  revert s m t d
  cases o <;> decide +kernel

/-- a pod controlled by somebody else is ignored, whatever else is true of it -/
theorem claimDecision_other (d : Bool) (c : CPod) (h : c.owner = .other) : claimDecision d c = .ignore := by
  simp [claimDecision, h]

/-- a set that is being deleted neither adopts nor releases -/
theorem claimDecision_deleting (c : CPod) : claimDecision true c = .keep ∨ claimDecision true c = .ignore := by
  unfold claimDecision
  generalize c.owner = o, c.selMatch = s, c.member = m, c.pod.terminating = t
  revert s m t
  cases o <;> decide +kernel

/-! ## the step function of `claimPodsF` -/

def claimStep (plan : List Fault) (setDeleting : Bool) (fresh : Fresh) (o : ClaimOutF) (c : CPod) : ClaimOutF :=
    match claimDecision setDeleting c with
    | .keep => { o with claimed := o.claimed ++ [c] }
    | .ignore => o
    | .release =>
      let (t, e) := o.tr.call plan s!"patch:pod:{c.name}"
      let o := { o with tr := t }
      match e with
      | some .notFound | some .invalid | none => o
      | some _ => { o with failed := true }
    | .adopt =>
      let (o, can) := match o.canAdopt with
        | some b => (o, b)
        | none =>
          let (t, e) := o.tr.call plan "get:set"
          let b := e.isNone && !fresh.gone && fresh.uidOk && !fresh.deleting
          ({ o with tr := t, canAdopt := some b }, b)
      if !can then { o with failed := true }
      else
        let (t, e) := o.tr.call plan s!"patch:pod:{c.name}"
        let o := { o with tr := t }
        match e with
        | none => { o with claimed := o.claimed ++ [c] }
        | some .notFound => o
        | some _ => { o with failed := true }

theorem claimPodsF_eq_foldl (plan : List Fault) (d : Bool) (fresh : Fresh) (pods : List CPod) (tr : Tr) :
    claimPodsF plan d fresh pods tr = pods.foldl (claimStep plan d fresh) { tr := tr } := rfl

/-- events of a claim pass: the uncached read of the set, and an owner-reference patch of a pod -/
inductive CEv
  | getSet
  | patch (c : CPod)
  deriving DecidableEq

def CEv.key : CEv → String
  | .getSet => "get:set"
  | .patch c => s!"patch:pod:{c.name}"

/-- what the uncached read must have found for an adoption to go ahead -/
def canAdoptOf (plan : List Fault) (fresh : Fresh) (logBefore : List String) : Bool :=
  (look plan "get:set" (occIn logBefore "get:set")).isNone && !fresh.gone && fresh.uidOk && !fresh.deleting

theorem claimStep_keep {plan d fresh} (o : ClaimOutF) {c : CPod} (h : claimDecision d c = .keep) :
    claimStep plan d fresh o c = { o with claimed := o.claimed ++ [c] } := by
  simp [claimStep, h]

theorem claimStep_ignore {plan d fresh} (o : ClaimOutF) {c : CPod} (h : claimDecision d c = .ignore) :
    claimStep plan d fresh o c = o := by
  simp [claimStep, h]

theorem claimStep_release {plan d fresh} (o : ClaimOutF) {c : CPod} (h : claimDecision d c = .release) :
    ∃ f, claimStep plan d fresh o c = { o with tr := { log := o.tr.log ++ [(CEv.patch c).key] }, failed := f } := by
  simp only [claimStep, h, call_eq, CEv.key]
  split <;> exact ⟨_, rfl⟩

theorem claimStep_adopt_false {plan d fresh} (o : ClaimOutF) {c : CPod} (h : claimDecision d c = .adopt)
    (hc : o.canAdopt = some false) : claimStep plan d fresh o c = { o with failed := true } := by
  simp [claimStep, h, hc]

theorem claimStep_adopt_true {plan d fresh} (o : ClaimOutF) {c : CPod} (h : claimDecision d c = .adopt)
    (hc : o.canAdopt = some true) :
    ∃ (f b : Bool), claimStep plan d fresh o c =
      { o with tr := { log := o.tr.log ++ [(CEv.patch c).key] }, failed := f,
               claimed := if b then o.claimed ++ [c] else o.claimed } ∧
      (b = true ↔ look plan (CEv.patch c).key (occIn o.tr.log (CEv.patch c).key) = none) := by
  simp only [claimStep, h, hc, call_eq]
  simp only [Bool.not_true, Bool.false_eq_true, if_false]
  split
  · next he => exact ⟨o.failed, true, by simp [CEv.key], by simp [CEv.key, he]⟩
  · next he => exact ⟨o.failed, false, by simp [CEv.key], by simp [CEv.key, he]⟩
  · next v he hne => exact ⟨true, false, by simp [CEv.key], by simp [CEv.key, hne]⟩

theorem claimStep_adopt_none {plan d fresh} (o : ClaimOutF) {c : CPod} (h : claimDecision d c = .adopt)
    (hc : o.canAdopt = none) :
    claimStep plan d fresh o c =
      claimStep plan d fresh { o with tr := { log := o.tr.log ++ [CEv.getSet.key] },
                                      canAdopt := some (canAdoptOf plan fresh o.tr.log) } c := by
  simp only [claimStep, h, hc, call_eq, CEv.key, canAdoptOf]
  rfl

/-- Invariant of the claim pass, stated on the three components of `ClaimOutF` it constrains. `log0` is the log before
    the pass, `evs` the events issued so far. -/
structure ClaimInv (plan : List Fault) (d : Bool) (fresh : Fresh) (pods : List CPod) (log0 : List String)
    (log : List String) (claimed : List CPod) (memo : Option Bool) (evs : List CEv) : Prop where
  log_eq : log = log0 ++ evs.map CEv.key
  shape : ∀ e ∈ evs, e = .getSet ∨
    ∃ c ∈ pods, e = .patch c ∧ (claimDecision d c = .release ∨ claimDecision d c = .adopt)
  claimed_ok : ∀ c ∈ claimed, c ∈ pods ∧ (claimDecision d c = .keep ∨ (claimDecision d c = .adopt ∧
    ∃ pre post, evs = pre ++ .patch c :: post ∧
      look plan (CEv.patch c).key (occIn (log0 ++ pre.map CEv.key) (CEv.patch c).key) = none))
  memoNone : memo = none → ∀ e ∈ evs, ∃ c, e = .patch c ∧ claimDecision d c = .release
  memoSome : ∀ b, memo = some b → ∃ pre post, evs = pre ++ .getSet :: post ∧
    (∀ e ∈ pre, ∃ c, e = .patch c ∧ claimDecision d c = .release) ∧ (∀ e ∈ post, e ≠ .getSet) ∧
    b = canAdoptOf plan fresh (log0 ++ pre.map CEv.key)
  adoptOk : ∀ c, .patch c ∈ evs → claimDecision d c = .adopt → memo = some true

variable {plan : List Fault} {d : Bool} {fresh : Fresh} {pods : List CPod} {log0 : List String}

theorem ClaimInv.init : ClaimInv plan d fresh pods log0 log0 [] none [] where
  log_eq := (List.append_nil log0).symm
  shape := fun _ h => absurd h List.not_mem_nil
  claimed_ok := fun _ h => absurd h List.not_mem_nil
  memoNone := fun _ _ h => absurd h List.not_mem_nil
  memoSome := fun _ h => nomatch h
  adoptOk := fun _ h => absurd h List.not_mem_nil

theorem ClaimInv.keep {log claimed memo evs} (I : ClaimInv plan d fresh pods log0 log claimed memo evs)
    {c : CPod} (hc : c ∈ pods) (h : claimDecision d c = .keep) :
    ClaimInv plan d fresh pods log0 log (claimed ++ [c]) memo evs :=
  { I with
    claimed_ok := by
      intro x hx
      rcases List.mem_append.1 hx with hx | hx
      · exact I.claimed_ok x hx
      · obtain rfl : x = c := by simpa using hx
        exact ⟨hc, Or.inl h⟩ }

/-- appending a patch event (release, or adoption after a positive memo) -/
theorem ClaimInv.patch {log claimed memo evs} (I : ClaimInv plan d fresh pods log0 log claimed memo evs)
    {c : CPod} (hc : c ∈ pods)
    (h : claimDecision d c = .release ∨ (claimDecision d c = .adopt ∧ memo = some true)) :
    ClaimInv plan d fresh pods log0 (log ++ [(CEv.patch c).key]) claimed memo (evs ++ [.patch c]) where
  log_eq := by rw [I.log_eq, List.map_append, List.append_assoc]; rfl
  shape := by
    intro e he
    rcases List.mem_append.1 he with he | he
    · exact I.shape e he
    · obtain rfl : e = .patch c := List.mem_singleton.1 he
      exact Or.inr ⟨c, hc, rfl, h.imp id (·.1)⟩
  claimed_ok := by
    intro x hx
    obtain ⟨hxp, hx'⟩ := I.claimed_ok x hx
    refine ⟨hxp, hx'.imp id ?_⟩
    rintro ⟨ha, pre, post, rfl, hl⟩
    exact ⟨ha, pre, post ++ [.patch c], by rw [List.append_assoc, List.cons_append], hl⟩
  memoNone := by
    intro hm e he
    rcases List.mem_append.1 he with he | he
    · exact I.memoNone hm e he
    · obtain rfl : e = .patch c := List.mem_singleton.1 he
      rcases h with h | ⟨_, h⟩
      · exact ⟨c, rfl, h⟩
      · rw [hm] at h; cases h
  memoSome := by
    intro b hb
    obtain ⟨pre, post, rfl, h1, h2, h3⟩ := I.memoSome b hb
    refine ⟨pre, post ++ [.patch c], by rw [List.append_assoc, List.cons_append], h1, ?_, h3⟩
    intro e he
    rcases List.mem_append.1 he with he | he
    · exact h2 e he
    · obtain rfl : e = .patch c := List.mem_singleton.1 he
      exact CEv.noConfusion
  adoptOk := by
    intro x hx hax
    rcases List.mem_append.1 hx with hx | hx
    · exact I.adoptOk x hx hax
    · obtain rfl : x = c := CEv.patch.inj (List.mem_singleton.1 hx)
      rcases h with h | ⟨_, h⟩
      · rw [h] at hax; cases hax
      · exact h

/-- a successful adoption patch puts the pod on the claimed list -/
theorem ClaimInv.patchClaim {log claimed memo evs} (I : ClaimInv plan d fresh pods log0 log claimed memo evs)
    {c : CPod} (hc : c ∈ pods) (h : claimDecision d c = .adopt) (hm : memo = some true)
    (hl : look plan (CEv.patch c).key (occIn log (CEv.patch c).key) = none) :
    ClaimInv plan d fresh pods log0 (log ++ [(CEv.patch c).key]) (claimed ++ [c]) memo (evs ++ [.patch c]) :=
  let J := I.patch hc (Or.inr ⟨h, hm⟩)
  { J with
    claimed_ok := by
      intro x hx
      rcases List.mem_append.1 hx with hx | hx
      · exact J.claimed_ok x hx
      · obtain rfl : x = c := by simpa using hx
        exact ⟨hc, Or.inr ⟨h, evs, [], rfl, by rw [← I.log_eq]; exact hl⟩⟩ }

/-- the once-only uncached read -/
theorem ClaimInv.getSet {log claimed evs} (I : ClaimInv plan d fresh pods log0 log claimed none evs) :
    ClaimInv plan d fresh pods log0 (log ++ [CEv.getSet.key]) claimed (some (canAdoptOf plan fresh log))
      (evs ++ [.getSet]) where
  log_eq := by rw [I.log_eq, List.map_append, List.append_assoc]; rfl
  shape := by
    intro e he
    rcases List.mem_append.1 he with he | he
    · exact I.shape e he
    · exact Or.inl (List.mem_singleton.1 he)
  claimed_ok := by
    intro x hx
    obtain ⟨hxp, hx'⟩ := I.claimed_ok x hx
    refine ⟨hxp, hx'.imp id ?_⟩
    rintro ⟨ha, pre, post, rfl, hl⟩
    exact ⟨ha, pre, post ++ [.getSet], by rw [List.append_assoc, List.cons_append], hl⟩
  memoNone := fun h => nomatch h
  memoSome := by
    intro b hb
    refine ⟨evs, [], rfl, I.memoNone rfl, fun _ h => absurd h List.not_mem_nil, ?_⟩
    rw [← I.log_eq]; exact (Option.some.inj hb).symm
  adoptOk := by
    intro x hx hax
    rcases List.mem_append.1 hx with hx | hx
    · obtain ⟨c, hc, hr⟩ := I.memoNone rfl _ hx
      obtain rfl : x = c := CEv.patch.inj hc
      rw [hr] at hax; cases hax
    · cases List.mem_singleton.1 hx

theorem claimStep_inv {o : ClaimOutF} {evs : List CEv} {c : CPod} (hc : c ∈ pods)
    (I : ClaimInv plan d fresh pods log0 o.tr.log o.claimed o.canAdopt evs) :
    ∃ evs', ClaimInv plan d fresh pods log0 (claimStep plan d fresh o c).tr.log (claimStep plan d fresh o c).claimed
      (claimStep plan d fresh o c).canAdopt evs' := by
  cases h : claimDecision d c with
  | keep => rw [claimStep_keep o h]; exact ⟨evs, I.keep hc h⟩
  | ignore => rw [claimStep_ignore o h]; exact ⟨evs, I⟩
  | release =>
    obtain ⟨f, hf⟩ := claimStep_release (plan := plan) (fresh := fresh) o h
    rw [hf]; exact ⟨_, I.patch hc (Or.inl h)⟩
  | adopt =>
    -- the case of a memo already present, for any `o`
    have some_case : ∀ (o : ClaimOutF) (evs : List CEv) (b : Bool), o.canAdopt = some b →
        ClaimInv plan d fresh pods log0 o.tr.log o.claimed o.canAdopt evs →
        ∃ evs', ClaimInv plan d fresh pods log0 (claimStep plan d fresh o c).tr.log
          (claimStep plan d fresh o c).claimed (claimStep plan d fresh o c).canAdopt evs' := by
      intro o evs b hb I
      cases b with
      | false => rw [claimStep_adopt_false o h hb]; exact ⟨evs, I⟩
      | true =>
        obtain ⟨f, b, hf, hb'⟩ := claimStep_adopt_true (plan := plan) (fresh := fresh) o h hb
        rw [hf]
        cases b with
        | true => exact ⟨_, I.patchClaim hc h hb (hb'.1 rfl)⟩
        | false => exact ⟨_, I.patch hc (Or.inr ⟨h, hb⟩)⟩
    cases hm : o.canAdopt with
    | some b => exact some_case o evs b hm I
    | none =>
      rw [claimStep_adopt_none o h hm]
      rw [hm] at I
      exact some_case _ _ _ rfl I.getSet

theorem claimPodsF_inv (plan : List Fault) (d : Bool) (fresh : Fresh) (pods : List CPod) (tr : Tr) :
    ∃ evs, ClaimInv plan d fresh pods tr.log (claimPodsF plan d fresh pods tr).tr.log
      (claimPodsF plan d fresh pods tr).claimed (claimPodsF plan d fresh pods tr).canAdopt evs := by
  rw [claimPodsF_eq_foldl]
  refine foldl_inv (fun (o : ClaimOutF) => ∃ evs, ClaimInv plan d fresh pods tr.log o.tr.log o.claimed o.canAdopt evs)
    _ pods _ ⟨[], ClaimInv.init⟩ ?_
  rintro o c hc ⟨evs, I⟩
  exact claimStep_inv hc I

/-! ## a deleting set: the claim pass is silent -/

theorem claimPodsF_deleting (plan : List Fault) (fresh : Fresh) (pods : List CPod) (tr : Tr) :
    (claimPodsF plan true fresh pods tr).tr = tr ∧ (claimPodsF plan true fresh pods tr).failed = false ∧
    (claimPodsF plan true fresh pods tr).canAdopt = none ∧
    ∀ c ∈ (claimPodsF plan true fresh pods tr).claimed, c ∈ pods ∧ claimDecision true c = .keep := by
  rw [claimPodsF_eq_foldl]
  refine foldl_inv (fun (o : ClaimOutF) => o.tr = tr ∧ o.failed = false ∧ o.canAdopt = none ∧
    ∀ c ∈ o.claimed, c ∈ pods ∧ claimDecision true c = .keep) _ pods _ (by simp) ?_
  rintro o c hc ⟨h1, h2, h3, h4⟩
  rcases claimDecision_deleting c with h | h
  · rw [claimStep_keep o h]
    refine ⟨h1, h2, h3, ?_⟩
    intro x hx
    rcases List.mem_append.1 hx with hx | hx
    · exact h4 x hx
    · obtain rfl : x = c := by simpa using hx
      exact ⟨hc, h⟩
  · rw [claimStep_ignore o h]; exact ⟨h1, h2, h3, h4⟩

/-- inside the invariant: every patch of an unowned pod stands after the uncached read, which was not faulted and found
    the set present, with the cached uid and no deletion timestamp -/
theorem ClaimInv.adopt_confirmed {log claimed memo evs}
    (I : ClaimInv plan d fresh pods log0 log claimed memo evs) {pre : List CEv} {c : CPod} {post : List CEv}
    (hev : evs = pre ++ .patch c :: post) (hown : c.owner = .none) :
    claimDecision d c = .adopt ∧ ∃ p1 p2, pre = p1 ++ .getSet :: p2 ∧
      look plan "get:set" (occIn (log0 ++ p1.map CEv.key) "get:set") = none ∧
      fresh.gone = false ∧ fresh.uidOk = true ∧ fresh.deleting = false := by
  have hmem : CEv.patch c ∈ evs := by rw [hev]; simp
  have hadopt : claimDecision d c = .adopt := by
    rcases I.shape _ hmem with h | ⟨c', _, hc', h⟩
    · cases h
    · obtain rfl : c = c' := by simpa using hc'
      rcases h with h | h
      · have := ((claimDecision_release_iff d c).1 h).1
        rw [hown] at this; cases this
      · exact h
  refine ⟨hadopt, ?_⟩
  have hm := I.adoptOk c hmem hadopt
  obtain ⟨p1, post', hev', h1, _, hb⟩ := I.memoSome true hm
  rw [hev] at hev'
  rcases List.append_eq_append_iff.1 hev' with ⟨a', ha, hb'⟩ | ⟨c', hc1, hc2⟩
  · exfalso
    cases a' with
    | nil => simp at hb'
    | cons x a'' =>
      simp only [List.cons_append, List.cons.injEq] at hb'
      have : CEv.patch c ∈ p1 := by rw [ha, ← hb'.1]; simp
      obtain ⟨c2, hc2, hr⟩ := h1 _ this
      obtain rfl : c = c2 := by simpa using hc2
      rw [hr] at hadopt; cases hadopt
  · cases c' with
    | nil => simp at hc2
    | cons x p2 =>
      simp only [List.cons_append, List.cons.injEq] at hc2
      refine ⟨p1, p2, by rw [hc1, ← hc2.1], ?_⟩
      have hb2 : canAdoptOf plan fresh (log0 ++ p1.map CEv.key) = true := hb.symm
      simp only [canAdoptOf, Bool.and_eq_true, Option.isNone_iff_eq_none, Bool.not_eq_true'] at hb2
      exact ⟨hb2.1.1.1, hb2.1.1.2, hb2.1.2, hb2.2⟩

/-- (2) who gets on the claimed list: a pod of the input that matches and is a member, and either is already controlled
    by the set, or was unowned, not terminating, the set not being deleted, and its adoption patch went through (an
    unfaulted `patch:pod:<name>` entry stands in the log appended by this pass). Never a pod controlled by somebody else. -/
theorem claimPodsF_claimed (plan : List Fault) (d : Bool) (fresh : Fresh) (pods : List CPod) (tr : Tr) :
    ∀ c ∈ (claimPodsF plan d fresh pods tr).claimed,
      c ∈ pods ∧ c.owner ≠ .other ∧ c.selMatch = true ∧ c.member = true ∧
      (c.owner = .self ∨
        (c.owner = .none ∧ c.pod.terminating = false ∧ d = false ∧
          ∃ pre post, (claimPodsF plan d fresh pods tr).tr.log = tr.log ++ pre ++ s!"patch:pod:{c.name}" :: post ∧
            look plan s!"patch:pod:{c.name}" (occIn (tr.log ++ pre) s!"patch:pod:{c.name}") = none)) := by
  obtain ⟨evs, I⟩ := claimPodsF_inv plan d fresh pods tr
  intro c hc
  obtain ⟨hp, h⟩ := I.claimed_ok c hc
  rcases h with h | ⟨h, pre, post, rfl, hl⟩
  · obtain ⟨h1, h2, h3⟩ := (claimDecision_keep_iff d c).1 h
    exact ⟨hp, by simp [h1], h2, h3, Or.inl h1⟩
  · obtain ⟨h1, h2, h3, h4, h5⟩ := (claimDecision_adopt_iff d c).1 h
    refine ⟨hp, by simp [h1], h2, h3, Or.inr ⟨h1, h4, h5, pre.map CEv.key, post.map CEv.key, ?_, hl⟩⟩
    rw [I.log_eq]; simp [CEv.key]

theorem claimPodsF_claimed_mem (plan : List Fault) (d : Bool) (fresh : Fresh) (pods : List CPod) (tr : Tr) :
    ∀ c ∈ (claimPodsF plan d fresh pods tr).claimed, c ∈ pods :=
  fun c hc => (claimPodsF_claimed plan d fresh pods tr c hc).1

/-- (3)+(4) the calls of the claim pass: the appended log is the rendering of an event list in which
    * every event is the uncached read of the set or an owner-reference patch of a pod of the input whose decision was
      release or adopt (so: no delete, no update, no create),
    * the uncached read occurs at most once,
    * every patch of an unowned pod comes after that read, the read was not faulted, and it found the set present, with
      the cached uid, and without a deletion timestamp. -/
theorem claimPodsF_calls (plan : List Fault) (d : Bool) (fresh : Fresh) (pods : List CPod) (tr : Tr) :
    ∃ evs : List CEv,
      (claimPodsF plan d fresh pods tr).tr.log = tr.log ++ evs.map CEv.key ∧
      (∀ e ∈ evs, e = .getSet ∨
        ∃ c ∈ pods, e = .patch c ∧ (claimDecision d c = .release ∨ claimDecision d c = .adopt)) ∧
      evs.count .getSet ≤ 1 ∧
      ∀ pre c post, evs = pre ++ .patch c :: post → c.owner = .none →
        ∃ p1 p2, pre = p1 ++ .getSet :: p2 ∧
          look plan "get:set" (occIn (tr.log ++ p1.map CEv.key) "get:set") = none ∧
          fresh.gone = false ∧ fresh.uidOk = true ∧ fresh.deleting = false := by
  obtain ⟨evs, I⟩ := claimPodsF_inv plan d fresh pods tr
  refine ⟨evs, I.log_eq, I.shape, ?_, ?_⟩
  · cases hm : (claimPodsF plan d fresh pods tr).canAdopt with
    | none =>
      have : evs.count .getSet = 0 := by
        rw [List.count_eq_zero]
        intro hmem
        obtain ⟨c, hc, _⟩ := I.memoNone hm _ hmem
        cases hc
      omega
    | some b =>
      obtain ⟨pre, post, rfl, h1, h2, _⟩ := I.memoSome b hm
      have e1 : pre.count .getSet = 0 := by
        rw [List.count_eq_zero]; intro hmem
        obtain ⟨c, hc, _⟩ := h1 _ hmem
        cases hc
      have e2 : post.count .getSet = 0 := by
        rw [List.count_eq_zero]; intro hmem; exact h2 _ hmem rfl
      simp [List.count_append, e1, e2]
  · intro pre c post hev hown
    exact (I.adopt_confirmed hev hown).2

/-- (4) as a statement about the strings: everything the claim pass appends is `get:set` or `patch:pod:<name of an
    input pod>`; in particular there is no `delete:` entry — a release is a patch -/
theorem claimPodsF_appends (plan : List Fault) (d : Bool) (fresh : Fresh) (pods : List CPod) (tr : Tr) :
    ∃ ext, (claimPodsF plan d fresh pods tr).tr.log = tr.log ++ ext ∧
      ∀ e ∈ ext, e = "get:set" ∨ ∃ c ∈ pods, e = s!"patch:pod:{c.name}" ∧ c.owner ≠ .other ∧
        (claimDecision d c = .release ∨ claimDecision d c = .adopt) := by
  obtain ⟨evs, h1, h2, _⟩ := claimPodsF_calls plan d fresh pods tr
  refine ⟨_, h1, ?_⟩
  intro e he
  obtain ⟨ev, hev, rfl⟩ := List.mem_map.1 he
  rcases h2 ev hev with rfl | ⟨c, hc, rfl, h⟩
  · exact Or.inl rfl
  · refine Or.inr ⟨c, hc, rfl, ?_, h⟩
    intro ho
    rw [claimDecision_other d c ho] at h
    rcases h with h | h <;> cases h

end Asts.SYa
