import Asts.Model.JsonInts
import Mathlib.Tactic

namespace Asts.JsonInts

theorem digitChar_toNat {d : Nat} (h : d < 10) : (digitChar d).toNat = 48 + d := by
  interval_cases d <;> rfl
theorem isDigit_digitChar {d : Nat} (h : d < 10) : isDigit (digitChar d) = true := by
  simp only [isDigit, digitChar_toNat h, Bool.and_eq_true, decide_eq_true_eq]; omega
theorem digitVal_digitChar {d : Nat} (h : d < 10) : digitVal (digitChar d) = d := by
  simp [digitVal, digitChar_toNat h]

theorem digits_all_digit (n : Nat) : ∀ c ∈ digits n, isDigit c = true := by
  induction n using Nat.strongRecOn with
  | _ n ih =>
    unfold digits
    split
    · intro c hc; simp at hc; subst hc; exact isDigit_digitChar (by omega)
    · intro c hc
      rcases List.mem_append.1 hc with h | h
      · exact ih (n / 10) (by omega) c h
      · simp at h; subst h; exact isDigit_digitChar (Nat.mod_lt _ (by omega))

theorem digits_ne_nil (n : Nat) : digits n ≠ [] := by
  unfold digits; split <;> simp

theorem digitsToNat_append (a : List Char) (c : Char) :
    digitsToNat (a ++ [c]) = digitsToNat a * 10 + digitVal c := by
  simp [digitsToNat, List.foldl_append]

theorem digitsToNat_digits (n : Nat) : digitsToNat (digits n) = n := by
  induction n using Nat.strongRecOn with
  | _ n ih =>
    unfold digits
    split
    · rename_i h; simp [digitsToNat, digitVal_digitChar h]
    · rename_i h
      rw [digitsToNat_append, ih (n / 10) (by omega), digitVal_digitChar (Nat.mod_lt _ (by omega))]
      omega

/-- no leading zero unless the number is 0 -/
theorem digits_head (n : Nat) : ∃ d rest, digits n = d :: rest ∧ (d = '0' → rest = []) := by
  induction n using Nat.strongRecOn with
  | _ n ih =>
    unfold digits
    split
    · exact ⟨_, [], rfl, fun _ => rfl⟩
    · rename_i h
      obtain ⟨d, rest, hd, hz⟩ := ih (n / 10) (by omega)
      refine ⟨d, rest ++ [digitChar (n % 10)], by simp [hd], ?_⟩
      intro h0
      have hr := hz h0
      subst hr
      -- then digits (n/10) = ['0'], so n/10 = 0, contradiction with n ≥ 10
      have : digitsToNat (digits (n / 10)) = n / 10 := digitsToNat_digits _
      rw [hd, h0] at this
      simp [digitsToNat, digitVal] at this
      omega

theorem takeDigits_append {ds : List Char} (hds : ∀ c ∈ ds, isDigit c = true) {c : Char} (hc : isDigit c = false)
    (rest : List Char) : takeDigits (ds ++ c :: rest) = (ds, c :: rest) := by
  induction ds with
  | nil => simp [takeDigits, hc]
  | cons d ds ih =>
    have hd := hds d (by simp)
    simp only [List.cons_append, takeDigits, hd, if_true]
    rw [ih (fun x hx => hds x (by simp [hx]))]

def isSep (c : Char) : Prop := c = ',' ∨ c = ']'

theorem isDigit_sep {c : Char} (h : isSep c) : isDigit c = false := by
  rcases h with rfl | rfl <;> decide

theorem digit_ne {c : Char} (h : isDigit c = true) : c ≠ 'n' ∧ c ≠ '-' := by
  constructor <;> (rintro rfl; revert h; decide)

theorem startsNull_cons_ne {d : Char} (h : d ≠ 'n') (l : List Char) : startsNull (d :: l) = none := by
  unfold startsNull
  split
  · rename_i heq; exact absurd (List.cons.inj heq).1 h
  · rfl

theorem stripSign_cons_ne {d : Char} (h : d ≠ '-') (l : List Char) : stripSign (d :: l) = (false, d :: l) := by
  unfold stripSign
  split
  · rename_i heq; exact absurd (List.cons.inj heq).1 h
  · rfl

theorem startsFraction_sep {c : Char} (hc : isSep c) (rest : List Char) : startsFraction (c :: rest) = false := by
  rcases hc with rfl | rfl <;> rfl

theorem intLit_digits (neg : Bool) (n : Nat) (c : Char) (hc : isSep c) (rest : List Char)
    (hr : inInt32 (if neg then -(n : Int) else n) = true) :
    intLit neg (digits n) (c :: rest) = some ((if neg then -(n : Int) else n), c :: rest) := by
  obtain ⟨d, more, hd, hz⟩ := digits_head n
  have hval := digitsToNat_digits n
  rw [hd] at hval ⊢
  unfold intLit
  have hzero : (d == '0' && !more.isEmpty) = false := by
    by_cases h0 : d = '0'
    · simp [hz h0]
    · simp [h0]
  simp only [hzero, startsFraction_sep hc, hval, Bool.false_eq_true, if_false, hr, if_true]

theorem parseElem_renderInt (i : Int) (hi : inInt32 i = true) (c : Char) (hc : isSep c) (rest : List Char) :
    parseElem (renderInt i ++ c :: rest) = some (i, c :: rest) := by
  obtain ⟨d, more, hd, _⟩ := digits_head i.natAbs
  have hall := digits_all_digit i.natAbs
  have hnd := digit_ne (hall d (by rw [hd]; simp))
  have htake : takeDigits (digits i.natAbs ++ c :: rest) = (digits i.natAbs, c :: rest) :=
    takeDigits_append hall (isDigit_sep hc) rest
  unfold renderInt parseElem
  by_cases hneg : i < 0
  · have hv : (if true then -((i.natAbs : Nat) : Int) else (i.natAbs : Int)) = i := by simp only [↓reduceIte]; omega
    simp only [hneg, if_true, List.cons_append]
    rw [startsNull_cons_ne (by decide)]
    simp only [stripSign, htake]
    rw [intLit_digits true i.natAbs c hc rest (by rw [hv]; exact hi), hv]
  · have hv : (if false then -((i.natAbs : Nat) : Int) else (i.natAbs : Int)) = i := by simp only [Bool.false_eq_true, ↓reduceIte]; omega
    simp only [hneg, if_false]
    rw [hd, List.cons_append, startsNull_cons_ne hnd.1]
    simp only [stripSign_cons_ne hnd.2]
    rw [← List.cons_append, ← hd, htake]
    simp only
    rw [intLit_digits false i.natAbs c hc rest (by rw [hv]; exact hi), hv]

theorem skipWs_cons_of_not_ws {c : Char} (h : isWs c = false) (l : List Char) : skipWs (c :: l) = c :: l := by
  simp [skipWs, h]

theorem isWs_digit {c : Char} (h : isDigit c = true) : isWs c = false := by
  unfold isWs isDigit at *
  simp only [Bool.and_eq_true, decide_eq_true_eq] at h
  have h1 : c ≠ ' ' := by rintro rfl; revert h; decide
  have h2 : c ≠ '\t' := by rintro rfl; revert h; decide
  have h3 : c ≠ '\n' := by rintro rfl; revert h; decide
  have h4 : c ≠ '\r' := by rintro rfl; revert h; decide
  simp [h1, h2, h3, h4]

theorem renderInt_head (i : Int) : ∃ c rest, renderInt i = c :: rest ∧ isWs c = false ∧ c ≠ ']' := by
  obtain ⟨d, more, hd, _⟩ := digits_head i.natAbs
  have hdd : isDigit d = true := digits_all_digit i.natAbs d (by rw [hd]; simp)
  unfold renderInt
  split
  · exact ⟨'-', _, rfl, by decide, by decide⟩
  · refine ⟨d, more, hd, isWs_digit hdd, ?_⟩
    rintro rfl; revert hdd; decide

theorem renderTail_head (xs : List Int) : ∃ c rest, renderTail xs = c :: rest ∧ isSep c := by
  cases xs with
  | nil => exact ⟨']', [], rfl, Or.inr rfl⟩
  | cons x xs => exact ⟨',', _, rfl, Or.inl rfl⟩

theorem renderTail_length (xs : List Int) : xs.length + 1 ≤ (renderTail xs).length := by
  induction xs with
  | nil => simp [renderTail]
  | cons x xs ih =>
    simp only [renderTail, List.length_cons, List.length_append]
    omega

theorem skipWs_renderInt (i : Int) (rest : List Char) : skipWs (renderInt i ++ rest) = renderInt i ++ rest := by
  obtain ⟨c, r, hr, hws, _⟩ := renderInt_head i
  rw [hr, List.cons_append]
  exact skipWs_cons_of_not_ws hws _

theorem parseElem_renderInt_tail (x : Int) (hx : inInt32 x = true) (xs : List Int) :
    parseElem (renderInt x ++ renderTail xs) = some (x, renderTail xs) := by
  obtain ⟨c, rest, hrt, hsep⟩ := renderTail_head xs
  rw [hrt]
  exact parseElem_renderInt x hx c hsep rest

theorem parseRest_renderTail (xs : List Int) (hxs : ∀ x ∈ xs, inInt32 x = true) (fuel : Nat)
    (hf : xs.length + 1 ≤ fuel) : parseRest fuel (renderTail xs) = some xs := by
  cases fuel with
  | zero => exact absurd hf (Nat.not_succ_le_zero _)
  | succ f =>
    induction xs generalizing f with
    | nil => simp [renderTail, parseRest, skipWs, isWs]
    | cons x xs ih =>
      simp only [renderTail, parseRest]
      rw [skipWs_cons_of_not_ws (by decide)]
      simp only [skipWs_renderInt, parseElem_renderInt_tail x (hxs x (by simp))]
      obtain ⟨g, rfl⟩ : ∃ g, f = g + 1 := ⟨f - 1, by simp at hf; omega⟩
      rw [ih (fun y hy => hxs y (by simp [hy])) g (by simp at hf; omega)]
      rfl

/-- the annotation codec round trip: what `SetDeleteSlots` writes, `GetDeleteSlots` reads back -/
theorem parse_render (l : List Int) (hl : ∀ x ∈ l, inInt32 x = true) : parse (render l) = some l := by
  cases l with
  | nil => simp [render, parse, skipWs, isWs]
  | cons x xs =>
    obtain ⟨c0, r0, hr0, _, hnb⟩ := renderInt_head x
    have helem := parseElem_renderInt_tail x (hl x (by simp)) xs
    unfold render parse
    rw [skipWs_cons_of_not_ws (by decide)]
    simp only [skipWs_renderInt]
    rw [hr0, List.cons_append] at helem ⊢
    split
    · rename_i heq; exact absurd (List.cons.inj heq).1 hnb
    · simp only [helem]
      rw [parseRest_renderTail xs (fun y hy => hl y (by simp [hy])) _ (by have := renderTail_length xs; omega)]
      rfl

end Asts.JsonInts
