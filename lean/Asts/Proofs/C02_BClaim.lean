import Asts.Proofs.C02_BAdopt
import Asts.Proofs.Sync_Claim

/-! C02, normalising rounds: `applyPatches` under the empty fault plan as a fold
    over the log (`patchStep`): only `patch:pod:<name>` entries change a pod, and they flip its owner.
    Canonical pod names contain no colon, so such an entry can be read back. -/
namespace Asts.C02p
open Asts

theorem canon_eq (s : String) (o : Int) : canonicalName s o = s ++ "-" ++ toString o := rfl

theorem colon_not_digit (c : Char) (h : c.isDigit = true) : (c == ':') = false := by
  cases hc : (c == ':')
  · rfl
  · have : c = ':' := by simpa using hc
    rw [this] at h
    exact absurd h (by decide)

theorem canon_noColon (s : String) (o : Int) (ho : 0 ≤ o) (hs : ∀ c ∈ s.toList, (c == ':') = false) :
    ∀ c ∈ (canonicalName s o).toList, (c == ':') = false := by
  obtain ⟨n, rfl⟩ := Int.eq_ofNat_of_zero_le ho
  rw [canon_eq]
  intro c hc
  rw [String.toList_append, String.toList_append, List.mem_append, List.mem_append] at hc
  rcases hc with (hc | hc) | hc
  · exact hs c hc
  · have : ("-" : String).toList = ['-'] := by decide
    rw [this, List.mem_singleton] at hc
    rw [hc]; decide
  · have : toString ((n : Nat) : Int) = String.ofList (Nat.toDigits 10 n) := rfl
    rw [this, String.toList_ofList] at hc
    exact colon_not_digit c (Nat.isDigit_of_mem_toDigits (by decide) (by decide) hc)

/-- a pod the set keeps or adopts -/
def Claimable (c : CPod) : Prop :=
  (c.owner = .self ∨ c.owner = .none) ∧ c.selMatch = true ∧ c.member = true ∧ c.pod.terminating = false

def flipOwner (c : CPod) : CPod :=
  match c.owner with
  | .none => { c with owner := .self }
  | .self => { c with owner := .none }
  | .other => c

def patchStep (pods : List CPod) (e : String) : List CPod :=
  match e.splitOn ":" with
  | ["patch", "pod", n] => setPod pods (fun c => c.name == n) flipOwner
  | _ => pods

theorem applyPatches_go_nil (seen log : List String) (pods : List CPod) :
    applyPatches.go [] seen log pods = log.foldl patchStep pods := by
  induction log generalizing seen pods with
  | nil => rfl
  | cons e rest ih =>
    unfold applyPatches.go
    rw [ih, List.foldl_cons]
    congr 1

theorem applyPatches_nil (log : List String) (pods : List CPod) : applyPatches [] log pods = log.foldl patchStep pods :=
  applyPatches_go_nil [] log pods

theorem patchStep_noPatch {e : String} (he : NoPatch e) (pods : List CPod) : patchStep pods e = pods := by
  unfold patchStep
  split
  · rename_i n heq; exact absurd heq (he n)
  · rfl

theorem foldl_patch_noPatch (lg : List String) (hlg : ∀ e ∈ lg, NoPatch e) (pods : List CPod) :
    lg.foldl patchStep pods = pods := by
  induction lg generalizing pods with
  | nil => rfl
  | cons e rest ih =>
    rw [List.foldl_cons, patchStep_noPatch (hlg e List.mem_cons_self)]
    exact ih (fun e he => hlg e (List.mem_cons_of_mem _ he)) pods

theorem patchStep_patch (n : String) (hn : ∀ c ∈ n.toList, (c == ':') = false) (pods : List CPod) :
    patchStep pods s!"patch:pod:{n}" = setPod pods (fun c => c.name == n) flipOwner := by
  unfold patchStep
  rw [show s!"patch:pod:{n}" = "patch:pod:" ++ n from rfl, SYa.splitOn_pre3_noColon SYa.pre_patch_pod hn]
  rfl

def flipAll (N : List String) (c : CPod) : CPod := if N.contains c.name then flipOwner c else c

theorem flipOwner_name (c : CPod) : (flipOwner c).name = c.name := by
  unfold flipOwner; split <;> rfl

end Asts.C02p
