import Mathlib.Tactic
import Asts.Proofs.GL2_Log
import Asts.Proofs.GL2_Loops

/-! # GL2 — `C04.removed` at sync level

No `create:pod:` call of a sync comes after a `delete:pod:` call of the same sync that an injected fault hit — whatever the
names. Chain of the argument, for a faulted delete entry at log position `j` and a create entry at a later position:
* both entries are pod-control calls of recorded actions `ag` (a delete) and `ae` (a create), `ag` before `ae`
  (`log_three_way`, from the positional decomposition of the log);
* `ag` stands before a create, so it deletes a claimed pod `c0` at `c0`'s ordinal, and no earlier delete has that ordinal
  (`before_create`); with unique pod names and ids no earlier log entry is the same string, so the fault that hit the entry
  is the plan's fault for occurrence 0 of `delete:pod:<c0.name>`;
* `podFaults` turns exactly that fault into the reconcile-level fault (delete, ordinal of `c0`), so `ag` was refused and is
  the last action of the reconcile (`hit_is_last`) — but `ae` follows it. -/
namespace Asts.GL2
open Asts Asts.SYb

/-! ## which action a pod-control entry belongs to -/

theorem actLog_create {sn : String} {plan : List Fault} {pods claimed : List CPod} {b : Int} {E : List Int} {a : Action}
    {x : String} (hx : x ∈ actLog sn plan pods claimed b E a) (hp : pre "create:pod:" x = true) :
    ∃ o r, a = .create o r ∧ actLog sn plan pods claimed b E a = [x] := by
  cases a with
  | create o r =>
    rw [List.mem_singleton.1 hx]
    exact ⟨o, r, rfl, rfl⟩
  | delete o id w =>
    rw [List.mem_singleton.1 hx] at hp
    exact absurd (pre_create_pod.pre_append pre_delete_pod hp).1 (by simp)
  | update o =>
    rw [List.eq_of_mem_replicate hx] at hp
    exact absurd (pre_create_pod.pre_append pre_update_pod hp).1 (by simp)

theorem actLog_delete {sn : String} {plan : List Fault} {pods claimed : List CPod} {b : Int} {E : List Int} {a : Action}
    {x : String} (hx : x ∈ actLog sn plan pods claimed b E a) (hp : pre "delete:pod:" x = true) :
    ∃ o id w, a = .delete o id w ∧ actLog sn plan pods claimed b E a = [x] ∧
      x = "delete:pod:" ++ actName sn claimed (.delete o id w) := by
  cases a with
  | create o r =>
    rw [List.mem_singleton.1 hx] at hp
    exact absurd (pre_delete_pod.pre_append pre_create_pod hp).1 (by simp)
  | delete o id w =>
    rw [List.mem_singleton.1 hx]
    exact ⟨o, id, w, rfl, rfl, rfl⟩
  | update o =>
    rw [List.eq_of_mem_replicate hx] at hp
    exact absurd (pre_delete_pod.pre_append pre_update_pod hp).1 (by simp)

/-! ## two entries of the log, the first a pod delete, the second a pod create -/

theorem two_decomp {α : Type _} {a a' b b' : List α} {x y : α} (h : a ++ x :: b = a' ++ y :: b')
    (hlt : a'.length < a.length) : ∃ c, a = a' ++ y :: c ∧ b' = c ++ x :: b := by
  rcases List.append_eq_append_iff.1 h with ⟨x', h1, _⟩ | ⟨c', h1, h2⟩
  · exfalso
    rw [h1, List.length_append] at hlt
    omega
  · cases c' with
    | nil =>
      exfalso
      rw [h1] at hlt
      simp at hlt
    | cons z c'' =>
      simp only [List.cons_append, List.cons.injEq] at h2
      obtain ⟨rfl, h2⟩ := h2
      exact ⟨c'', h1, h2⟩

/-- the two entries of the log are the calls of two recorded actions, in the same order; what stands before the first
    entry is `P` and the calls of the actions before the first action -/
theorem log_three_way {L : Action → List String} {acts : List Action} {P Q a' c bb : List String} {g e : String}
    (hlog : P ++ (acts.map L).flatten ++ Q = a' ++ g :: (c ++ e :: bb))
    (hP : ∀ x ∈ P, NoPodCD x) (hQ : ∀ x ∈ Q, NoPodCD x)
    (hg : pre "delete:pod:" g = true) (he : pre "create:pod:" e = true)
    (hLc : ∀ a ∈ acts, ∀ x ∈ L a, pre "create:pod:" x = true → L a = [x])
    (hLd : ∀ a ∈ acts, ∀ x ∈ L a, pre "delete:pod:" x = true → L a = [x]) :
    ∃ B1 ag B2 ae A2, acts = B1 ++ ag :: (B2 ++ ae :: A2) ∧ L ag = [g] ∧ L ae = [e] ∧ a' = P ++ (B1.map L).flatten := by
  have hgP : g ∉ P := fun hm => by have := (hP g hm).2; rw [hg] at this; cases this
  have heQ : e ∉ Q := fun hm => by have := (hQ e hm).1; rw [he] at this; cases this
  rw [List.append_assoc] at hlog
  obtain ⟨x', rfl, h2⟩ := append_eq_append_cons_left hlog hgP
  obtain ⟨y, h4⟩ := append_eq_append_cons_right (a := x' ++ g :: c) (by rw [h2, List.append_assoc]; rfl) heQ
  obtain ⟨A1, ae, A2, rfl, hLae, e3, _⟩ := flatten_map_split h4 (fun t ht hx => hLc t ht e hx he)
  obtain ⟨B1, ag, B2, rfl, hLag, rfl, _⟩ := flatten_map_split e3.symm
    (fun t ht hx => hLd t (List.mem_append_left _ ht) g hx hg)
  exact ⟨B1, ag, B2, ae, A2, by rw [List.append_assoc]; rfl, hLag, hLae, rfl⟩

/-- the name under which a claimed pod is deleted is its own name, when pod ids are distinct -/
theorem actName_delete {sn : String} {claimed : List CPod} (hids : (claimed.map (·.pod.id)).Nodup) {c0 : CPod}
    (hc0 : c0 ∈ claimed) (o : Int) (w : Why) : actName sn claimed (.delete o c0.pod.id w) = c0.name := by
  cases hf : claimed.find? (fun c => c.pod.id == c0.pod.id) with
  | none =>
    exfalso
    rw [List.find?_eq_none] at hf
    exact hf c0 hc0 (by simp)
  | some c1 =>
    have h1 : c1 ∈ claimed := List.mem_of_find?_eq_some hf
    have h2 : c1.pod.id = c0.pod.id := by simpa using List.find?_some hf
    have : c1 = c0 := List.inj_on_of_nodup_map hids h1 hc0 h2
    subst this
    show ((claimed.find? (fun c => c.pod.id == c1.pod.id)).map (·.name)).getD (canonicalName sn o) = c1.name
    rw [hf]
    rfl

/-- the plan's fault for the first `delete:pod:<name>` call of a cached pod becomes the reconcile-level fault
    (delete, that pod's ordinal) -/
theorem podFaults_delete {sn : String} {plan : List Fault} {pods claimed : List CPod} {b : Int} {E : List Int}
    (hnames : (pods.map (·.name)).Nodup) {c0 : CPod} (hc0 : c0 ∈ pods) (hn : NoColon c0.name) {ft : Fault}
    (hft : ft ∈ plan) (hkey : ft.key = "delete:pod:" ++ c0.name) (hocc : ft.occ = 0) :
    (podFaults sn plan pods claimed b E).hit 1 c0.pod.ord = true := by
  have hsplit : ft.key.splitOn ":" = ["delete", "pod", c0.name] := by
    rw [hkey, splitOn_pre3_noColon pre_delete_pod hn]
  unfold Faults.hit
  rw [List.contains_iff_mem]
  unfold podFaults
  simp only
  refine List.mem_append_left _ (List.mem_append_left _ ?_)
  rw [List.mem_filterMap]
  refine ⟨ft, hft, ?_⟩
  rw [hsplit]
  simp [hocc, SYa.find_by_name hnames hc0]

theorem entry_of_fields {en : Entry} {v r : String} (h1 : en.verb = v) (h2 : en.res = r) :
    en = { verb := v, res := r, name := en.name } := by
  cases en; simp only at h1 h2; rw [h1, h2]

/-- `Prop` reading of `C04.removed` at sync level, stronger than the clause (the names need not agree): in the log of a
    sync no pod create stands after a pod delete that an injected fault hit -/
theorem no_create_after_faulted_delete (h : Hashing) (i : SyncIn) (plan : List Fault)
    (hnames : (i.pods.map (·.name)).Nodup) (hids : (i.pods.map (·.pod.id)).Nodup)
    {a' c bb : List String} {sg se : String}
    (hlog : (syncF h i plan).log = a' ++ sg :: (c ++ se :: bb))
    (hg : (parseEntry sg).verb = "delete" ∧ (parseEntry sg).res = "pod")
    (he : (parseEntry se).verb = "create" ∧ (parseEntry se).res = "pod") :
    look plan sg (cnt sg a') = none := by
  -- the two entries, as strings
  have hshape := sync_log_shapes h i plan
  obtain ⟨hsg, hng⟩ := eq_of_parse (hshape sg (by rw [hlog]; simp)) pre_delete_pod (Or.inr rfl)
    (entry_of_fields hg.1 hg.2)
  obtain ⟨hse, _⟩ := eq_of_parse (hshape se (by rw [hlog]; simp)) pre_create_pod (Or.inr rfl)
    (entry_of_fields he.1 he.2)
  have hpg : pre "delete:pod:" sg = true := by rw [hsg]; exact pre_append_self _ _
  have hpe : pre "create:pod:" se = true := by rw [hse]; exact pre_append_self _ _
  -- the two actions
  obtain ⟨P, Q, hdec, hP, hQ⟩ := sync_log_decomp h i plan
  rw [hlog] at hdec
  obtain ⟨B1, ag, B2, ae, A2, hacts, hLag, hLae, ha'⟩ := log_three_way hdec.symm hP hQ hpg hpe
    (fun a _ x hx hp => by obtain ⟨_, _, _, e⟩ := actLog_create hx hp; exact e)
    (fun a _ x hx hp => by obtain ⟨_, _, _, _, e, _⟩ := actLog_delete hx hp; exact e)
  obtain ⟨o', id, w, rfl, _, hsg'⟩ := actLog_delete (x := sg) (by rw [hLag]; simp) hpg
  obtain ⟨oc, r, rfl, _⟩ := actLog_create (x := se) (by rw [hLae]; simp) hpe
  -- the reconcile
  have hne : (syncF h i plan).acts ≠ [] := by rw [hacts]; simp
  have R := GL.syncF_reconcile_of_acts h i plan (Or.inl hne)
  have hrec := R.acts
  rw [hacts] at hrec
  have hrec' : (GL.syncReconcile i plan (syncF h i plan)).1.acts =
      (B1 ++ Action.delete o' id w :: B2) ++ Action.create oc r :: A2 := by rw [← hrec]; simp
  obtain ⟨hdel, hnd⟩ := before_create _ _ _ _ _ hrec'
  -- the pod the delete names
  have hsub := R.sub
  have hnamesC : ((syncF h i plan).claimed.map (·.name)).Nodup := (hsub.map _).nodup hnames
  have hidsC : ((syncF h i plan).claimed.map (·.pod.id)).Nodup := (hsub.map _).nodup hids
  obtain ⟨p, hp, hpid, hpord⟩ := hdel (.delete o' id w) (by simp)
  obtain ⟨c0, hc0, rfl⟩ := List.mem_map.mp hp
  subst hpid
  have hname : sg = "delete:pod:" ++ c0.name := by rw [hsg', actName_delete hidsC hc0]
  have hc0n : NoColon c0.name := by
    have := append_left_cancel (hsg.symm.trans hname)
    rw [← this]; exact hng
  -- no earlier occurrence of the same entry
  have hcnt : cnt sg a' = 0 := by
    unfold cnt
    rw [List.length_eq_zero_iff, List.filter_eq_nil_iff]
    intro x hx hxe
    have hxe' : x = sg := by simpa using hxe
    subst hxe'
    rw [ha'] at hx
    rcases List.mem_append.1 hx with hx | hx
    · have := (hP x hx).2
      rw [hpg] at this; cases this
    · obtain ⟨l, hl, hxl⟩ := List.mem_flatten.1 hx
      obtain ⟨a1, ha1, rfl⟩ := List.mem_map.mp hl
      obtain ⟨o1, id1, w1, rfl, _, hx1⟩ := actLog_delete hxl hpg
      obtain ⟨p1, hp1, hp1id, hp1ord⟩ := hdel (.delete o1 id1 w1) (by simp [ha1])
      obtain ⟨c1, hc1, rfl⟩ := List.mem_map.mp hp1
      subst hp1id
      rw [actName_delete hidsC hc1] at hx1
      have hnn : c1.name = c0.name := append_left_cancel (hx1.symm.trans hname)
      have hcc : c1 = c0 := List.inj_on_of_nodup_map hnamesC hc1 hc0 hnn
      subst hcc
      -- two deletes at the same ordinal before the create
      rw [delOrds_append] at hnd
      have hd1 : c1.pod.ord ∈ delOrds B1 := by
        unfold delOrds
        rw [List.mem_filterMap]
        exact ⟨_, ha1, by simp [hp1ord]⟩
      have hd2 : c1.pod.ord ∈ delOrds (Action.delete o' c1.pod.id w :: B2) := by
        unfold delOrds
        rw [List.mem_filterMap]
        exact ⟨_, List.mem_cons_self, by simp [hpord]⟩
      exact (List.nodup_append.1 hnd).2.2 _ hd1 _ hd2 rfl
  rw [hcnt]
  -- had the plan a fault for it, the delete would have been refused and would be the last action
  by_contra hsome
  have hfind : (plan.find? (fun ft => ft.key == sg && ft.occ == 0)).isSome = true := by
    unfold look at hsome
    cases hf : plan.find? (fun ft => ft.key == sg && ft.occ == 0) with
    | none => rw [hf] at hsome; simp at hsome
    | some ft => rfl
  rw [List.find?_isSome] at hfind
  obtain ⟨ft, hft, hcond⟩ := hfind
  simp only [Bool.and_eq_true, beq_iff_eq] at hcond
  have hhit := podFaults_delete (sn := i.setName) (claimed := (syncF h i plan).claimed) (b := (SYa.rangeOf i).1)
    (E := (SYa.rangeOf i).2) hnames (hsub.subset hc0) hc0n hft (hcond.1.trans hname) hcond.2
  rw [hpord] at hhit
  have hlast := hit_is_last i.view (syncF h i plan).cur (syncF h i plan).upd (GL.syncPods (syncF h i plan))
    (GL.syncFaults i plan (syncF h i plan)) (pre := B1) (a := .delete o' c0.pod.id w) (post := B2 ++ Action.create oc r :: A2)
    hrec.symm hhit
  simp at hlast

/-- **`C04.removed` (sync level)**: the clause of `monitorSync` is true on the model for every hashing, world and fault plan
    in which pod names and pod ids are unique -/
theorem C04removedSync_holds (h : Hashing) (i : SyncIn) (plan : List Fault)
    (hnames : (i.pods.map (·.name)).Nodup) (hids : (i.pods.map (·.pod.id)).Nodup) :
    C04removedSync plan (syncF h i plan).observe.log = true := by
  unfold C04removedSync
  show ((annotate plan (syncF h i plan).log).all _) = true
  rw [List.all_eq_true]
  rintro ⟨en, idx, kk⟩ hx
  simp only
  by_cases hcp : (en.verb == "create" && en.res == "pod") = true
  swap
  · simp [hcp]
  rw [Bool.or_eq_true]
  right
  rw [Bool.not_eq_true', List.any_eq_false]
  rintro ⟨g, j, k⟩ hy hcond
  simp only [Bool.and_eq_true, beq_iff_eq, decide_eq_true_eq] at hcond hcp
  obtain ⟨⟨⟨⟨hgv, hgr⟩, _⟩, hji⟩, hk⟩ := hcond
  obtain ⟨a, se, bb, hl1, hx'⟩ := mem_annotate.mp hx
  obtain ⟨a', sg, b', hl2, hy'⟩ := mem_annotate.mp hy
  simp only [Prod.mk.injEq] at hx' hy'
  obtain ⟨rfl, rfl, _⟩ := hx'
  obtain ⟨rfl, rfl, rfl⟩ := hy'
  obtain ⟨c, rfl, _⟩ := two_decomp (hl1.symm.trans hl2) hji
  have := no_create_after_faulted_delete h i plan hnames hids (a' := a') (c := c) (bb := bb) (sg := sg) (se := se)
    (by rw [hl1]; simp) ⟨hgv, hgr⟩ hcp
  rw [this] at hk
  simp at hk

end Asts.GL2
