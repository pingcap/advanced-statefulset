import Asts.Proofs.C02_Acts

/-! C02: which calls the Parallel reconcile of a normal, settled world makes, object by object. -/
namespace Asts.C02p
open Asts Asts.L1c

/-- the pod list of a normal, settled world -/
structure PodsCtx (setName : String) (P : List CPod) : Prop where
  own : ∀ c ∈ P, c.owner = .self ∧ c.member = true ∧ c.selMatch = true ∧ c.name = canonicalName setName c.pod.ord ∧
    0 ≤ c.pod.ord ∧ c.pod.stOk = true ∧ c.pod.created = true
  ords : (P.map (·.pod.ord)).Nodup
  ids : IdOk P
  small : P.length ≤ freshId
  settled : ∀ c ∈ P, c.pod.terminating = false ∧ (c.pod.fs = true ∨ c.pod.runningAndReady = true)

namespace PodsCtx
variable {setName : String} {P : List CPod}

theorem id_lt (hc : PodsCtx setName P) {c : CPod} (hm : c ∈ P) : c.pod.id < freshId := hc.ids.lt c hm

theorem ord_inj (hc : PodsCtx setName P) {a b : CPod} (ha : a ∈ P) (hb : b ∈ P) (h : a.pod.ord = b.pod.ord) : a = b :=
  ord_inj_of_nodup hc.ords ha hb h

theorem pod_inj (hc : PodsCtx setName P) {a b : CPod} (ha : a ∈ P) (hb : b ∈ P) (h : a.pod = b.pod) : a = b :=
  hc.ord_inj ha hb (by rw [h])

theorem id_inj (hc : PodsCtx setName P) {a b : CPod} (ha : a ∈ P) (hb : b ∈ P) (h : a.pod.id = b.pod.id) : a = b :=
  hc.ids.inj a ha b hb h

theorem ordNodup (hc : PodsCtx setName P) : ((P.map (·.pod)).map (·.ord)).Nodup := by
  rw [List.map_map]; exact hc.ords

theorem slot_of_mem (hc : PodsCtx setName P) {b : Int} {E : List Int} {c : CPod} (hm : c ∈ P)
    (hr : inRange b E c.pod.ord = true) : slotOf b E (P.map (·.pod)) c.pod.ord = some c.pod := by
  have hnd : ((P.map (·.pod)).map (·.ord)).Nodup := hc.ordNodup
  rw [← podAt_eq_slotOf hnd hr]
  unfold podAt
  apply find_unique _ _ c.pod (List.mem_map.2 ⟨c, hm, rfl⟩) (by simp)
  intro p hp hk
  rw [List.mem_map] at hp
  obtain ⟨c', hc', rfl⟩ := hp
  rw [hc.ord_inj hc' hm (by simpa using hk)]

theorem slot_some (hc : PodsCtx setName P) {b : Int} {E : List Int} {o : Int} {q : Pod}
    (h : slotOf b E (P.map (·.pod)) o = some q) : ∃ c ∈ P, c.pod = q ∧ c.pod.ord = o ∧ inRange b E o = true := by
  obtain ⟨h1, h2, h3⟩ := L1c.slotOf_some h
  rw [List.mem_map] at h1
  obtain ⟨c, hcm, rfl⟩ := h1
  exact ⟨c, hcm, rfl, h2, by rw [← h2]; exact h3⟩

end PodsCtx

section
variable (v : SetView) (cur upd : String) (b : Int) (E : List Int) (setName : String) (P : List CPod)

/-- the actions of the reconcile on `P` (see `recon_acts`) -/
def actsOf : List Action :=
  (repsOf v cur upd b E (P.map (·.pod))).flatMap (repActs1 v cur upd) ++
  condActs (condemnedOf b E (P.map (·.pod))).reverse ++
  walkActs (walkTarget v upd ((repsOf v cur upd b E (P.map (·.pod))).map (repNew v cur upd)))

/-- the object the update walk takes down, if any -/
def tgtOf : Option (Int × Pod) := walkTarget v upd ((repsOf v cur upd b E (P.map (·.pod))).map (repNew v cur upd))

/-- the reconcile without the update walk -/
def actsA : List Action :=
  (repsOf v cur upd b E (P.map (·.pod))).flatMap (repActs1 v cur upd) ++
  condActs (condemnedOf b E (P.map (·.pod))).reverse

theorem actsOf_split : actsOf v cur upd b E P = actsA v cur upd b E P ++ walkActs (tgtOf v cur upd b E P) := rfl

end

theorem mem_repsOf {v : SetView} {cur upd : String} {b : Int} {E : List Int} {pods : List Pod} {ip : Int × Pod} :
    ip ∈ repsOf v cur upd b E pods ↔ inRange b E ip.1 = true ∧ ip.2 = (slotOf b E pods ip.1).getD (newPod v cur upd ip.1) := by
  unfold repsOf
  rw [List.mem_map]
  constructor
  · rintro ⟨i, hi, rfl⟩
    exact ⟨mem_idxOf.1 hi, rfl⟩
  · rintro ⟨h1, h2⟩
    refine ⟨ip.1, mem_idxOf.2 h1, ?_⟩
    ext
    · rfl
    · exact h2.symm

theorem newPod_fs (v : SetView) (cur upd : String) (o : Int) : (newPod v cur upd o).fs = false := by
  simp [Pod.fs, newPod, Pod.failed, Pod.succeeded]

theorem newPod_id (v : SetView) (cur upd : String) (o : Int) : (newPod v cur upd o).id = freshId + o.toNat := rfl

/-- the revision of a new pod at or above the partition is the update revision when the `rollingUpdate` block is present -/
theorem newPodRev_upd (v : SetView) (cur upd : String) (o : Int) (p : Int) (hru : v.ru = some (some p)) (ho : partOf v ≤ o) :
    newPodRev v cur upd o = upd := by
  unfold newPodRev
  simp only [hru, Option.isNone_some, Bool.and_false, Bool.false_and, Bool.false_eq_true, if_false, Option.isSome_some,
    Bool.true_and, decide_eq_true_eq]
  rw [if_neg (by omega)]

end Asts.C02p

namespace Asts.C02p
open Asts Asts.L1c

theorem walkFind_some {upd : String} {l : List (Int × Pod)} {t : Int} {q : Pod} (h : walkFind upd l = some (t, q)) :
    (t, q) ∈ l ∧ q.rev ≠ upd ∧ q.terminating = false := by
  induction l with
  | nil => cases h
  | cons ip rest ih =>
    obtain ⟨t', p⟩ := ip
    unfold walkFind at h
    split_ifs at h with h1 h2
    · simp only [Option.some.injEq, Prod.mk.injEq] at h
      obtain ⟨rfl, rfl⟩ := h
      simp only [Bool.and_eq_true, bne_iff_ne, ne_eq, Bool.not_eq_true'] at h1
      exact ⟨List.mem_cons_self, h1.1, h1.2⟩
    · obtain ⟨a, b, c⟩ := ih h
      exact ⟨List.mem_cons_of_mem _ a, b, c⟩

/-- scanning a list of healthy pods, the walk finds the first one that is not at the update revision -/
theorem walkFind_healthy {upd : String} {l : List (Int × Pod)} (hh : ∀ ip ∈ l, ip.2.healthy = true)
    (hex : ∃ ip ∈ l, ip.2.rev ≠ upd) : (walkFind upd l).isSome = true := by
  induction l with
  | nil => obtain ⟨ip, hip, _⟩ := hex; cases hip
  | cons ip rest ih =>
    obtain ⟨t, p⟩ := ip
    unfold walkFind
    have hp : p.healthy = true := hh (t, p) List.mem_cons_self
    have hnt : p.terminating = false := (healthy_facts hp).2.1
    by_cases hr : p.rev = upd
    · have : (p.rev != upd && !p.terminating) = false := by simp [hr]
      simp only [this, Bool.false_eq_true, if_false, hp, Bool.not_true]
      apply ih (fun ip hip => hh ip (List.mem_cons_of_mem _ hip))
      obtain ⟨ip, hip, hne⟩ := hex
      rcases List.mem_cons.1 hip with rfl | hip
      · exact absurd hr hne
      · exact ⟨ip, hip, hne⟩
    · have : (p.rev != upd && !p.terminating) = true := by simp [hr, hnt]
      simp [this]

section
variable {v : SetView} {cur upd : String} {b : Int} {E : List Int} {setName : String} {P : List CPod}

/-- `c` is the pod the update walk takes down -/
def IsTarget (v : SetView) (cur upd : String) (b : Int) (E : List Int) (P : List CPod) (c : CPod) : Prop :=
  tgtOf v cur upd b E P = some (c.pod.ord, c.pod)

/-- the walk's target is a pod of the list: in range, at or above the partition, not at the update revision, neither
    Failed nor Succeeded (a new object is never taken down when the `rollingUpdate` block is present) -/
theorem target_is_pod (hc : PodsCtx setName P) (hpart : v.strat = .onDelete ∨ ∃ p, v.ru = some (some p) ∧ 0 ≤ p)
    {t : Int} {q : Pod} (h : tgtOf v cur upd b E P = some (t, q)) :
    ∃ c ∈ P, c.pod = q ∧ c.pod.ord = t ∧ inRange b E t = true ∧ c.pod.fs = false ∧ q.rev ≠ upd ∧ partOf v ≤ t ∧
      v.strat ≠ .onDelete := by
  unfold tgtOf walkTarget at h
  split_ifs at h with hod
  have hod' : v.strat ≠ .onDelete := by simpa using hod
  obtain ⟨p, hru, _⟩ := hpart.resolve_left hod'
  obtain ⟨hmem, hrev, _⟩ := walkFind_some h
  unfold walkList at hmem
  rw [List.mem_reverse, List.mem_filter, List.mem_map] at hmem
  obtain ⟨⟨ip, hip, hrn⟩, hpt⟩ := hmem
  have hpt' : partOf v ≤ t := by simpa using hpt
  obtain ⟨hr, hq0⟩ := mem_repsOf.1 hip
  unfold repNew at hrn
  simp only [Prod.mk.injEq] at hrn
  obtain ⟨rfl, hq⟩ := hrn
  have hnotnew : q ≠ newPod v cur upd ip.1 := by
    intro hq'
    apply hrev
    rw [hq']
    exact newPodRev_upd v cur upd ip.1 p hru hpt'
  split_ifs at hq with hfs
  · exact absurd hq.symm hnotnew
  · cases hs : slotOf b E (P.map (·.pod)) ip.1 with
    | none =>
      rw [hs] at hq0
      simp only [Option.getD_none] at hq0
      exact absurd (hq.symm.trans hq0) hnotnew
    | some q0 =>
      rw [hs] at hq0
      simp only [Option.getD_some] at hq0
      obtain ⟨c, hcm, hcp, hco, _⟩ := hc.slot_some hs
      refine ⟨c, hcm, by rw [hcp, ← hq0, hq], hco, hr, ?_, hrev, hpt', hod'⟩
      rw [hcp, ← hq0]; simpa using hfs

/-- what the reconcile sees at an ordinal in range: the pod of the list that sits there, or else a new pod -/
theorem PodsCtx.mem_repsOf (hc : PodsCtx setName P) {ip : Int × Pod} :
    ip ∈ repsOf v cur upd b E (P.map (·.pod)) ↔ inRange b E ip.1 = true ∧
      ((∃ c ∈ P, c.pod.ord = ip.1 ∧ ip.2 = c.pod) ∨ ((∀ c ∈ P, c.pod.ord ≠ ip.1) ∧ ip.2 = newPod v cur upd ip.1)) := by
  rw [Asts.C02p.mem_repsOf]
  refine and_congr_right fun hr => ?_
  cases hs : slotOf b E (P.map (·.pod)) ip.1 with
  | none =>
    have hnone : ∀ c ∈ P, c.pod.ord ≠ ip.1 := by
      intro c hcm hco
      have := hc.slot_of_mem hcm (b := b) (E := E) (by rw [hco]; exact hr)
      rw [hco, hs] at this
      cases this
    rw [Option.getD_none]
    exact ⟨fun h => Or.inr ⟨hnone, h⟩, fun h => h.elim (fun ⟨c, hcm, hco, _⟩ => absurd hco (hnone c hcm)) (·.2)⟩
  | some q =>
    obtain ⟨c, hcm, hcp, hco, _⟩ := hc.slot_some hs
    rw [Option.getD_some]
    constructor
    · intro h
      exact Or.inl ⟨c, hcm, hco, h.trans hcp.symm⟩
    · rintro (⟨c', hcm', hco', h⟩ | ⟨hnone, _⟩)
      · rw [h, hc.ord_inj hcm' hcm (hco'.trans hco.symm), hcp]
      · exact absurd hco (hnone c hcm)

/-- **the calls of the reconcile on a normal, settled pod list**, one by one: a Failed/Succeeded pod in range is deleted
    and created again, a pod in range without identity or storage is updated, a vacancy in range is filled; a pod out of
    range is deleted (`mem_condActs`); the update walk takes down its target (`mem_walkActs`) -/
theorem PodsCtx.mem_repActs (hc : PodsCtx setName P) {a : Action} :
    a ∈ (repsOf v cur upd b E (P.map (·.pod))).flatMap (repActs1 v cur upd) ↔
      (∃ c ∈ P, inRange b E c.pod.ord = true ∧
        (c.pod.fs = true ∧ (a = .delete c.pod.ord c.pod.id .replaceFailed ∨ a = .create c.pod.ord (newPodRev v cur upd c.pod.ord)) ∨
         c.pod.fs = false ∧ (c.pod.idOk && c.pod.stOk) = false ∧ a = .update c.pod.ord)) ∨
      (∃ o, inRange b E o = true ∧ (∀ c ∈ P, c.pod.ord ≠ o) ∧ a = .create o (newPodRev v cur upd o)) := by
  rw [List.mem_flatMap]
  constructor
  · rintro ⟨⟨o, q⟩, hip, ha⟩
    obtain ⟨hr, ⟨c, hcm, rfl, rfl⟩ | ⟨hnone, hq⟩⟩ := hc.mem_repsOf.1 hip
    · refine Or.inl ⟨c, hcm, hr, ?_⟩
      unfold repActs1 at ha
      simp only [(hc.own c hcm).2.2.2.2.2.2, Bool.not_true, Bool.false_eq_true, if_false] at ha
      cases hfs : c.pod.fs with
      | true =>
        rw [hfs, if_pos rfl, List.mem_cons, List.mem_singleton] at ha
        exact Or.inl ⟨rfl, ha⟩
      | false =>
        rw [hfs, if_neg Bool.false_ne_true] at ha
        cases hok : (c.pod.idOk && c.pod.stOk) with
        | true => rw [hok, if_pos rfl] at ha; cases ha
        | false =>
          rw [hok, if_neg Bool.false_ne_true, List.mem_singleton] at ha
          exact Or.inr ⟨rfl, rfl, ha⟩
    · have hq : q = newPod v cur upd o := hq
      subst hq
      refine Or.inr ⟨o, hr, hnone, ?_⟩
      unfold repActs1 at ha
      simp only [newPod_fs, newPod_created, Bool.false_eq_true, if_false, Bool.not_false, if_true,
        List.mem_singleton] at ha
      exact ha
  · rintro (⟨c, hcm, hr, hcase⟩ | ⟨o, hr, hnone, rfl⟩)
    · refine ⟨(c.pod.ord, c.pod), hc.mem_repsOf.2 ⟨hr, Or.inl ⟨c, hcm, rfl, rfl⟩⟩, ?_⟩
      unfold repActs1
      rcases hcase with ⟨hfs, ha⟩ | ⟨hfs, hok, rfl⟩
      · rw [hfs, if_pos rfl, List.mem_cons, List.mem_singleton]
        exact ha
      · simp only [hfs, (hc.own c hcm).2.2.2.2.2.2, hok, Bool.not_true, Bool.false_eq_true, if_false,
          List.mem_singleton]
    · refine ⟨(o, newPod v cur upd o), hc.mem_repsOf.2 ⟨hr, Or.inr ⟨hnone, rfl⟩⟩, ?_⟩
      unfold repActs1
      simp only [newPod_fs, newPod_created, Bool.false_eq_true, if_false, Bool.not_false, if_true,
        List.mem_singleton]
      rfl

theorem PodsCtx.mem_condActs (hc : PodsCtx setName P) {a : Action} :
    a ∈ condActs (condemnedOf b E (P.map (·.pod))).reverse ↔
      ∃ c ∈ P, isCondemned b E c.pod.ord = true ∧ a = .delete c.pod.ord c.pod.id .scaleDown := by
  unfold condActs
  simp only [List.mem_map, List.mem_filter, List.mem_reverse, L1c.mem_condemnedOf]
  constructor
  · rintro ⟨q, ⟨⟨⟨c, hcm, rfl⟩, hcd⟩, _⟩, rfl⟩
    exact ⟨c, hcm, hcd, rfl⟩
  · rintro ⟨c, hcm, hcd, rfl⟩
    exact ⟨c.pod, ⟨⟨⟨c, hcm, rfl⟩, hcd⟩, by rw [(hc.settled c hcm).1]; rfl⟩, rfl⟩

theorem mem_walkActs {tq : Option (Int × Pod)} {a : Action} :
    a ∈ walkActs tq ↔ ∃ t q, tq = some (t, q) ∧ a = .delete t q.id .update := by
  cases tq with
  | none => exact ⟨fun h => (by cases h), fun ⟨_, _, h, _⟩ => (by cases h)⟩
  | some tq =>
    simp only [walkActs, List.mem_singleton, Option.some.injEq]
    exact ⟨fun h => ⟨tq.1, tq.2, rfl, h⟩, fun ⟨_, _, h, ha⟩ => by rw [h]; exact ha⟩

theorem PodsCtx.mem_actsA (hc : PodsCtx setName P) {a : Action} :
    a ∈ actsA v cur upd b E P ↔
      a ∈ (repsOf v cur upd b E (P.map (·.pod))).flatMap (repActs1 v cur upd) ∨
      (∃ c ∈ P, isCondemned b E c.pod.ord = true ∧ a = .delete c.pod.ord c.pod.id .scaleDown) := by
  unfold actsA
  rw [List.mem_append, hc.mem_condActs]

theorem parA_create_iff (hc : PodsCtx setName P) {o : Int} {rev : String} :
    Action.create o rev ∈ actsA v cur upd b E P ↔
      inRange b E o = true ∧ rev = newPodRev v cur upd o ∧
        ((∀ c ∈ P, c.pod.ord ≠ o) ∨ ∃ c ∈ P, c.pod.ord = o ∧ c.pod.fs = true) := by
  rw [hc.mem_actsA, hc.mem_repActs]
  constructor
  · rintro ((⟨c, hcm, hr, ⟨hfs, h | h⟩ | ⟨_, _, h⟩⟩ | ⟨o', hr, hnone, h⟩) | ⟨_, _, _, h⟩)
    · cases h
    · cases h
      exact ⟨hr, rfl, Or.inr ⟨c, hcm, rfl, hfs⟩⟩
    · cases h
    · cases h
      exact ⟨hr, rfl, Or.inl hnone⟩
    · cases h
  · rintro ⟨hr, rfl, hnone | ⟨c, hcm, rfl, hfs⟩⟩
    · exact Or.inl (Or.inr ⟨o, hr, hnone, rfl⟩)
    · exact Or.inl (Or.inl ⟨c, hcm, hr, Or.inl ⟨hfs, Or.inr rfl⟩⟩)

theorem parA_update_mem (hc : PodsCtx setName P) {c : CPod} (hm : c ∈ P) (hr : inRange b E c.pod.ord = true)
    (hfs : c.pod.fs = false) (hid : c.pod.idOk = false) : Action.update c.pod.ord ∈ actsA v cur upd b E P :=
  hc.mem_actsA.2 (Or.inl (hc.mem_repActs.2 (Or.inl ⟨c, hm, hr, Or.inr ⟨hfs, by rw [hid]; rfl, rfl⟩⟩)))

/-- where a delete of the reconcile before the update walk comes from: a Failed/Succeeded pod in range that is
    replaced, or a pod outside the desired set -/
theorem parA_delete_src (hc : PodsCtx setName P) {o : Int} {id : Nat} {w : Why}
    (hmem : Action.delete o id w ∈ actsA v cur upd b E P) :
    ∃ c ∈ P, c.pod.id = id ∧ ((inRange b E c.pod.ord = true ∧ c.pod.fs = true) ∨ inRange b E c.pod.ord = false) := by
  rcases hc.mem_actsA.1 hmem with hrep | ⟨c, hcm, hcd, h⟩
  · rcases hc.mem_repActs.1 hrep with ⟨c, hcm, hr, ⟨hfs, h | h⟩ | ⟨_, _, h⟩⟩ | ⟨_, _, _, h⟩
    · exact ⟨c, hcm, (Action.delete.inj h).2.1.symm, Or.inl ⟨hr, hfs⟩⟩
    · cases h
    · cases h
    · cases h
  · refine ⟨c, hcm, (Action.delete.inj h).2.1.symm, Or.inr ?_⟩
    by_contra hr
    rw [inRange_not_condemned (by simpa using hr)] at hcd
    cases hcd

theorem parA_del_iff (hc : PodsCtx setName P) (hb0 : 0 ≤ b) (hE : ∀ e ∈ E, 0 ≤ e) {c : CPod} (hm : c ∈ P) :
    DelHits (actsA v cur upd b E P) c.pod.id ↔
      (inRange b E c.pod.ord = true ∧ c.pod.fs = true) ∨ inRange b E c.pod.ord = false := by
  constructor
  · rintro ⟨o, w, hmem⟩
    obtain ⟨c', hc', hid, hcase⟩ := parA_delete_src hc hmem
    rw [hc.id_inj hc' hm hid] at hcase
    exact hcase
  · rintro (⟨hr, hfs⟩ | hr)
    · exact ⟨_, _, hc.mem_actsA.2 (Or.inl (hc.mem_repActs.2 (Or.inl ⟨c, hm, hr, Or.inl ⟨hfs, Or.inl rfl⟩⟩)))⟩
    · refine ⟨_, _, hc.mem_actsA.2 (Or.inr ⟨c, hm, ?_, rfl⟩)⟩
      rw [isCondemned_eq hb0 hE, contains_idxOf, hr]
      simp [(hc.own c hm).2.2.2.2.1]

/-- no delete is addressed to an object created in this reconcile -/
theorem parA_fresh (hc : PodsCtx setName P) {id : Nat} (hid : freshId ≤ id) : ¬ DelHits (actsA v cur upd b E P) id := by
  rintro ⟨o, w, hmem⟩
  obtain ⟨c, hcm, rfl, _⟩ := parA_delete_src hc hmem
  have := hc.id_lt hcm
  omega

/-- **which objects a delete of the whole reconcile hits**: those of the calls before the update walk, and the walk's target -/
theorem delHits_iff (hc : PodsCtx setName P) (hpart : v.strat = .onDelete ∨ ∃ p, v.ru = some (some p) ∧ 0 ≤ p)
    (hb0 : 0 ≤ b) (hE : ∀ e ∈ E, 0 ≤ e) {c : CPod} (hm : c ∈ P) :
    DelHits (actsOf v cur upd b E P) c.pod.id ↔
      (inRange b E c.pod.ord = true ∧ c.pod.fs = true) ∨ inRange b E c.pod.ord = false ∨ IsTarget v cur upd b E P c := by
  rw [← or_assoc, ← parA_del_iff (v := v) (cur := cur) (upd := upd) hc hb0 hE hm, actsOf_split]
  constructor
  · rintro ⟨o, w, hmem⟩
    rcases List.mem_append.1 hmem with h | h
    · exact Or.inl ⟨o, w, h⟩
    · obtain ⟨t, q, ht, h⟩ := mem_walkActs.1 h
      obtain ⟨c', hc', hcp, hco, _⟩ := target_is_pod hc hpart ht
      have : c' = c := hc.id_inj hc' hm (by rw [hcp]; exact (Action.delete.inj h).2.1.symm)
      subst this
      right
      unfold IsTarget
      rw [ht, hco, hcp]
  · rintro (⟨o, w, h⟩ | ht)
    · exact ⟨o, w, List.mem_append_left _ h⟩
    · exact ⟨_, _, List.mem_append_right _ (mem_walkActs.2 ⟨_, _, ht, rfl⟩)⟩

end

end Asts.C02p

namespace Asts.C02p
open Asts Asts.L1c

theorem mem_news (setName : String) (orig : List CPod) (hno : ∀ o, wasOrphan setName orig o = false)
    (acts : List Action) (hfresh : ∀ id, freshId ≤ id → ¬ DelHits acts id) (x : CPod) :
    x ∈ news setName orig acts ↔ ∃ o rev, Action.create o rev ∈ acts ∧ x = mkPod setName o rev := by
  induction acts with
  | nil => simp [news]
  | cons a rest ih =>
    have hrest : ∀ id, freshId ≤ id → ¬ DelHits rest id := by
      intro id hid hd
      obtain ⟨o, w, hm⟩ := hd
      exact hfresh id hid ⟨o, w, List.mem_cons_of_mem _ hm⟩
    cases a with
    | create o rev =>
      unfold news
      rw [eff_mkPod setName orig hno rest o rev (hrest _ (by omega))]
      simp only [Option.toList_some, List.singleton_append, List.mem_cons, ih hrest, Action.create.injEq]
      constructor
      · rintro (rfl | ⟨o', rev', hm, rfl⟩)
        · exact ⟨o, rev, Or.inl ⟨rfl, rfl⟩, rfl⟩
        · exact ⟨o', rev', Or.inr hm, rfl⟩
      · rintro ⟨o', rev', (⟨rfl, rfl⟩ | hm), rfl⟩
        · exact Or.inl rfl
        · exact Or.inr ⟨o', rev', hm, rfl⟩
    | delete o id w =>
      unfold news
      rw [ih hrest]
      simp only [List.mem_cons, reduceCtorEq, false_or]
    | update o =>
      unfold news
      rw [ih hrest]
      simp only [List.mem_cons, reduceCtorEq, false_or]

end Asts.C02p
