import Asts.Proofs.L1_a_Loops
import Mathlib.Tactic

/-! # From the justified action list (`uss_seg`) to the monitors `C04`, `C01creates`, `C03` -/
namespace Asts
open List

/-- pod identities of a snapshot: pairwise distinct and below the identities given to fresh objects
    (the harness numbers the pods of a snapshot by position) -/
structure IdsOk (pods : List Pod) : Prop where
  nodup : (pods.map Pod.id).Nodup
  small : ∀ p ∈ pods, p.id < freshId

theorem idsOk_of_positions {pods : List Pod} (hpos : pods.map Pod.id = List.range pods.length)
    (hlen : pods.length ≤ freshId) : IdsOk pods := by
  refine ⟨by rw [hpos]; exact List.nodup_range, ?_⟩
  intro p hp
  have : p.id ∈ pods.map Pod.id := List.mem_map_of_mem hp
  rw [hpos, List.mem_range] at this
  omega

theorem podById_of_mem {pods : List Pod} (hnd : (pods.map Pod.id).Nodup) {p : Pod} (hp : p ∈ pods) :
    podById pods p.id = some p := by
  induction pods with
  | nil => simp at hp
  | cons q qs ih =>
    rw [List.map_cons, List.nodup_cons] at hnd
    unfold podById
    rw [List.find?_cons]
    rcases List.mem_cons.1 hp with rfl | hp'
    · simp
    · have hne : q.id ≠ p.id := by
        intro h; apply hnd.1; rw [h]; exact List.mem_map_of_mem hp'
      have : (q.id == p.id) = false := by simpa using hne
      simp only [this]
      exact ih hnd.2 hp'

theorem podAt_some {pods : List Pod} {o : Int} {q : Pod} (h : podAt pods o = some q) : q ∈ pods ∧ q.ord = o := by
  unfold podAt at h
  exact ⟨List.mem_of_find?_eq_some h, by simpa using List.find?_some h⟩

theorem partitionOf_le_partOf (v : SetView) : partitionOf v ≤ partOf v := by
  unfold partitionOf partOf
  rcases hru : v.ru with _ | _ | p
  · simp
  · simp
  · simp only; split_ifs <;> omega

/-- pointwise transfer: a justified model segment satisfies a context monitor on the observed actions -/
theorem allWithContext_of_SegOK {v : SetView} {upd : String} {pods : List Pod} {D : List Int} {b : Bool}
    {q : List OAct → OAct → Option OAct → Bool}
    (hq : ∀ pre a n, J v upd pods D b pre a n → q (observe pre) a.observe (n.map Action.observe) = true)
    {L l : List Action} (h : SegOK v upd pods D b L l) : allWithContext q (observe L) (observe l) = true := by
  induction l generalizing L with
  | nil => simp [observe, allWithContext]
  | cons a rest ih =>
    obtain ⟨ha, hrest⟩ := h
    have h2 := ih hrest
    have h1 := hq _ _ _ ha
    simp only [observe, List.map_cons, allWithContext, Bool.and_eq_true, List.map_append, List.map_nil,
      List.head?_map] at h1 h2 ⊢
    exact ⟨h1, h2⟩

theorem SegOK.create_mem {v : SetView} {upd : String} {pods : List Pod} {D : List Int} {b : Bool}
    {L l : List Action} (h : SegOK v upd pods D b L l) {o : Int} {rev : String} (hm : Action.create o rev ∈ l) :
    o ∈ D := by
  obtain ⟨pre, post, hl⟩ := List.append_of_mem hm
  exact (h.at hl).1

theorem C04_holds_gen (v : SetView) (cur upd : String) (pods : List Pod) (f : Faults)
    (hcr : pods.all Pod.created = true) (hids : IdsOk pods) :
    C04 v pods (observe (updateStatefulSet v cur upd pods f).1.acts) = true := by
  by_cases hdel : v.deleting = true
  · rw [uss_deleting_acts v cur upd pods f hdel]; rfl
  have hdel' : v.deleting = false := Bool.eq_false_iff.2 hdel
  unfold C04
  refine allWithContext_of_SegOK (fun pre a n h => ?_) (uss_seg v cur upd pods f)
  cases a with
  | update o => rfl
  | delete o id why => rfl
  | create o rev =>
    obtain ⟨hD, hcases⟩ := h
    have h1 : (desired (replicasOf v) v.slots).contains o = true := List.contains_iff_mem.2 hD
    have h2 : v.slots.contains o = false :=
      Bool.eq_false_iff.2 fun hc => (desired_isDesired (replicasOf v) v.slots).noSlot o hD (List.contains_iff_mem.1 hc)
    simp only [Action.observe, h1, hdel', h2, Bool.not_false, Bool.and_self, Bool.true_and]
    cases hpa : podAt pods o with
    | none => rfl
    | some q =>
      obtain ⟨hq, hqo⟩ := podAt_some hpa
      rcases hcases with hnone | ⟨p, hp, hpo, hfs, hmem⟩ | ⟨p, hp, -, hc⟩
      · exact absurd hqo (hnone q hq)
      · -- the earlier delete of the Failed/Succeeded pod, as the monitor sees it
        refine List.any_eq_true.2 ⟨.delete o (some p.id), List.mem_map.2 ⟨_, hmem, ?_⟩, ?_⟩
        · simp only [Action.observe, hids.small p hp, if_true]
        · simp only [podById_of_mem hids.nodup hp, Option.any_some, beq_self_eq_true, Bool.true_and]
          exact hfs
      · rw [List.all_eq_true.1 hcr p hp] at hc; cases hc

theorem C01creates_holds_gen (v : SetView) (cur upd : String) (pods : List Pod) (f : Faults) :
    C01creates v (observe (updateStatefulSet v cur upd pods f).1.acts) = true := by
  unfold C01creates
  simp only [List.all_eq_true]
  intro o ho
  unfold createOrds at ho
  rw [List.mem_filterMap] at ho
  obtain ⟨a', ha', hm⟩ := ho
  unfold observe at ha'
  rw [List.mem_map] at ha'
  obtain ⟨a, ha, rfl⟩ := ha'
  cases a with
  | update o' => simp [Action.observe] at hm
  | delete o' id why => simp [Action.observe] at hm
  | create o' rev =>
    simp only [Action.observe, Option.some.injEq] at hm
    subst hm
    have := (uss_seg v cur upd pods f).create_mem ha
    simpa using this

theorem C03_holds_gen (v : SetView) (cur upd : String) (pods : List Pod) (f : Faults) (hids : IdsOk pods) :
    C03 v upd pods (observe (updateStatefulSet v cur upd pods f).1.acts)
      ((updateStatefulSet v cur upd pods f).2 == .ok) = true := by
  unfold C03
  refine allWithContext_of_SegOK (fun pre a n h => ?_) (uss_seg v cur upd pods f)
  cases a with
  | update o => rfl
  | create o rev => rfl
  | delete o id why =>
    cases why with
    | replaceFailed =>
      obtain ⟨⟨p, hp, rfl, hord, -, hfs⟩, hn⟩ := h
      simp only [Action.observe, hids.small p hp, if_true, podById_of_mem hids.nodup hp, hord, beq_self_eq_true,
        Bool.true_and, hfs]
      rcases hn with ⟨rev, rfl⟩ | ⟨rfl, hb⟩
      · simp [Action.observe]
      · simp [hb]
    | scaleDown =>
      obtain ⟨p, hp, rfl, hord, hnD⟩ := h
      have : (desired (replicasOf v) v.slots).contains o = false := by simpa using hnD
      simp [Action.observe, hids.small p hp, podById_of_mem hids.nodup hp, hord, hnD]
    | update =>
      obtain ⟨hstrat, hpart, -, hcases⟩ := h
      have hpart' : partitionOf v ≤ o := le_trans (partitionOf_le_partOf v) hpart
      have hs : (v.strat != .onDelete) = true := by simpa using hstrat
      rcases hcases with ⟨p, hp, rfl, hord, hrev, -, -⟩ | ⟨rfl, rev, hrev, hmem⟩
      · have hr : (p.rev != upd) = true := by simpa using hrev
        simp [Action.observe, hids.small p hp, podById_of_mem hids.nodup hp, hord, hs, hpart', hr]
      · have hnot : ¬ (freshId + o.toNat < freshId) := by omega
        simp only [Action.observe, hnot, if_false, hs, hpart', decide_true, Bool.and_self, Bool.true_and]
        rw [List.any_eq_true]
        refine ⟨.create o rev, List.mem_map.2 ⟨_, hmem, rfl⟩, ?_⟩
        simpa using hrev

end Asts
