import Asts.Proofs.C02_GDone

/-! C02, policy-independent: convergence of a class of normal, settled worlds that is closed under rounds and on which the
    policy makes progress (an `Event`) whenever the pods still need work. -/
namespace Asts.C02p
open Asts Asts.L1c

/-- a class of worlds on which a pod management policy works -/
structure PolicyClass (h : Hashing) (K : SyncIn → Prop) : Prop where
  ns : ∀ j, K j → NSC h j
  part : ∀ j, K j → PartOk j.view
  pol : ∀ j (hk : K j), Pol (ns j hk).norm
  facts : ∀ j (hk : K j), ActFacts j.view (ns j hk).norm.curRev.name (ns j hk).norm.updRev.name (bOf j) (EOf j) j.pods
    (ns j hk).norm.recon.1.acts
  next : ∀ j, K j → K (nextW h j)
  progress : ∀ j (hk : K j), 0 < muPods j → Event (bOf j) (EOf j) j.pods (ns j hk).norm.recon.1.acts

/-- `n` rounds, seen on the settled worlds -/
def nextWN (h : Hashing) : Nat → SyncIn → SyncIn
  | 0, j => j
  | n + 1, j => nextWN h n (nextW h j)

theorem settle_roundsN (h : Hashing) (i : SyncIn) (n : Nat) : settle (roundsN h n i) = nextWN h n (settle i) := by
  induction n generalizing i with
  | zero => rfl
  | succ n ih =>
    show settle (roundsN h n (round h i []).1) = nextWN h n (nextW h (settle i))
    rw [ih, settle_round]

theorem roundsN_succ (h : Hashing) (i : SyncIn) (n : Nat) : roundsN h (n + 1) i = (round h (roundsN h n i) []).1 := by
  induction n generalizing i with
  | zero => rfl
  | succ n ih =>
    show roundsN h (n + 1) (round h i []).1 = _
    rw [ih]; rfl

/-- descent: a class of normal, settled worlds, closed under rounds, with a measure that bounds `muPods` and drops in every
    round while it is positive -/
structure Descent (h : Hashing) (K : SyncIn → Prop) (mu : SyncIn → Nat) : Prop where
  ns : ∀ j, K j → NSC h j
  dom : ∀ j, K j → muPods j ≤ mu j
  next : ∀ j, K j → K (nextW h j)
  step : ∀ j, K j → 0 < mu j → mu (nextW h j) < mu j

/-- within measure + 2 rounds the settled world is `Final`: the measure reaches 0, then `done_final2` -/
theorem Descent.converge {h : Hashing} {K : SyncIn → Prop} {mu : SyncIn → Nat} (hD : Descent h K mu) (m : Nat) :
    ∀ {j : SyncIn}, K j → mu j ≤ m → ∃ k ≤ m + 2, Final h (nextWN h k j) := by
  induction m with
  | zero =>
    intro j hk hm
    have := hD.dom j hk
    exact ⟨2, by omega, done_final2 (hD.ns j hk) (by omega)⟩
  | succ m ih =>
    intro j hk hm
    by_cases hz : mu j = 0
    · have := hD.dom j hk
      exact ⟨2, by omega, done_final2 (hD.ns j hk) (by omega)⟩
    · have hlt := hD.step j hk (by omega)
      obtain ⟨k, hkk, hf⟩ := ih (hD.next j hk) (by omega)
      exact ⟨k + 1, by omega, hf⟩

theorem Descent.converge_settle {h : Hashing} {K : SyncIn → Prop} {mu : SyncIn → Nat} (hD : Descent h K mu) {i : SyncIn}
    (hk : K (settle i)) : ∃ n ≤ mu (settle i) + 3, Final h (roundsN h n i) := by
  obtain ⟨k, hkk, hf⟩ := hD.converge (mu (settle i)) hk (le_refl _)
  refine ⟨k + 1, by omega, ?_⟩
  rw [roundsN_succ, round_fst, settle_roundsN]
  exact final_applySync h _ hf

theorem PolicyClass.descent {h : Hashing} {K : SyncIn → Prop} (hK : PolicyClass h K) : Descent h K muPods where
  ns := hK.ns
  dom := fun _ _ => le_refl _
  next := hK.next
  step := fun j hk hpos =>
    (mu_stepC (hK.ns j hk) (hK.pol j hk) (hK.part j hk) (hK.facts j hk)).2 (hK.progress j hk hpos)

/-- **convergence** of any world whose settled form lies in a policy class -/
theorem converge_of_class {h : Hashing} {K : SyncIn → Prop} (hK : PolicyClass h K) {i : SyncIn} (hk : K (settle i)) :
    ∃ n ≤ muPods (settle i) + 3, Final h (roundsN h n i) :=
  hK.descent.converge_settle hk

theorem normC_settle {h : Hashing} {i : SyncIn} (hn : NormC h i) : NormC h (settle i) := by
  have hkp := settle_kp i
  refine ⟨hn.spec.of_eq rfl rfl rfl rfl rfl rfl,
    ?_, ?_, hn.rev, hn.noOrphanRev, ?_, hn.smallR, rfl⟩
  · intro x hx
    obtain ⟨y, hy, hk⟩ := hkp.mem hx
    rw [List.mem_map] at hy
    obtain ⟨c0, hc0, rfl⟩ := hy
    obtain ⟨a1, a2, a3, a4, a5, a7, a8⟩ := hn.pods c0 (List.mem_of_mem_filter hc0)
    apply (normPod_key i.setName hk).1
    rw [settleOne_owner, settleOne_member, settleOne_sel, settleOne_name, settleOne_ord]
    refine ⟨a1, a2, a3, a4, a5, ?_, ?_⟩
    · unfold settleOne; split_ifs <;> exact a7
    · unfold settleOne; split_ifs
      · exact a8
      · simp [Pod.created]
  · apply (hkp.ords.nodup_iff).2
    rw [map_settleOne (f := (·.pod.ord)) settleOne_ord]
    exact (List.Sublist.map _ List.filter_sublist).nodup hn.ords
  · rw [hkp.length, List.length_map]
    exact le_trans (List.length_filter_le _ _) hn.small

/-- the pods outside the desired set do not grow in number under the fairness step -/
theorem settle_room {h : Hashing} {i : SyncIn} (D : List Int) :
    ((settle i).pods.filter (fun c => !D.contains c.pod.ord)).length ≤ (i.pods.filter (fun c => !D.contains c.pod.ord)).length :=
  settle_filter_length_le i _ (fun c => by simp only [settleOne_ord]) (fun _ => rfl)

theorem nsc_settle {h : Hashing} {i : SyncIn} (hn : NormC h i)
    (hroom : (i.pods.filter (fun c => !(desired (replicasOf i.view) i.view.slots).contains c.pod.ord)).length +
      (replicasOf i.view).toNat ≤ freshId) : NSC h (settle i) := by
  refine ⟨normC_settle hn, idOk_of_idPos (settle_idPos i) (normC_settle hn).small, settle_settled i, ?_⟩
  have := settle_room (h := h) (i := i) (desired (replicasOf i.view) i.view.slots)
  show ((settle i).pods.filter (fun c => !(desired (replicasOf i.view) i.view.slots).contains c.pod.ord)).length +
    (replicasOf i.view).toNat ≤ freshId
  omega

end Asts.C02p
