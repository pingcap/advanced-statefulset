import Mathlib.Tactic
import Asts.Proofs.WE_SilentFix
import Asts.Proofs.WE_Index

/-! # WE — the monitor `C11lossless` is true on the model's histories (scripts that are one pause interval) -/
namespace Asts.WE
open Asts Asts.GL

theorem worldFrom_nil_eq (h : Hashing) (p : List Fault) (w : SyncIn) : ∀ n, worldFrom h [] 1 p w n = plainWorld h w p n
  | 0 => rfl
  | n + 1 => by
    show (round h (applyEdits (editsAt [] (1 + n)) (worldFrom h [] 1 p w n)) (planAt p n)).1 = (round h (plainWorld h w p n) (planAt p n)).1
    rw [worldFrom_nil_eq h p w n]; rfl

theorem histRoundAt_nil_obs (h : Hashing) (p : List Fault) (w : SyncIn) (n : Nat) :
    (histRoundAt h [] 1 p w n).obs = obsFrom h w p n := by
  show (round h (applyEdits (editsAt [] (1 + n)) (worldFrom h [] 1 p w n)) (planAt p n)).2 = _
  rw [worldFrom_nil_eq]; rfl

theorem plainWorld_add (h : Hashing) (w : SyncIn) (p : List Fault) (n : Nat) :
    ∀ k, plainWorld h w p (n + 1 + k) = plainWorld h (plainWorld h w p (n + 1)) [] k
  | 0 => rfl
  | k + 1 => by
    show (round h (plainWorld h w p (n + 1 + k)) (planAt p (n + 1 + k))).1 = (round h (plainWorld h (plainWorld h w p (n + 1)) [] k) (planAt [] k)).1
    have : n + 1 + k = (n + k) + 1 := by omega
    rw [plainWorld_add h w p n k, this, planAt_succ, planAt_nil]

theorem obsFrom_add (h : Hashing) (w : SyncIn) (p : List Fault) (n k : Nat) :
    obsFrom h w p (n + 1 + k) = obsFrom h (plainWorld h w p (n + 1)) [] k := by
  unfold obsFrom
  have : n + 1 + k = (n + k) + 1 := by omega
  rw [plainWorld_add h w p n k, this, planAt_succ, planAt_nil]

theorem plainWorld_viewInStep (h : Hashing) (w : SyncIn) (p : List Fault) (n : Nat) : ViewInStep (plainWorld h w p (n + 1)) :=
  round_viewInStep h _ _

/-- **once silent (after the first round), silent for ever, with the same observation** -/
theorem silent_forever (h : Hashing) (w : SyncIn) (p : List Fault)
    (hnod : ∀ n, ((settle (plainWorld h w p n)).pods.map (·.name)).Nodup) (n : Nat)
    (hs : sil (obsFrom h w p (n + 1)) = true) : ∀ j, obsFrom h w p (n + 1 + j) = obsFrom h w p (n + 1) := by
  have hrep := silent_round_repeats h (plainWorld h w p (n + 1)) (plainWorld_viewInStep h w p n) (hnod (n + 1))
    (by have : obsFrom h w p (n + 1) = (round h (plainWorld h w p (n + 1)) []).2 := by
          unfold obsFrom; rw [planAt_succ]
        rw [← this]; exact hs)
  have hfix : ∀ j, plainWorld h w p (n + 1 + (j + 1)) = plainWorld h w p (n + 1 + 1) ∧
      obsFrom h w p (n + 1 + j) = obsFrom h w p (n + 1) := by
    intro j
    induction j with
    | zero => exact ⟨rfl, rfl⟩
    | succ j ih =>
      obtain ⟨ihw, _⟩ := ih
      have e1 : n + 1 + (j + 1) = (n + 1 + j) + 1 := by omega
      have hw1 : plainWorld h w p (n + 1 + 1) = (round h (plainWorld h w p (n + 1)) []).1 := by
        show (round h (plainWorld h w p (n + 1)) (planAt p (n + 1))).1 = _
        rw [planAt_succ]
      constructor
      · show (round h (plainWorld h w p (n + 1 + (j + 1))) (planAt p (n + 1 + (j + 1)))).1 = _
        rw [ihw, e1, planAt_succ, hw1, hrep]
      · show (round h (plainWorld h w p (n + 1 + (j + 1))) (planAt p (n + 1 + (j + 1)))).2 = (round h (plainWorld h w p (n + 1)) (planAt p (n + 1))).2
        rw [ihw, e1, planAt_succ, planAt_succ, hw1, hrep]
  exact fun j => (hfix j).2

theorem silent_same (h : Hashing) (w : SyncIn) (p : List Fault)
    (hnod : ∀ n, ((settle (plainWorld h w p n)).pods.map (·.name)).Nodup) {x y : Nat}
    (hx : sil (obsFrom h w p (x + 1)) = true) (hy : sil (obsFrom h w p (y + 1)) = true) :
    obsFrom h w p (x + 1) = obsFrom h w p (y + 1) := by
  rcases Nat.le_total x y with hle | hle
  · obtain ⟨j, rfl⟩ := Nat.exists_eq_add_of_le hle
    rw [Nat.add_right_comm]; exact (silent_forever h w p hnod x hx j).symm
  · obtain ⟨j, rfl⟩ := Nat.exists_eq_add_of_le hle
    rw [Nat.add_right_comm]; exact silent_forever h w p hnod y hy j

/-- while edits are pending a history cannot stop: its first `n` rounds are those of the trajectory, then it goes on -/
theorem runHistory_unroll (h : Hashing) (script : Script) (j : Nat) (w : SyncIn) (p : List Fault) :
    ∀ (n fuel c : Nat), n ≤ fuel → (∀ m, m < n → pendingAfter script (j + m) = true) →
      ∃ c', runHistory h script fuel j c w p =
        (List.range n).map (histRoundAt h script j p w) ++
          runHistory h script (fuel - n) (j + n) c' (worldFrom h script j p w n) (planAt p n)
  | 0, fuel, c, _, _ => ⟨c, by simp [planAt, worldFrom]⟩
  | n + 1, fuel, c, hle, hpend => by
    obtain ⟨c', hc'⟩ := runHistory_unroll h script j w p n fuel c (by omega) (fun m hm => hpend m (by omega))
    have hf : fuel - n = (fuel - (n + 1)) + 1 := by omega
    rw [hc', hf, runHistory_succ]
    simp only
    have hp := hpend n (by omega)
    rw [hp]
    simp only [Bool.not_true, Bool.and_false, Bool.false_eq_true, if_false]
    refine ⟨(if ((round h (applyEdits (editsAt script (j + n)) (worldFrom h script j p w n)) (planAt p n)).2.out == "ok" &&
        (round h (applyEdits (editsAt script (j + n)) (worldFrom h script j p w n)) (planAt p n)).2.writes == 0) = true
      then (if (editsAt script (j + n)).isEmpty = true then c' else 0) + 1 else 0), ?_⟩
    rw [List.range_succ, List.map_append, List.append_assoc, planAt_succ]
    rfl

theorem runRounds_settle (h : Hashing) (fuel c : Nat) (w : SyncIn) (hn : ((settle w).pods.map (·.name)).Nodup) :
    runRounds h fuel c (settle w) [] = runRounds h fuel c w [] := by
  cases fuel with
  | zero => rfl
  | succ fuel => rw [runRounds_succ, runRounds_succ, round_settle h w [] hn]

theorem endsSilent_spec {L : List RoundObs} (hL : endsSilent L = true) :
    ∃ m x y, L.length = m + 2 ∧ L[m + 1]? = some x ∧ L[m]? = some y ∧ silentOk x = true ∧ silentOk y = true := by
  unfold endsSilent at hL
  match hr : L.reverse with
  | [] => rw [hr] at hL; simp at hL
  | [a] => rw [hr] at hL; simp at hL
  | x :: y :: t =>
    rw [hr] at hL
    simp only [Bool.and_eq_true] at hL
    have hLe : L = t.reverse ++ [y, x] := by
      have := congrArg List.reverse hr
      rw [List.reverse_reverse] at this
      rw [this]; simp
    refine ⟨t.length, x, y, by rw [hLe]; simp, ?_, ?_, hL.1, hL.2⟩
    · rw [hLe, List.getElem?_append_right (by simp)]; simp
    · rw [hLe, List.getElem?_append_right (by simp)]; simp

theorem endsSilent_last {L : List RoundObs} (hL : endsSilent L = true) : ∃ x, L.getLast? = some x ∧ silentOk x = true := by
  obtain ⟨m, x, _, hlen, hx, _, sx, _⟩ := endsSilent_spec hL
  exact ⟨x, by rw [List.getLast?_eq_getElem?, hlen]; exact hx, sx⟩

/-- a run that ends silent: its length, and its last two rounds are silent rounds of the never-stopping run -/
theorem runRounds_endsSilent (h : Hashing) (fuel c : Nat) (w : SyncIn) (p : List Fault)
    (hE : endsSilent (runRounds h fuel c w p) = true) :
    ∃ m, (runRounds h fuel c w p).length = m + 2 ∧ sil (obsFrom h w p m) = true ∧ sil (obsFrom h w p (m + 1)) = true := by
  obtain ⟨m, x, y, hlen, hx, hy, sx, sy⟩ := endsSilent_spec hE
  have ra := (runRounds_spec h fuel c w p).1
  rw [ra (m + 1) (by omega)] at hx
  rw [ra m (by omega)] at hy
  cases hx; cases hy
  exact ⟨m, hlen, sy, sx⟩

theorem sameState_refl (x : RoundObs) : sameState x x = true := by
  unfold sameState; simp

theorem pending_pause (a d m : Nat) (hm : m < a + d + 2) : pendingAfter (pauseScript a d) (1 + m) = true := by
  unfold pendingAfter pauseScript
  simp only [List.any_cons, List.any_nil, Bool.or_false, Bool.or_eq_true, decide_eq_true_eq]
  right; omega

/-- the observations of a history with one pause interval: the rounds up to the un-pause, then the plain run of the world
    the pause found -/
theorem pause_history_obs (h : Hashing) (plan : List Fault) (i : SyncIn) (a d fuel : Nat) (hnp : i.paused = false)
    (hnod : ∀ n, ((settle (plainWorld h i plan n)).pods.map (·.name)).Nodup) (hfuel : a + d + 2 ≤ fuel) :
    (runHistory h (pauseScript a d) fuel 1 0 i plan).map (·.obs) =
      ((List.range (a + d + 2)).map (histRoundAt h (pauseScript a d) 1 plan i)).map (·.obs) ++
        runRounds h (fuel - (a + d + 2)) 0 (plainWorld h i plan (a + 1)) [] := by
  obtain ⟨c', hc'⟩ := runHistory_unroll h (pauseScript a d) 1 i plan (a + d + 2) fuel 0 hfuel (fun m hm => pending_pause a d m hm)
  rw [hc', List.map_append]
  congr 1
  have hX : worldFrom h [] 1 plan i (a + 1) = plainWorld h i plan (a + 1) := worldFrom_nil_eq h plan i (a + 1)
  have hn : ((settle (worldFrom h [] 1 plan i (a + 1))).pods.map (·.name)).Nodup := by rw [hX]; exact hnod (a + 1)
  have hedits : editsAt (pauseScript a d) (1 + (a + d + 2)) = [.pause false] := by
    rw [editsAt_pauseScript, if_neg (by omega), if_pos (by omega)]
  -- the rest is the round of the un-pause, the last edit: the plain run of the settled world the pause found
  rw [runHistory_last h (pauseScript a d) _ _ _ _ _ (by
    intro e he
    unfold pauseScript at he
    simp only [List.mem_cons, List.not_mem_nil, or_false] at he
    rcases he with rfl | rfl <;> simp <;> omega),
    hedits, pause_during h plan i a d hn _ (by omega) le_rfl,
    unpause_after_pause _ (worldFrom_paused_nil h plan i hnp (a + 1)), planAt_succ plan (a + d + 1),
    runRounds_settle h _ _ _ hn, hX]
  rfl

theorem observeHist_obs (hs : List HistRound) : (observeHist hs).map (·.obs) = hs.map (·.obs) := by
  rw [observeHist_eq, List.map_map]; rfl

theorem observeHist_obs' (hs : List HistRound) : (observeHist hs).map (·.obs) = hs.map (·.obs) := observeHist_obs hs

/-- **`C11lossless`, the monitor, is true on the model** for every script that is one pause interval (pause before round
    `a + 2`, un-pause before round `a + d + 3`): the set is not paused to begin with, pod names are distinct in the settled form of
    every world of the never-paused run, and the budget reaches past the un-pause round -/
theorem C11lossless_model (h : Hashing) (plan : List Fault) (i : SyncIn) (a d fuel : Nat) (hnp : i.paused = false)
    (hnod : ∀ n, ((settle (plainWorld h i plan n)).pods.map (·.name)).Nodup) (hfuel : a + d + 3 ≤ fuel) :
    C11lossless i (pauseScript a d) (observeHist (runHistory h (pauseScript a d) fuel 1 0 i plan))
      (runRounds h fuel 0 i plan) = true := by
  unfold C11lossless
  rw [pauseScript_interval]
  simp only
  rw [hnp, Bool.false_or]
  apply or_of_imp
  intro hE
  rw [Bool.not_eq_false', Bool.and_eq_true] at hE
  obtain ⟨hEr, hEh⟩ := hE
  -- the history: `a + d + 2` rounds, then the plain run (`tail`) of the world the pause found; its rounds are rounds of `ref`'s run
  have hobs := pause_history_obs h plan i a d fuel hnp hnod (by omega)
  obtain ⟨g, hg⟩ : ∃ g, fuel - (a + d + 2) = g + 1 := ⟨fuel - (a + d + 3), by omega⟩
  have htne : runRounds h (fuel - (a + d + 2)) 0 (plainWorld h i plan (a + 1)) [] ≠ [] := by
    rw [hg]; exact runRounds_ne_nil h g 0 _ []
  have htobs : ∀ k, obsFrom h (plainWorld h i plan (a + 1)) [] k = obsFrom h i plan (a + 1 + k) :=
    fun k => (obsFrom_add h i plan a k).symm
  have htlast := runRounds_getLast h _ 0 _ [] htne
  rw [htobs] at htlast
  generalize htail : runRounds h (fuel - (a + d + 2)) 0 (plainWorld h i plan (a + 1)) [] = tail at hobs htlast
  -- the reference run ends with the silent rounds `m`, `m + 1`; from `m` on every round is silent
  obtain ⟨m, hlen, sy, sx⟩ := runRounds_endsSilent h fuel 0 i plan hEr
  have hreflast : (runRounds h fuel 0 i plan).getLast? = some (obsFrom h i plan (m + 1)) := by
    have := runRounds_getLast h fuel 0 i plan (by intro e; rw [e] at hlen; cases hlen)
    rwa [hlen] at this
  -- the history ends with the last round of the tail, which is silent: the observation of round `m + 1`
  have hlast : ((observeHist (runHistory h (pauseScript a d) fuel 1 0 i plan)).map (·.obs)).getLast? =
      some (obsFrom h i plan (a + (tail.length - 1) + 1)) := by
    rw [observeHist_obs, hobs, List.getLast?_append, htlast, Option.some_or, Nat.add_right_comm]
  obtain ⟨x, hx, sxh⟩ := endsSilent_last hEh
  rw [hlast] at hx
  cases hx
  have hsame := silent_same h i plan hnod sxh sx
  -- from round `m` on every round is silent, so the tail stops after two rounds or at round `m + 1`
  have hsil : ∀ y, m ≤ y → sil (obsFrom h i plan y) = true := by
    intro y hy
    rcases Nat.eq_or_lt_of_le hy with rfl | hlt
    · exact sy
    · obtain ⟨j, rfl⟩ := Nat.exists_eq_add_of_le hlt
      rw [silent_forever h i plan hnod m sx j]; exact sx
  have htlen : tail.length ≤ m - (a + 1) + 2 := by
    rw [← htail]
    apply runRounds_length_le
    · rw [htobs]; exact hsil _ (by omega)
    · rw [htobs]; exact hsil _ (by omega)
  have hrsLen : (observeHist (runHistory h (pauseScript a d) fuel 1 0 i plan)).length = a + d + 2 + tail.length := by
    have := congrArg List.length (observeHist_obs (runHistory h (pauseScript a d) fuel 1 0 i plan))
    rw [List.length_map, hobs, List.length_append, List.length_map, List.length_map, List.length_range] at this
    exact this
  rw [List.getLast?_map] at hlast
  cases hxr : (observeHist (runHistory h (pauseScript a d) fuel 1 0 i plan)).getLast? with
  | none => rw [hxr] at hlast; cases hlast
  | some xr =>
    rw [hxr, Option.map_some, Option.some.injEq] at hlast
    rw [hreflast]
    simp only
    rw [hlast, hsame, sameState_refl, hrsLen, hlen, Bool.true_and, decide_eq_true_eq]
    omega

end Asts.WE

namespace Asts.WE
open Asts

theorem pauseInterval_eq {script : Script} {a b : Nat} (hp : pauseInterval script = some (a, b)) :
    script = [(a, .pause true), (b, .pause false)] ∧ a < b := by
  unfold pauseInterval at hp
  split at hp
  · rename_i a' b'
    split_ifs at hp with hlt
    simp only [Option.some.injEq, Prod.mk.injEq] at hp
    obtain ⟨rfl, rfl⟩ := hp
    exact ⟨rfl, hlt⟩
  · simp at hp

/-- `C11lossless` on the model for every script: trivially when the script is not one pause interval; otherwise
    (`pauseInterval script = some (a, b)`) for `2 ≤ a` — the case format — and a budget that reaches round `b` -/
theorem C11lossless_model_any (h : Hashing) (plan : List Fault) (i : SyncIn) (script : Script) (fuel : Nat)
    (hnp : i.paused = false) (hnod : ∀ n, ((settle (plainWorld h i plan n)).pods.map (·.name)).Nodup)
    (hpi : ∀ a b, pauseInterval script = some (a, b) → 2 ≤ a ∧ b ≤ fuel) :
    C11lossless i script (observeHist (runHistory h script fuel 1 0 i plan)) (runRounds h fuel 0 i plan) = true := by
  cases hp : pauseInterval script with
  | none => unfold C11lossless; rw [hp]
  | some ab =>
    obtain ⟨a, b⟩ := ab
    obtain ⟨hs, hlt⟩ := pauseInterval_eq hp
    obtain ⟨h2, hb⟩ := hpi a b hp
    have hscript : script = pauseScript (a - 2) (b - a - 1) := by
      rw [hs]; unfold pauseScript
      have e1 : a - 2 + 2 = a := by omega
      have e2 : a - 2 + (b - a - 1) + 3 = b := by omega
      rw [e1, e2]
    rw [hscript]
    exact C11lossless_model h plan i (a - 2) (b - a - 1) fuel hnp hnod (by omega)

end Asts.WE
