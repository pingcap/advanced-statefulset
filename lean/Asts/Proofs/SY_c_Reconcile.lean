import Asts.Proofs.SY_c_Base
import Asts.Proofs.Rc_NoPanic

/-! # C09 (i), reconcile phase: a pod-control call that fails ends the reconcile with an error

`updateStatefulSet` is given the failing pod-control calls as `Faults` (verb, ordinal). Every action it performs is checked
against them at the moment it is issued: the reconcile ends `.ok` only if no performed action was hit, and ends `.err`
exactly when its *last* action was hit (all earlier ones were not). A panic performs no action. -/
namespace Asts.SYc

/-- **the reconcile and its failing calls**: `.ok` means no performed action was hit; `.err` means exactly the last one was;
    a panic happens before any action. -/
theorem updateStatefulSet_hits (v : SetView) (cur upd : String) (pods : List Pod) (f : Faults) :
    match (updateStatefulSet v cur upd pods f).2 with
    | .ok => Clean f (updateStatefulSet v cur upd pods f).1.acts
    | .err => ∃ l a, (updateStatefulSet v cur upd pods f).1.acts = l ++ [a] ∧ Clean f l ∧ hitAct f a = true
    | .panic _ => (updateStatefulSet v cur upd pods f).1.acts = [] := by
  cases hr : v.replicas with
  | none => rw [L1c.updateStatefulSet_none hr]
  | some r =>
    rw [L1c.updateStatefulSet_some hr]
    by_cases hd : v.deleting = true
    · rw [if_pos hd]
      exact clean_nil f
    · rw [if_neg hd]
      rcases runLoops_good v cur upd f (L1c.prepOf v cur upd r pods) with ⟨ho, l, e, c⟩ | ⟨ho, l, a, e, c, ha⟩
      · rw [ho]; simp only at e ⊢; rw [e]; simpa using c
      · rw [ho]; simp only at e ⊢; exact ⟨l, a, by rw [e]; simp, c, ha⟩

/-- a pod-control call that was hit makes the reconcile end `.err` -/
theorem updateStatefulSet_hit_err (v : SetView) (cur upd : String) (pods : List Pod) (f : Faults) (a : Action)
    (ha : a ∈ (updateStatefulSet v cur upd pods f).1.acts) (hh : hitAct f a = true) :
    (updateStatefulSet v cur upd pods f).2 = .err := by
  have h := updateStatefulSet_hits v cur upd pods f
  cases ho : (updateStatefulSet v cur upd pods f).2 with
  | ok => rw [ho] at h; simp only at h; have := h a ha; rw [hh] at this; cases this
  | err => rfl
  | panic site => rw [ho] at h; simp only at h; rw [h] at ha; cases ha

/-- and conversely an `.err` outcome comes from a hit, on the very last action -/
theorem updateStatefulSet_err_hit (v : SetView) (cur upd : String) (pods : List Pod) (f : Faults)
    (he : (updateStatefulSet v cur upd pods f).2 = .err) :
    ∃ l a, (updateStatefulSet v cur upd pods f).1.acts = l ++ [a] ∧ Clean f l ∧ hitAct f a = true := by
  have h := updateStatefulSet_hits v cur upd pods f
  rw [he] at h; exact h

theorem updateStatefulSet_nofault (v : SetView) (cur upd : String) (pods : List Pod) (f : Faults)
    (hf : ∀ a ∈ (updateStatefulSet v cur upd pods f).1.acts, hitAct f a = false) :
    (updateStatefulSet v cur upd pods f).2 ≠ .err := by
  intro he
  obtain ⟨l, a, e, _, ha⟩ := updateStatefulSet_err_hit v cur upd pods f he
  have := hf a (by rw [e]; simp)
  rw [ha] at this; cases this

end Asts.SYc
