import Asts.Proofs.Sync_Revs
import Asts.Proofs.C02_Idem

/-! C02: removing all revisions with certain names from the store commutes with listing and sorting. -/
namespace Asts.C02p
open Asts

/-- `dedupByName` looks at `seen` only through `contains` on the names it meets -/
theorem dedup_congr (p : String → Bool) (rs : List Rev) (s1 s2 : List String)
    (hs : ∀ m, p m = true → s1.contains m = s2.contains m) :
    (dedupByName rs s1).filter (fun r => p r.name) = (dedupByName rs s2).filter (fun r => p r.name) := by
  induction rs generalizing s1 s2 with
  | nil => rfl
  | cons r rs ih =>
    unfold dedupByName
    by_cases hp : p r.name = true
    · rw [hs r.name hp]
      split_ifs
      · exact ih s1 s2 hs
      · rw [List.filter_cons, List.filter_cons, if_pos hp, if_pos hp]
        congr 1
        apply ih
        intro m hm
        simp only [List.contains_cons]
        rw [hs m hm]
    · have hstep : ∀ (a b : List String), (∀ m, p m = true → a.contains m = b.contains m) →
          ∀ m, p m = true → (r.name :: a).contains m = b.contains m := by
        intro a b hab m hm
        simp only [List.contains_cons]
        have : (m == r.name) = false := by
          simp only [beq_eq_false_iff_ne, ne_eq]
          intro h; rw [h] at hm; exact hp hm
        rw [this, Bool.false_or, hab m hm]
      split_ifs with h1 h2 h2
      · exact ih s1 s2 hs
      · rw [List.filter_cons, if_neg hp]
        exact ih s1 _ (fun m hm => (hstep s2 s1 (fun m hm => (hs m hm).symm) m hm).symm)
      · rw [List.filter_cons, if_neg hp]
        exact ih _ s2 (hstep s1 s2 hs)
      · rw [List.filter_cons, List.filter_cons, if_neg hp, if_neg hp]
        apply ih
        intro m hm
        simp only [List.contains_cons]
        rw [hs m hm]

theorem dedup_filter (p : String → Bool) (rs : List Rev) (seen : List String) :
    dedupByName (rs.filter (fun r => p r.name)) seen = (dedupByName rs seen).filter (fun r => p r.name) := by
  induction rs generalizing seen with
  | nil => rfl
  | cons r rs ih =>
    by_cases hp : p r.name = true
    · rw [List.filter_cons, if_pos hp]
      unfold dedupByName
      split_ifs
      · exact ih seen
      · rw [List.filter_cons, if_pos hp, ih]
    · rw [List.filter_cons, if_neg hp, ih]
      conv_rhs => unfold dedupByName
      split_ifs
      · rfl
      · rw [List.filter_cons, if_neg hp]
        apply dedup_congr
        intro m hm
        simp only [List.contains_cons]
        have : (m == r.name) = false := by
          simp only [beq_eq_false_iff_ne, ne_eq]
          intro h; rw [h] at hm; exact hp hm
        rw [this, Bool.false_or]

theorem listRevisions_filter (p : String → Bool) (store : List Rev) :
    listRevisions (store.filter (fun r => p r.name)) = (listRevisions store).filter (fun r => p r.name) := by
  unfold listRevisions
  have h1 : (store.filter (fun r => p r.name)).filter (·.selMatch) = (store.filter (·.selMatch)).filter (fun r => p r.name) := by
    rw [List.filter_filter, List.filter_filter]; congr 1; funext r; exact Bool.and_comm _ _
  have h2 : (store.filter (fun r => p r.name)).filter (·.marker) = (store.filter (·.marker)).filter (fun r => p r.name) := by
    rw [List.filter_filter, List.filter_filter]; congr 1; funext r; exact Bool.and_comm _ _
  rw [h1, h2, ← List.filter_append, dedup_filter, List.filter_filter, List.filter_filter]
  congr 1; funext r; exact Bool.and_comm _ _

theorem insertRev_cons_pos {r x : Rev} {xs : List Rev} (h : revLt r x = true) : insertRev r (x :: xs) = r :: x :: xs := by
  simp [insertRev, h]
theorem insertRev_cons_neg {r x : Rev} {xs : List Rev} (h : ¬ revLt r x = true) : insertRev r (x :: xs) = x :: insertRev r xs := by
  simp [insertRev, h]

theorem insertRev_filter (q : Rev → Bool) (r : Rev) (l : List Rev) (hl : SortedRevs l) (hq : q r = true) :
    insertRev r (l.filter q) = (insertRev r l).filter q := by
  induction l with
  | nil => simp [insertRev, hq]
  | cons x xs ih =>
    unfold SortedRevs at hl ih
    rw [List.pairwise_cons] at hl
    by_cases hlt : revLt r x = true
    · rw [insertRev_cons_pos hlt]
      have hR : (r :: x :: xs).filter q = r :: (x :: xs).filter q := by rw [List.filter_cons, if_pos hq]
      rw [hR]
      -- the head of the filtered list, if any, is above `r`
      cases hf : (x :: xs).filter q with
      | nil => simp [insertRev]
      | cons y ys =>
        have hy : y ∈ x :: xs := List.mem_of_mem_filter (by rw [hf]; exact List.mem_cons_self)
        have hry : revLt r y = true := by
          rcases List.mem_cons.1 hy with rfl | hy
          · exact hlt
          · exact revLt_trans_le hlt (hl.1 y hy)
        exact insertRev_cons_pos hry
    · rw [insertRev_cons_neg hlt]
      by_cases hqx : q x = true
      · rw [List.filter_cons, if_pos hqx, List.filter_cons, if_pos hqx, insertRev_cons_neg hlt, ih hl.2]
      · rw [List.filter_cons, if_neg hqx, List.filter_cons, if_neg hqx]
        exact ih hl.2

theorem insertRev_filter_drop (q : Rev → Bool) (r : Rev) (l : List Rev) (hq : q r = false) :
    (insertRev r l).filter q = l.filter q := by
  induction l with
  | nil => simp [insertRev, hq]
  | cons x xs ih =>
    unfold insertRev
    split_ifs
    · rw [List.filter_cons]; simp [hq]
    · rw [List.filter_cons, List.filter_cons, ih]

theorem sortRevs_filter (q : Rev → Bool) (l : List Rev) : sortRevs (l.filter q) = (sortRevs l).filter q := by
  induction l with
  | nil => rfl
  | cons a l ih =>
    by_cases hq : q a = true
    · rw [List.filter_cons, if_pos hq, sortRevs_cons, sortRevs_cons, ih, insertRev_filter q a _ (sortRevs_sorted l) hq]
    · rw [List.filter_cons, if_neg hq, sortRevs_cons, ih, insertRev_filter_drop q a _ (by simpa using hq)]

theorem listedRevs_filter (p : String → Bool) (i : SyncIn) :
    listedRevs { i with store := i.store.filter (fun r => p r.name) } = (listedRevs i).filter (fun r => p r.name) := by
  show sortRevs (listRevisions (i.store.filter (fun r => p r.name))) = (sortRevs (listRevisions i.store)).filter _
  rw [listRevisions_filter, sortRevs_filter]

end Asts.C02p
