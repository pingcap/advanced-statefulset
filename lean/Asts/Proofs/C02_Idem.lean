import Asts.Proofs.C02_Stable
import Mathlib.Data.String.Basic

/-! C02: `settle` is idempotent on worlds whose pod names are pairwise distinct (as object names in one namespace are). -/
namespace Asts.C02p
open Asts

def reindexFrom (n : Nat) (l : List CPod) : List CPod := (l.zipIdx n).map fun (c, k) => setId c k

theorem reindex_eq (l : List CPod) : reindex l = reindexFrom 0 l := rfl

theorem reindexFrom_cons (n : Nat) (a : CPod) (l : List CPod) : reindexFrom n (a :: l) = setId a n :: reindexFrom (n + 1) l := by
  unfold reindexFrom
  rw [List.zipIdx_cons, List.map_cons]

theorem reindexFrom_idem (n : Nat) (l : List CPod) : reindexFrom n (reindexFrom n l) = reindexFrom n l := by
  induction l generalizing n with
  | nil => rfl
  | cons a l ih => rw [reindexFrom_cons, reindexFrom_cons, ih]; rfl

theorem reindexFrom_map (g : CPod → CPod) (hg : ∀ c k, g (setId c k) = setId (g c) k) (n : Nat) (l : List CPod) :
    (reindexFrom n l).map g = reindexFrom n (l.map g) := by
  induction l generalizing n with
  | nil => rfl
  | cons a l ih => rw [reindexFrom_cons, List.map_cons, List.map_cons, reindexFrom_cons, ih, hg]

theorem settleOne_idem (c : CPod) : settleOne (settleOne c) = settleOne c := by
  unfold settleOne
  by_cases hfs : (c.pod.failed || c.pod.succeeded) = true
  · simp only [hfs, if_true]
  · simp only [hfs, Bool.false_eq_true, if_false]
    simp [Pod.failed, Pod.succeeded]

theorem settleOne_setId (c : CPod) (k : Nat) : settleOne (setId c k) = setId (settleOne c) k := by
  have h1 : (setId c k).pod.failed = c.pod.failed := rfl
  have h2 : (setId c k).pod.succeeded = c.pod.succeeded := rfl
  unfold settleOne
  rw [h1, h2]
  split_ifs <;> rfl

theorem settleOne_name (c : CPod) : (settleOne c).name = c.name := by unfold settleOne; split_ifs <;> rfl
theorem settleOne_term (c : CPod) : (settleOne c).pod.terminating = c.pod.terminating := by unfold settleOne; split_ifs <;> rfl

theorem settle_names_perm (i : SyncIn) :
    ((settle i).pods.map (·.name)).Perm ((i.pods.filter (fun c => !c.pod.terminating)).map (·.name)) := by
  rw [settle_pods i, reindex_names]
  refine ((sortPods_perm _).map _).trans ?_
  rw [map_settleOne (f := (·.name)) settleOne_name]

theorem settle_names_nodup (i : SyncIn) (hn : (i.pods.map (·.name)).Nodup) : ((settle i).pods.map (·.name)).Nodup :=
  (settle_names_perm i).nodup_iff.2 (hn.sublist (List.Sublist.map _ List.filter_sublist))

/-- the settled pod list is a fixed point of the re-sort / re-index `applySync` performs -/
theorem settled_pods_fixed (i : SyncIn) (hn : ((settle i).pods.map (·.name)).Nodup) :
    reindex (sortPods (settle i).pods) = (settle i).pods := by
  rw [settle_pods i] at hn ⊢
  rw [reindex_names] at hn
  have hS : ((reindex (sortPods ((i.pods.filter (fun c => !c.pod.terminating)).map settleOne))).map (·.name)).Pairwise
      (· < ·) := by
    rw [reindex_names]
    exact sortPods_names_sorted (((sortPods_perm _).map _).nodup_iff.1 hn)
  rw [sortPods_of_sorted hS, reindex_eq, reindex_eq, reindexFrom_idem]

/-- **`settle` is idempotent** when no two pods it keeps share a name: a round reads a world only through `settle`, so
    distinct names are asked of the settled form only -/
theorem settle_idem (i : SyncIn) (hn : ((settle i).pods.map (·.name)).Nodup) : settle (settle i) = settle i := by
  -- every pod of the settled list is fixed by the filter and by `settleOne`
  have hfix : ∀ c ∈ (settle i).pods, c.pod.terminating = false ∧ settleOne c = c := by
    intro c hc
    obtain ⟨c0, -, ht, hk⟩ := settle_src i hc
    obtain ⟨k, rfl⟩ := eq_of_key hk.symm
    refine ⟨(settleOne_term c0).trans ht, ?_⟩
    show settleOne (setId (settleOne c0) k) = setId (settleOne c0) k
    rw [settleOne_setId, settleOne_idem]
  have hp : (settle (settle i)).pods = (settle i).pods := by
    rw [settle_pods (settle i), List.filter_eq_self.2 (fun c hc => by simp [(hfix c hc).1]),
      (List.map_congr_left (fun c hc => (hfix c hc).2)).trans (List.map_id _), settled_pods_fixed i hn]
  have he : ∀ j : SyncIn, settle j = { j with pods := (settle j).pods, fresh := (settle j).fresh } := fun _ => rfl
  rw [he (settle i), hp]
  rfl

end Asts.C02p
