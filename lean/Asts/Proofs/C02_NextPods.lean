import Asts.Proofs.C02_Next

/-! C02: bookkeeping on lists of pod-control calls: where they create, and that `news` follows the creates. -/
namespace Asts.C02p
open Asts Asts.L1c

theorem wasOrphan_false {setName : String} {P : List CPod} (hc : PodsCtx setName P) (o : Int) : wasOrphan setName P o = false := by
  unfold wasOrphan
  cases hf : P.find? (·.name == canonicalName setName o) with
  | none => rfl
  | some c =>
    have := List.mem_of_find?_eq_some hf
    simp [(hc.own c this).1]

/-- the ordinals at which a list of calls creates -/
def createsOf : List Action → List Int
  | [] => []
  | .create o _ :: rest => o :: createsOf rest
  | .delete _ _ _ :: rest => createsOf rest
  | .update _ :: rest => createsOf rest

theorem createsOf_append (a b : List Action) : createsOf (a ++ b) = createsOf a ++ createsOf b := by
  induction a with
  | nil => rfl
  | cons x xs ih => cases x <;> simp [createsOf, ih]

theorem news_ords (setName : String) (orig : List CPod) (hno : ∀ o, wasOrphan setName orig o = false)
    (acts : List Action) (hfresh : ∀ id, freshId ≤ id → ¬ DelHits acts id) :
    (news setName orig acts).map (·.pod.ord) = createsOf acts := by
  induction acts with
  | nil => rfl
  | cons a rest ih =>
    have hrest : ∀ id, freshId ≤ id → ¬ DelHits rest id := by
      intro id hid hd
      obtain ⟨o, w, hm⟩ := hd
      exact hfresh id hid ⟨o, w, List.mem_cons_of_mem _ hm⟩
    cases a with
    | create o rev =>
      unfold news createsOf
      rw [eff_mkPod setName orig hno rest o rev (hrest _ (by omega))]
      simp only [Option.toList_some, List.singleton_append, List.map_cons, ih hrest]
      rfl
    | delete o id w => unfold news createsOf; exact ih hrest
    | update o => unfold news createsOf; exact ih hrest

theorem createsOf_repActs1 (v : SetView) (cur upd : String) (ip : Int × Pod) :
    (createsOf (repActs1 v cur upd ip)).Sublist [ip.1] := by
  unfold repActs1
  split_ifs
  exacts [List.Sublist.refl _, List.Sublist.refl _, List.nil_sublist _, List.nil_sublist _]

theorem createsOf_reps_sublist (v : SetView) (cur upd : String) (reps : List (Int × Pod)) :
    (createsOf (reps.flatMap (repActs1 v cur upd))).Sublist (reps.map (·.1)) := by
  induction reps with
  | nil => exact List.Sublist.refl _
  | cons ip rest ih =>
    rw [List.flatMap_cons, createsOf_append, List.map_cons]
    exact (createsOf_repActs1 v cur upd ip).append ih

theorem createsOf_condActs (cs : List Pod) : createsOf (condActs cs) = [] := by
  unfold condActs
  induction cs.filter (fun c => !c.terminating) with
  | nil => rfl
  | cons c rest ih => simp [createsOf, ih]

theorem createsOf_walkActs (t : Option (Int × Pod)) : createsOf (walkActs t) = [] := by
  cases t with
  | none => rfl
  | some tq => rfl

theorem createsOf_actsOf_nodup (v : SetView) (cur upd : String) (b : Int) (E : List Int) (P : List CPod) :
    (createsOf (actsOf v cur upd b E P)).Nodup := by
  unfold actsOf
  rw [createsOf_append, createsOf_append, createsOf_condActs, createsOf_walkActs, List.append_nil, List.append_nil]
  apply (createsOf_reps_sublist v cur upd _).nodup
  have : (repsOf v cur upd b E (P.map (·.pod))).map (·.1) = idxOf b E := by
    unfold repsOf; rw [List.map_map]; exact List.map_id _
  rw [this]
  exact idxOf_nodup b E

theorem mem_createsOf {acts : List Action} {o : Int} : o ∈ createsOf acts ↔ ∃ rev, Action.create o rev ∈ acts := by
  induction acts with
  | nil => simp [createsOf]
  | cons a rest ih =>
    cases a with
    | create o' rev' =>
      simp only [createsOf, List.mem_cons, ih, Action.create.injEq]
      constructor
      · rintro (rfl | ⟨rev, h⟩)
        · exact ⟨rev', Or.inl ⟨rfl, rfl⟩⟩
        · exact ⟨rev, Or.inr h⟩
      · rintro ⟨rev, (⟨rfl, rfl⟩ | h)⟩
        · exact Or.inl rfl
        · exact Or.inr ⟨rev, h⟩
    | delete o' id w => simp [createsOf, ih]
    | update o' => simp [createsOf, ih]

theorem filterMap_map_sublist {α β : Type} (f : α → Option α) (g : α → β) (hfg : ∀ a a', f a = some a' → g a' = g a) (l : List α) :
    ((l.filterMap f).map g).Sublist (l.map g) := by
  induction l with
  | nil => exact List.Sublist.refl _
  | cons a l ih =>
    rw [List.filterMap_cons]
    cases hfa : f a with
    | none => simp only [List.map_cons]; exact ih.cons _
    | some a' =>
      simp only [List.map_cons]
      rw [hfg a a' hfa]
      exact ih.cons₂ _

theorem settleOne_ord (c : CPod) : (settleOne c).pod.ord = c.pod.ord := by unfold settleOne; split_ifs <;> rfl

end Asts.C02p
