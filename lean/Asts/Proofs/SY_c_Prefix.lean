import Asts.Proofs.Rc_Frame
import Asts.Spec.Sync
import Mathlib.Tactic

/-! # C09 (iii): a crash is a prefix, and prefixes are safe

A process that dies at call `k` leaves behind exactly the first `k` calls of the run. The safety monitors that read a
list of observed actions (`Spec/Reconcile.lean`) or the API call log (`Spec/Sync.lean`) are *prefix-closed*:
`P (a ++ b) → P a`. None of the statements depends on the model: they are about arbitrary lists. -/
namespace Asts.SYc

/-! ### reconcile level: lists of observed pod-control actions -/

/-- a monitor that judges every element of a reading `g` of the list on its own is prefix-closed, as soon as the reading
    distributes over `++` (a `map`, a `filterMap`) -/
theorem all_prefix {α β} {g : List α → List β} (hg : ∀ a b, g (a ++ b) = g a ++ g b) (p : β → Bool) (a b : List α)
    (h : (g (a ++ b)).all p = true) : (g a).all p = true := by
  rw [hg, List.all_append, Bool.and_eq_true] at h
  exact h.1

/-- C01 (d) is prefix-closed. -/
theorem C01creates_prefix (v : SetView) (a b : List OAct) (h : C01creates v (a ++ b) = true) :
    C01creates v a = true :=
  all_prefix L1c.createOrds_append _ a b h

/-- `allWithContext` on a prefix: the per-action condition may look at the *next* action, which a cut removes; it is enough
    that the condition survives replacing the next action by "none" (in `q`). -/
theorem allWithContext_prefix {p q : List OAct → OAct → Option OAct → Bool}
    (hsame : ∀ before x nx, p before x (some nx) = true → q before x (some nx) = true)
    (hcut : ∀ before x nx, p before x nx = true → q before x none = true) :
    ∀ (a b before : List OAct), allWithContext p before (a ++ b) = true → allWithContext q before a = true
  | [], _, _, _ => by simp [allWithContext]
  | [x], b, before, h => by
    simp only [List.singleton_append, allWithContext, Bool.and_eq_true] at h
    simp only [allWithContext, List.head?_nil, Bool.and_true]
    exact hcut _ _ _ h.1
  | x :: y :: rest, b, before, h => by
    simp only [List.cons_append, allWithContext, List.head?_cons, Bool.and_eq_true] at h
    simp only [allWithContext, List.head?_cons, Bool.and_eq_true]
    refine ⟨hsame _ _ _ h.1, ?_⟩
    have := allWithContext_prefix hsame hcut (y :: rest) b (before ++ [x])
    simp only [List.cons_append, allWithContext, Bool.and_eq_true] at this
    exact this h.2

/-- C04 is prefix-closed: its per-action condition reads only the actions before. -/
theorem C04_prefix (v : SetView) (pods : List Pod) (a b : List OAct) (h : C04 v pods (a ++ b) = true) :
    C04 v pods a = true := by
  unfold C04 at h ⊢
  refine allWithContext_prefix ?_ ?_ a b [] h
  · intro before x nx hx; exact hx
  · intro before x nx hx
    cases x <;> exact hx

/-- C03 is prefix-closed in the sense a crash needs: the partial run is judged as one that did *not* end well
    (`outOk := false`), so that the last delete of a Failed/Succeeded pod may stand without its replacing create. -/
theorem C03_prefix (v : SetView) (upd : String) (pods : List Pod) (a b : List OAct) (outOk : Bool)
    (h : C03 v upd pods (a ++ b) outOk = true) : C03 v upd pods a false = true := by
  unfold C03 at h ⊢
  refine allWithContext_prefix ?_ ?_ a b [] h
  · intro before x nx hx
    cases x with
    | delete o id =>
      cases id with
      | none => exact hx
      | some id => cases nx <;> exact hx
    | _ => rfl
  · intro before x nx hx
    cases x with
    | delete o id =>
      cases id with
      | none => exact hx
      | some id =>
        simp only at hx ⊢
        cases hp : podById pods id with
        | none => rw [hp] at hx; simp at hx
        | some p =>
          rw [hp] at hx
          simp only [Bool.and_eq_true, Bool.or_eq_true] at hx ⊢
          refine ⟨hx.1, ?_⟩
          rcases hx.2 with (h1 | h1) | h1
          · exact Or.inl (Or.inl h1)
          · refine Or.inl (Or.inr ⟨h1.1, by simp⟩)
          · exact Or.inr h1
    | _ => rfl

/-- a run that ended well is also fine when judged as a partial run -/
theorem C03_weaken (v : SetView) (upd : String) (pods : List Pod) (a : List OAct) (outOk : Bool)
    (h : C03 v upd pods a outOk = true) : C03 v upd pods a false = true := by
  simpa using C03_prefix v upd pods a [] outOk (by simpa using h)

/-- C05 (one ordinal per reconcile, ordering conditions per action) is prefix-closed. -/
theorem C05_prefix (v : SetView) (pods : List Pod) (a b : List OAct) (h : C05 v pods (a ++ b) = true) :
    C05 v pods a = true := by
  unfold C05 at h ⊢
  simp only [List.filter_append, List.map_append, List.eraseDups_append, List.length_append, List.all_append,
    Bool.and_eq_true, decide_eq_true_eq] at h ⊢
  exact ⟨by omega, h.2.1⟩

/-- C07 (update deletes and revisions of created pods) is prefix-closed. -/
theorem C07_prefix (v : SetView) (cur upd : String) (pods : List Pod) (a b : List OAct)
    (h : C07 v cur upd pods (a ++ b) = true) : C07 v cur upd pods a = true := by
  unfold C07 at h ⊢
  simp only [L1c.updateDeletes_append, Bool.and_eq_true, decide_eq_true_eq, List.length_append, List.all_append] at h ⊢
  obtain ⟨⟨⟨h1, h2⟩, h3⟩, h4⟩ := h
  refine ⟨⟨⟨?_, by omega⟩, h3.1⟩, ?_⟩
  · split_ifs at h1 ⊢ with hs
    · simp only [List.isEmpty_iff, List.append_eq_nil_iff] at h1 ⊢
      exact h1.1
    · rfl
  · cases hru : v.ru with
    | none => rfl
    | some p =>
      cases p with
      | none => rfl
      | some p =>
        rw [hru] at h4
        simp only [Bool.and_eq_true] at h4 ⊢
        exact h4.1

/-! ### sync level: the API call log -/

theorem annotate_go_append (plan : List Fault) :
    ∀ (a b seen : List String) (idx : Nat),
      annotate.go plan seen idx (a ++ b) =
        annotate.go plan seen idx a ++ annotate.go plan (a.reverse ++ seen) (idx + a.length) b
  | [], b, seen, idx => by simp [annotate.go]
  | e :: a, b, seen, idx => by
    simp only [List.cons_append, annotate.go, List.reverse_cons, List.append_assoc, List.length_cons]
    rw [annotate_go_append plan a b (e :: seen) (idx + 1)]
    congr 3
    omega

theorem annotate_go_idx (plan : List Fault) :
    ∀ (l seen : List String) (idx : Nat) x, x ∈ annotate.go plan seen idx l → idx ≤ x.2.1 ∧ x.2.1 < idx + l.length
  | [], _, _, _, h => by simp [annotate.go] at h
  | e :: l, seen, idx, x, h => by
    simp only [annotate.go, List.mem_cons] at h
    rcases h with h | h
    · subst h; simp
    · have := annotate_go_idx plan l (e :: seen) (idx + 1) x h
      simp only [List.length_cons]; omega

/-- the annotation of a prefix is a prefix of the annotation; what follows carries larger indices -/
theorem annotate_append (plan : List Fault) (a b : List String) :
    annotate plan (a ++ b) = annotate plan a ++ annotate.go plan a.reverse a.length b := by
  unfold annotate
  rw [annotate_go_append]; simp

theorem annotate_idx_lt (plan : List Fault) (a : List String) {x} (h : x ∈ annotate plan a) : x.2.1 < a.length := by
  have := annotate_go_idx plan a [] 0 x h; omega

theorem annotate_tail_idx_ge (plan : List Fault) (a b : List String) {x}
    (h : x ∈ annotate.go plan a.reverse a.length b) : a.length ≤ x.2.1 :=
  (annotate_go_idx plan b _ _ x h).1

/-- a search among the entries before position `idx` reads the same in the annotation of a prefix that reaches `idx` -/
theorem any_earlier_prefix (plan : List Fault) (a b : List String) (idx : Nat) (hidx : idx ≤ a.length)
    (q : Entry × Nat × Option ErrKind → Bool) (hq : ∀ x, q x = true → x.2.1 < idx) :
    (annotate plan (a ++ b)).any q = (annotate plan a).any q := by
  rw [annotate_append, List.any_append]
  have : (annotate.go plan a.reverse a.length b).any q = false := by
    rw [List.any_eq_false]
    intro x hx hqx
    have := annotate_tail_idx_ge plan a b hx
    have := hq x hqx
    omega
  rw [this, Bool.or_false]

/-- C10 (pods) is prefix-closed: every condition on an entry reads the snapshot and *earlier* entries only. -/
theorem C10pods_prefix (i : SyncIn) (plan : List Fault) (o : SyncObs) (a b : List String)
    (h : C10pods i plan { o with log := a ++ b } = true) : C10pods i plan { o with log := a } = true := by
  unfold C10pods at h ⊢
  simp only [List.all_eq_true] at h ⊢
  intro x hx
  have hlt := annotate_idx_lt plan a hx
  have hx' := h x (by rw [annotate_append]; exact List.mem_append_left _ hx)
  obtain ⟨e, idx, k⟩ := x
  simp only at hlt hx' ⊢
  rw [any_earlier_prefix plan a b idx hlt.le
        (fun (g, j, k) => g.verb == "get" && g.res == "set" && j < idx && k.isNone)
        (fun ⟨g, j, k⟩ hq => by simp only [Bool.and_eq_true, decide_eq_true_eq] at hq; exact hq.1.2),
      any_earlier_prefix plan a b idx hlt.le
        (fun (g, j, k) => g.verb == "patch" && g.res == "pod" && g.name == e.name && j < idx && k.isNone)
        (fun ⟨g, j, k⟩ hq => by simp only [Bool.and_eq_true, decide_eq_true_eq] at hq; exact hq.1.2)] at hx'
  exact hx'

theorem map_parseEntry_append (a b : List String) : (a ++ b).map parseEntry = a.map parseEntry ++ b.map parseEntry :=
  List.map_append

/-- C10 (revisions) is prefix-closed. -/
theorem C10revs_prefix (i : SyncIn) (o : SyncObs) (a b : List String)
    (h : C10revs i { o with log := a ++ b } = true) : C10revs i { o with log := a } = true :=
  all_prefix map_parseEntry_append _ a b h

/-- C10 (the set is written only through its status) is prefix-closed. -/
theorem C10set_prefix (o : SyncObs) (a b : List String)
    (h : C10set { o with log := a ++ b } = true) : C10set { o with log := a } = true :=
  all_prefix map_parseEntry_append _ a b h

/-- the part of C11 (deleting) that reads the call log -/
def C11deletingLog (log : List String) : Bool :=
  (log.map parseEntry).all (fun e => !isPodWrite e && e.verb != "patch")

/-- the part of C11 (deleting) that reads the revisions left in the API -/
def C11deletingStore (i : SyncIn) (revs : List RevD) : Bool :=
  i.store.all (fun r => (revs.find? (·.name == r.name)).all (fun d => d.owner == r.owner && d.sel == r.selMatch))

theorem C11deleting_split (i : SyncIn) (o : SyncObs) :
    C11deleting i o = (!i.view.deleting || (C11deletingLog o.log && C11deletingStore i o.revs)) := rfl

/-- the log part of C11 (deleting) is prefix-closed -/
theorem C11deletingLog_prefix (a b : List String) (h : C11deletingLog (a ++ b) = true) : C11deletingLog a = true :=
  all_prefix map_parseEntry_append _ a b h

end Asts.SYc
