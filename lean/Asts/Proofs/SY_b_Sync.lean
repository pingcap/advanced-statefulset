import Asts.Proofs.SY_b_Log
import Asts.Proofs.Sync_Stages
import Asts.Proofs.L1_c_Track

/-! `syncF` cut into stages (`syncHead`: adoption, claim, listing, resolution of the revisions; then `SYa.finishF`: reconcile,
    status write, truncation), and what each stage does to the revision store. -/
namespace Asts.SYb
open Asts

/-! ## what no phase of a sync changes on a stored revision -/

def core (r : Rev) : String × Int × Int × String × Option Int × Bool :=
  (r.name, r.number, r.ctime, r.data, r.hashNum, r.marker)

/-- `y` is `x` after adoption / label sync: same core, owner unchanged or this set, selector match not lost -/
def AdoptRel (x y : Rev) : Prop :=
  core y = core x ∧ (y.owner = x.owner ∨ y.owner = .self) ∧ (x.selMatch = true → y.selMatch = true)

theorem AdoptRel.refl (x : Rev) : AdoptRel x x := ⟨rfl, Or.inl rfl, id⟩

theorem AdoptRel.trans {x y z : Rev} (h1 : AdoptRel x y) (h2 : AdoptRel y z) : AdoptRel x z := by
  refine ⟨h2.1.trans h1.1, ?_, fun h => h2.2.2 (h1.2.2 h)⟩
  rcases h2.2.1 with h | h
  · rcases h1.2.1 with g | g
    · exact Or.inl (h.trans g)
    · exact Or.inr (h.trans g)
  · exact Or.inr h

/-- the store `t` is the store `s` after adoption / label sync, position by position -/
def AdoptedFrom (s t : List Rev) : Prop := ∃ f : Rev → Rev, (∀ x, AdoptRel x (f x)) ∧ t = s.map f

theorem AdoptedFrom.refl (s : List Rev) : AdoptedFrom s s := ⟨id, AdoptRel.refl, by simp⟩

theorem AdoptedFrom.step {s t : List Rev} (h : AdoptedFrom s t) {g : Rev → Rev} (hg : ∀ x, AdoptRel x (g x)) :
    AdoptedFrom s (t.map g) := by
  obtain ⟨f, hf, rfl⟩ := h
  exact ⟨g ∘ f, fun x => (hf x).trans (hg (f x)), by simp⟩

theorem AdoptedFrom.map_core {s t : List Rev} (h : AdoptedFrom s t) : t.map core = s.map core := by
  obtain ⟨f, hf, rfl⟩ := h
  rw [List.map_map]
  exact List.map_congr_left (fun x _ => (hf x).1)

theorem AdoptedFrom.names {s t : List Rev} (h : AdoptedFrom s t) : t.map (·.name) = s.map (·.name) := by
  have := congrArg (List.map Prod.fst) h.map_core
  simpa [List.map_map, Function.comp_def, core] using this

theorem AdoptedFrom.mem {s t : List Rev} (h : AdoptedFrom s t) {y : Rev} (hy : y ∈ t) : ∃ x ∈ s, AdoptRel x y := by
  obtain ⟨f, hf, rfl⟩ := h
  obtain ⟨x, hx, rfl⟩ := List.mem_map.mp hy
  exact ⟨x, hx, hf x⟩

theorem AdoptedFrom.mem' {s t : List Rev} (h : AdoptedFrom s t) {x : Rev} (hx : x ∈ s) : ∃ y ∈ t, AdoptRel x y := by
  obtain ⟨f, hf, rfl⟩ := h
  exact ⟨f x, List.mem_map_of_mem hx, hf x⟩

theorem core_name {x y : Rev} (h : core y = core x) : y.name = x.name := congrArg Prod.fst h
theorem core_data {x y : Rev} (h : core y = core x) : y.data = x.data := congrArg (fun p => p.2.2.2.1) h
theorem core_number {x y : Rev} (h : core y = core x) : y.number = x.number := congrArg (fun p => p.2.1) h

theorem setSel_rel (name : String) (x : Rev) : AdoptRel x (SYa.setSel name x) := by
  unfold SYa.setSel; split
  · exact ⟨rfl, Or.inl rfl, fun _ => rfl⟩
  · exact AdoptRel.refl x

theorem setOwn_rel (name : String) (x : Rev) : AdoptRel x (SYa.setOwn name x) := by
  unfold SYa.setOwn; split
  · exact ⟨rfl, Or.inr rfl, id⟩
  · exact AdoptRel.refl x

theorem labelStep_adopted (plan : List Fault) (s0 : List Rev) (b : RevSt) (r : Rev) (hb : AdoptedFrom s0 b.store) :
    AdoptedFrom s0 (SYa.labelStep plan b r).1.store := by
  unfold SYa.labelStep
  dsimp only
  split
  · split
    · exact hb
    · exact hb.step (setSel_rel r.name)
  · exact hb

theorem patchStep_adopted (plan : List Fault) (s0 : List Rev) (b : RevSt) (r : Rev) (hb : AdoptedFrom s0 b.store) :
    AdoptedFrom s0 (SYa.patchStep plan b r).1.store := by
  unfold SYa.patchStep
  dsimp only
  split
  · exact hb
  · split
    · exact hb
    · exact hb.step (setOwn_rel r.name)

theorem adopt_adopted (plan : List Fault) (del : Bool) (fresh : Fresh) (s : RevSt) :
    AdoptedFrom s.store (adoptOrphanRevisionsF plan del fresh s).1.store :=
  SYa.adoptF_inv (fun b => AdoptedFrom s.store b.store) plan del fresh s (AdoptedFrom.refl _)
    (by rw [listRevsF_store]; exact AdoptedFrom.refl _) (fun b r hb => labelStep_adopted plan _ b r hb) (fun _ hb => hb)
    (fun _ _ _ _ b r hb => patchStep_adopted plan _ b r hb)

/-- entries logged before the revisions are resolved -/
def HeadShape (e : String) : Prop := AdoptShape e ∨ ClaimShape e

theorem HeadShape.not_del {e : String} (h : HeadShape e) : pre "delete:rev:" e = false :=
  h.elim (fun h => h.keyed.not_pre pre_delete_rev (by simp)) (fun h => h.keyed.not_pre pre_delete_rev (by simp))
theorem HeadShape.not_create {e : String} (h : HeadShape e) : pre "create:rev:" e = false :=
  h.elim (fun h => h.keyed.not_pre pre_create_rev (by simp)) (fun h => h.keyed.not_pre pre_create_rev (by simp))

/-- the stages up to and including the resolution of the revisions: an early exit, or the data the tail needs -/
def syncHead (h : Hashing) (i : SyncIn) (plan : List Fault) : SyncOut ⊕ (List CPod × List Rev × Rev × Rev × Int × RevSt) :=
  match adoptOrphanRevisionsF plan i.view.deleting i.fresh { store := i.store } with
  | (s, .ok) =>
    let c := claimPodsF plan i.view.deleting i.fresh i.pods s.tr
    let s := { s with tr := c.tr }
    if c.failed then .inl { log := s.tr.log, store := s.store, outcome := .err } else
    match listRevsF plan s with
    | (s, none) => .inl { log := s.tr.log, store := s.store, claimed := c.claimed, outcome := .err }
    | (s, some listed) =>
    let revs := sortRevs listed
    match getRevisionsF h plan i.template i.stored.currentRev (i.collisionCount.getD 0) revs s with
    | (s, none) => .inl { log := s.tr.log, store := s.store, claimed := c.claimed, outcome := .err }
    | (s, some (cur, upd, cc)) => .inr (c.claimed, revs, cur, upd, cc, s)
  | (s, out) => .inl { log := s.tr.log, store := s.store, outcome := out }

theorem syncF_eq (h : Hashing) (i : SyncIn) (plan : List Fault) :
    syncF h i plan =
      if i.paused || !i.selectorOk then { store := i.store } else
      match syncHead h i plan with
      | .inl o => o
      | .inr (claimed, revs, cur, upd, cc, s) => SYa.finishF i plan claimed revs cur upd cc s := by
  unfold syncF syncHead
  by_cases hp : (i.paused || !i.selectorOk) = true
  · rw [if_pos hp, if_pos hp]
  · rw [if_neg hp, if_neg hp]
    generalize adoptOrphanRevisionsF plan i.view.deleting i.fresh { store := i.store } = a
    obtain ⟨s, out⟩ := a
    cases out with
    | err => rfl
    | panic m => rfl
    | ok =>
      simp only
      by_cases hf : (claimPodsF plan i.view.deleting i.fresh i.pods s.tr).failed = true
      · rw [if_pos hf, if_pos hf]
      · rw [if_neg hf, if_neg hf]
        generalize listRevsF plan { store := s.store, tr := (claimPodsF plan i.view.deleting i.fresh i.pods s.tr).tr } = l
        obtain ⟨s1, o⟩ := l
        cases o with
        | none => rfl
        | some listed =>
          simp only
          generalize getRevisionsF h plan i.template i.stored.currentRev (i.collisionCount.getD 0) (sortRevs listed) s1 = g
          obtain ⟨s2, o2⟩ := g
          cases o2 with
          | none => rfl
          | some t => obtain ⟨cur, upd, cc⟩ := t; rfl

/-- an early exit is not a success, writes no status and records no action; it stops with the store as adoption left it
    and only head-stage entries in the log, or right after a failed resolution of the revisions -/
theorem syncHead_inl {h : Hashing} {i : SyncIn} {plan : List Fault} {o : SyncOut} (hh : syncHead h i plan = .inl o) :
    o.outcome ≠ .ok ∧ o.status = none ∧ o.acts = [] ∧
    ((o.store = (adoptOrphanRevisionsF plan i.view.deleting i.fresh { store := i.store }).1.store ∧
        Ext HeadShape [] o.log) ∨
      ∃ sL : RevSt, sL.store = (adoptOrphanRevisionsF plan i.view.deleting i.fresh { store := i.store }).1.store ∧
        Ext HeadShape [] sL.tr.log ∧
        o.store = (pickF h plan i.template (i.collisionCount.getD 0) (sortRevs (listRevisions sL.store)) sL).1.store ∧
        o.log = (pickF h plan i.template (i.collisionCount.getD 0) (sortRevs (listRevisions sL.store)) sL).1.tr.log) := by
  unfold syncHead at hh
  have hAl : Ext HeadShape [] (adoptOrphanRevisionsF plan i.view.deleting i.fresh { store := i.store }).1.tr.log :=
    (adopt_log plan i.view.deleting i.fresh { store := i.store }).mono (fun e he => Or.inl he)
  generalize adoptOrphanRevisionsF plan i.view.deleting i.fresh { store := i.store } = a at hh hAl ⊢
  obtain ⟨s, out⟩ := a
  simp only at hAl
  cases out with
  | err => simp only [Sum.inl.injEq] at hh; subst hh; exact ⟨by simp, rfl, rfl, Or.inl ⟨rfl, hAl⟩⟩
  | panic m => simp only [Sum.inl.injEq] at hh; subst hh; exact ⟨by simp, rfl, rfl, Or.inl ⟨rfl, hAl⟩⟩
  | ok =>
    simp only at hh
    have hCl : Ext HeadShape [] (claimPodsF plan i.view.deleting i.fresh i.pods s.tr).tr.log :=
      hAl.trans ((claim_log plan i.view.deleting i.fresh i.pods s.tr).mono (fun e he => Or.inr he))
    by_cases hf : (claimPodsF plan i.view.deleting i.fresh i.pods s.tr).failed = true
    · rw [if_pos hf] at hh
      simp only [Sum.inl.injEq] at hh; subst hh; exact ⟨by simp, rfl, rfl, Or.inl ⟨rfl, hCl⟩⟩
    · rw [if_neg hf] at hh
      have hst := listRevsF_store plan { store := s.store, tr := (claimPodsF plan i.view.deleting i.fresh i.pods s.tr).tr }
      have hsome := @listRevsF_some plan { store := s.store, tr := (claimPodsF plan i.view.deleting i.fresh i.pods s.tr).tr }
      have hLl : Ext HeadShape []
          (listRevsF plan { store := s.store, tr := (claimPodsF plan i.view.deleting i.fresh i.pods s.tr).tr }).1.tr.log :=
        hCl.trans ((listRevsF_log plan _).mono (fun e he => Or.inl (Or.inl he)))
      generalize listRevsF plan { store := s.store, tr := (claimPodsF plan i.view.deleting i.fresh i.pods s.tr).tr } = l at hh hst hsome hLl ⊢
      obtain ⟨s1, o1⟩ := l
      simp only at hst hLl
      cases o1 with
      | none =>
        simp only [Sum.inl.injEq] at hh; subst hh
        exact ⟨by simp, rfl, rfl, Or.inl ⟨hst, hLl⟩⟩
      | some listed =>
        have hl : listed = listRevisions s.store := hsome rfl
        subst hl
        simp only at hh
        rw [getRevisionsF_eq] at hh
        cases hp : (pickF h plan i.template (i.collisionCount.getD 0) (sortRevs (listRevisions s.store)) s1).2 with
        | none =>
          rw [hp] at hh
          simp only [Option.map_none, Sum.inl.injEq] at hh; subst hh
          exact ⟨by simp, rfl, rfl, Or.inr ⟨s1, hst, hLl, by rw [hst], by rw [hst]⟩⟩
        | some t =>
          rw [hp] at hh
          simp at hh

/-- reaching the tail: the chain of stages that produced its arguments -/
theorem syncHead_inr {h : Hashing} {i : SyncIn} {plan : List Fault} {claimed : List CPod} {revs : List Rev}
    {cur upd : Rev} {cc : Int} {s : RevSt} (hh : syncHead h i plan = .inr (claimed, revs, cur, upd, cc, s)) :
    ∃ A sL : RevSt,
      adoptOrphanRevisionsF plan i.view.deleting i.fresh { store := i.store } = (A, .ok) ∧
      AdoptedFrom i.store A.store ∧
      claimed = (claimPodsF plan i.view.deleting i.fresh i.pods A.tr).claimed ∧
      (claimPodsF plan i.view.deleting i.fresh i.pods A.tr).failed = false ∧
      sL = (listRevsF plan { store := A.store, tr := (claimPodsF plan i.view.deleting i.fresh i.pods A.tr).tr }).1 ∧
      sL.store = A.store ∧ Ext HeadShape [] sL.tr.log ∧
      revs = sortRevs (listRevisions A.store) ∧
      pickF h plan i.template (i.collisionCount.getD 0) revs sL = (s, some (upd, cc)) ∧
      cur = (revs.find? (·.name == i.stored.currentRev)).getD upd := by
  unfold syncHead at hh
  have hA := adopt_adopted plan i.view.deleting i.fresh { store := i.store }
  have hAl : Ext HeadShape [] (adoptOrphanRevisionsF plan i.view.deleting i.fresh { store := i.store }).1.tr.log :=
    (adopt_log plan i.view.deleting i.fresh { store := i.store }).mono (fun e he => Or.inl he)
  generalize adoptOrphanRevisionsF plan i.view.deleting i.fresh { store := i.store } = a at hh hA hAl ⊢
  obtain ⟨A, out⟩ := a
  simp only at hA hAl
  cases out with
  | err => simp at hh
  | panic m => simp at hh
  | ok =>
    simp only at hh
    have hCl : Ext HeadShape [] (claimPodsF plan i.view.deleting i.fresh i.pods A.tr).tr.log :=
      hAl.trans ((claim_log plan i.view.deleting i.fresh i.pods A.tr).mono (fun e he => Or.inr he))
    by_cases hf : (claimPodsF plan i.view.deleting i.fresh i.pods A.tr).failed = true
    · rw [if_pos hf] at hh; simp at hh
    · rw [if_neg hf] at hh
      have hst := listRevsF_store plan { store := A.store, tr := (claimPodsF plan i.view.deleting i.fresh i.pods A.tr).tr }
      have hsome := @listRevsF_some plan { store := A.store, tr := (claimPodsF plan i.view.deleting i.fresh i.pods A.tr).tr }
      have hLl : Ext HeadShape []
          (listRevsF plan { store := A.store, tr := (claimPodsF plan i.view.deleting i.fresh i.pods A.tr).tr }).1.tr.log :=
        hCl.trans ((listRevsF_log plan _).mono (fun e he => Or.inl (Or.inl he)))
      generalize hl : listRevsF plan { store := A.store, tr := (claimPodsF plan i.view.deleting i.fresh i.pods A.tr).tr } = l at hh hst hsome hLl
      obtain ⟨s1, o1⟩ := l
      cases o1 with
      | none => simp at hh
      | some listed =>
        have hl' : listed = listRevisions A.store := hsome rfl
        subst hl'
        simp only at hh
        rw [getRevisionsF_eq] at hh
        cases hp : (pickF h plan i.template (i.collisionCount.getD 0) (sortRevs (listRevisions A.store)) s1).2 with
        | none => rw [hp] at hh; simp at hh
        | some t =>
          rw [hp] at hh
          obtain ⟨u, c⟩ := t
          simp only [Option.map_some, Sum.inr.injEq, Prod.mk.injEq] at hh
          obtain ⟨h1, h2, h3, h4, h5, h6⟩ := hh
          subst h1 h2 h4 h5 h6
          exact ⟨A, s1, rfl, hA, rfl, by simpa using hf, by rw [hl], hst, hLl, rfl, by rw [← hp], h3.symm⟩

theorem completeRollingUpdate_updateRev (v : SetView) (st : Status) : (completeRollingUpdate v st).updateRev = st.updateRev := by
  unfold completeRollingUpdate; split <;> rfl

theorem statusWriteF_log (plan : List Fault) (gone : Bool) (fuel : Nat) (t : Tr) :
    ∃ mid, (statusWriteF plan gone fuel t).1.log = t.log ++ mid :=
  let ⟨mid, hlog, _⟩ := statusWriteF_ext plan gone fuel t
  ⟨mid, hlog⟩

/-- the tail: either it stops before truncation with a failure and leaves the store alone, or its log, store and outcome
    are those of `truncateF` run on the same store; in the latter case the update revision the status (written or
    cached) names is `upd` -/
theorem finishF_spec (i : SyncIn) (plan : List Fault) (claimed : List CPod) (revs : List Rev) (cur upd : Rev) (cc : Int)
    (s : RevSt) :
    (SYa.finishF i plan claimed revs cur upd cc s).cur = cur.name ∧
    (SYa.finishF i plan claimed revs cur upd cc s).upd = upd.name ∧
    (SYa.finishF i plan claimed revs cur upd cc s).claimed = claimed ∧
    (((SYa.finishF i plan claimed revs cur upd cc s).outcome ≠ .ok ∧
      (SYa.finishF i plan claimed revs cur upd cc s).store = s.store ∧
      (SYa.finishF i plan claimed revs cur upd cc s).status = none ∧
      Ext TailShape s.tr.log (SYa.finishF i plan claimed revs cur upd cc s).log) ∨
     (∃ sT : RevSt, sT.store = s.store ∧ Ext TailShape s.tr.log sT.tr.log ∧
        (SYa.finishF i plan claimed revs cur upd cc s).log =
          (truncateF plan i.historyLimit (claimed.map (·.pod.rev)) revs cur upd sT).1.tr.log ∧
        (SYa.finishF i plan claimed revs cur upd cc s).store =
          (truncateF plan i.historyLimit (claimed.map (·.pod.rev)) revs cur upd sT).1.store ∧
        (SYa.finishF i plan claimed revs cur upd cc s).outcome =
          (truncateF plan i.historyLimit (claimed.map (·.pod.rev)) revs cur upd sT).2 ∧
        (match (SYa.finishF i plan claimed revs cur upd cc s).status with
          | some st => st.updateRev | none => i.stored.updateRev) = upd.name)) := by
  unfold SYa.finishF
  have hacts := acts_ext i.setName plan i.pods claimed (SYa.rangeOf i).1 (SYa.rangeOf i).2
    (SYa.reconcileOf i plan claimed cur upd).1.acts s.tr.log
  generalize hu : SYa.reconcileOf i plan claimed cur upd = u at hacts ⊢
  obtain ⟨st, out⟩ := u
  have hw := hacts.trans (statusWriteF_ext plan i.fresh.gone 5
    { log := s.tr.log ++ (st.acts.map (actLog i.setName plan i.pods claimed (SYa.rangeOf i).1 (SYa.rangeOf i).2)).flatten })
  -- after a reconcile that ended `.ok` the completed status names `upd`
  have hupd : out = .ok → (completeRollingUpdate i.view st.status).updateRev = upd.name := by
    rintro rfl
    rw [completeRollingUpdate_updateRev, (L1c.updateStatefulSet_post _ _ _ _ _ st hu).2.2.1]; rfl
  rcases SYa.finishCore_cases i plan claimed revs cur upd cc
      { s with tr := { log := s.tr.log ++
        (st.acts.map (actLog i.setName plan i.pods claimed (SYa.rangeOf i).1 (SYa.rangeOf i).2)).flatten } } st out with
    ⟨hne, e⟩ | ⟨_, _, _, e⟩ | ⟨hok, _, _, t, rfl, e⟩ | ⟨hok, hinc, t, rfl, e⟩
  · rw [e]; exact ⟨rfl, rfl, rfl, Or.inl ⟨hne, rfl, rfl, hacts⟩⟩
  · rw [e]; exact ⟨rfl, rfl, rfl, Or.inl ⟨nofun, rfl, rfl, hw⟩⟩
  · rw [e]
    exact ⟨rfl, rfl, rfl, Or.inr ⟨{ store := s.store, tr := (statusWriteF plan i.fresh.gone 5 { log := s.tr.log ++
      (st.acts.map (actLog i.setName plan i.pods claimed (SYa.rangeOf i).1 (SYa.rangeOf i).2)).flatten }).1 },
      rfl, hw, rfl, rfl, rfl, hupd hok⟩⟩
  · rw [e]
    refine ⟨rfl, rfl, rfl, Or.inr ⟨{ store := s.store, tr := { log := s.tr.log ++
      (st.acts.map (actLog i.setName plan i.pods claimed (SYa.rangeOf i).1 (SYa.rangeOf i).2)).flatten } },
      rfl, hacts, rfl, rfl, rfl, ?_⟩⟩
    -- no write was needed: the cached status already names the update revision of the completed one
    unfold inconsistentStatus at hinc
    simp only [Bool.or_eq_false_iff, bne_eq_false_iff_eq] at hinc
    exact hinc.2.symm.trans (hupd hok)

end Asts.SYb
