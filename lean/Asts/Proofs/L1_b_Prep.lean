import Asts.Proofs.Rc_Prep

/-! # L1_b — shared invariants of `prepare` (used by the C05 and C07 proofs)

* list facts: `eraseDups` of a constant list, last element of a sorted list;
* what `wfSnapshot` means for lookups by ordinal;
* `prepOf_inv`: the index list of `reps` is `desired r v.slots`; every entry of `reps` is a pod of the snapshot with that
  ordinal or the fresh object `newPod`; `condemned` is, up to order, the pods of the snapshot whose ordinal is `≥ 0` and
  not desired, and it is sorted by ordinal. -/
namespace Asts.L1b
open List

theorem length_eraseDups_of_same {l : List Int} (h : ∀ a ∈ l, ∀ b ∈ l, a = b) : l.eraseDups.length ≤ 1 := by
  cases l with
  | nil => exact Nat.zero_le 1
  | cons a as =>
    have : as.filter (fun b => !b == a) = [] :=
      List.filter_eq_nil_iff.2 fun b hb => by
        rw [h b (List.mem_cons_of_mem _ hb) a (List.mem_cons_self ..), beq_self_eq_true]
        exact Bool.false_ne_true
    rw [List.eraseDups_cons, this]
    exact Nat.le_refl 1

theorem rel_last_of_pairwise {α : Type} {R : α → α → Prop} {l : List α} (hs : l.Pairwise R) {c : α}
    (hc : l.reverse.head? = some c) : ∀ x ∈ l, x = c ∨ R x c := by
  obtain ⟨t, ht⟩ : ∃ t, l = t ++ [c] := by
    rw [List.head?_reverse] at hc
    exact ⟨l.dropLast, (List.dropLast_append_getLast? c hc).symm⟩
  subst ht
  intro x hx
  rcases List.mem_append.1 hx with hx | hx
  · exact Or.inr ((List.pairwise_append.1 hs).2.2 x hx c (List.mem_singleton_self c))
  · exact Or.inl (List.mem_singleton.1 hx)

theorem _root_.Asts.Pod.healthy_iff (p : Pod) :
    p.healthy = true ↔ p.phase = .running ∧ p.ready = true ∧ p.terminating = false := by
  simp [Pod.healthy, Pod.runningAndReady, and_assoc]

theorem _root_.Asts.Pod.healthy_created {p : Pod} (h : p.healthy = true) : p.created = true := by
  rw [Pod.healthy_iff] at h
  rw [Pod.created, h.1]
  rfl

@[simp] theorem newPod_ord (v : SetView) (cur upd : String) (i : Int) : (newPod v cur upd i).ord = i := rfl

@[simp] theorem newPod_rev (v : SetView) (cur upd : String) (i : Int) :
    (newPod v cur upd i).rev = newPodRev v cur upd i := rfl

theorem wfSnapshot_created {pods : List Pod} (h : wfSnapshot pods = true) : ∀ p ∈ pods, p.created = true :=
  (L1c.wfSnapshot_spec h).1

theorem wfSnapshot_nodup {pods : List Pod} (h : wfSnapshot pods = true) : (pods.map (·.ord)).Nodup :=
  (L1c.wfSnapshot_spec h).2

theorem podAt_of_mem {pods : List Pod} (h : wfSnapshot pods = true) {p : Pod} (hp : p ∈ pods) :
    podAt pods p.ord = some p :=
  L1c.find_unique pods (fun q : Pod => q.ord == p.ord) p hp (beq_self_eq_true _)
    (fun _ hq hk => List.inj_on_of_nodup_map (wfSnapshot_nodup h) hq hp (beq_iff_eq.1 hk))

theorem healthyAt_of_mem {pods : List Pod} (h : wfSnapshot pods = true) {p : Pod} (hp : p ∈ pods)
    (hh : p.healthy = true) : healthyAt pods p.ord = true := by
  rw [healthyAt, podAt_of_mem h hp, Option.any_some, hh]

theorem sorted_insertByOrd {p : Pod} {l : List Pod} (h : l.Pairwise (fun a b => a.ord ≤ b.ord)) :
    (insertByOrd p l).Pairwise (fun a b => a.ord ≤ b.ord) := by
  induction l with
  | nil => exact List.pairwise_singleton _ _
  | cons q qs ih =>
    unfold insertByOrd
    have hq := List.pairwise_cons.1 h
    split_ifs with h1
    · refine List.pairwise_cons.2 ⟨fun x hx => ?_, h⟩
      rcases List.mem_cons.1 hx with rfl | hx
      · exact Int.le_of_lt h1
      · exact Int.le_trans (Int.le_of_lt h1) (hq.1 x hx)
    · refine List.pairwise_cons.2 ⟨fun x hx => ?_, ih hq.2⟩
      rcases List.mem_cons.1 ((L1c.insertByOrd_perm p qs).mem_iff.1 hx) with rfl | hx
      · exact Int.not_lt.1 h1
      · exact hq.1 x hx

theorem sorted_condemnedOf (b : Int) (E : List Int) (pods : List Pod) :
    (condemnedOf b E pods).Pairwise (fun a b => a.ord ≤ b.ord) := by
  unfold condemnedOf
  generalize (pods.filter _).reverse = l
  have : ∀ acc : List Pod, acc.Pairwise (fun a b => a.ord ≤ b.ord) →
      (l.foldl (fun acc p => insertByOrd p acc) acc).Pairwise (fun a b => a.ord ≤ b.ord) := by
    induction l with
    | nil => exact fun _ h => h
    | cons a as ih => exact fun acc h => ih _ (sorted_insertByOrd h)
  exact this [] List.Pairwise.nil

/-- what the proofs use of a successful `prepare` -/
structure PrepInv (v : SetView) (cur upd : String) (pods : List Pod) (D : List Int) (P : Prepared) : Prop where
  /-- the occupied-or-vacant slots walked by the replica loop are exactly the desired ordinals, ascending -/
  idx : P.reps.map (·.1) = D
  /-- each slot holds a pod of the snapshot with that ordinal, or the fresh object -/
  rep : ∀ x ∈ P.reps, (x.2 ∈ pods ∧ x.2.ord = x.1) ∨ x.2 = newPod v cur upd x.1
  /-- the condemned pods are the snapshot pods with a parsed ordinal outside the desired set -/
  condMem : ∀ c, c ∈ P.condemned ↔ c ∈ pods ∧ 0 ≤ c.ord ∧ c.ord ∉ D
  /-- ascending by ordinal -/
  condSorted : P.condemned.Pairwise (fun a b => a.ord ≤ b.ord)

theorem prepOf_inv (v : SetView) (cur upd : String) (pods : List Pod) {r : Int} (h0 : 0 ≤ r) :
    PrepInv v cur upd pods (desired r v.slots) (L1c.prepOf v cur upd r pods) := by
  obtain ⟨hb, hE⟩ := L1c.maxReplica_facts r v.slots h0
  rw [L1c.desired_eq_idxOf r v.slots]
  refine ⟨L1c.repsOf_fst .., fun x hx => ?_, fun c => ?_, sorted_condemnedOf ..⟩
  · rcases L1c.repsOf_mem hx with h | h
    · exact Or.inl ⟨h.1, L1c.repsOf_ord hx⟩
    · exact Or.inr h.1
  · show c ∈ condemnedOf _ _ pods ↔ _
    rw [L1c.mem_condemnedOf, L1c.isCondemned_eq hb hE, Bool.and_eq_true, decide_eq_true_eq, Bool.not_eq_true',
      ← Bool.not_eq_true, List.contains_iff_mem]

/-- the slots are walked in strictly increasing ordinal order -/
theorem prepOf_sorted (v : SetView) (cur upd : String) (r : Int) (pods : List Pod) :
    ((L1c.prepOf v cur upd r pods).reps.map (·.1)).Pairwise (· < ·) := by
  show ((L1c.repsOf ..).map (·.1)).Pairwise (· < ·)
  rw [L1c.repsOf_fst, L1c.idxOf]
  refine List.Pairwise.filter _ (List.pairwise_map.2 ?_)
  exact (List.pairwise_lt_range).imp (fun h => Int.ofNat_lt.2 h)

end Asts.L1b
