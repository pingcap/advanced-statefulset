import Asts.Proofs.C02_LPar

/-! C02, legacy boundary mode: the OrderedReady policy. -/
namespace Asts.C02p
open Asts Asts.L1c

/-- the legacy class, OrderedReady -/
def LMonoK (h : Hashing) (j : SyncIn) : Prop := MonoK0 h j ∧ j.view.strat = .rolling ∧ j.view.ru = none

section
variable {h : Hashing} {j : SyncIn}

theorem lmono_pol (hk : LMonoK h j) :
    LPol hk.1.1 (monoA j.view hk.1.1.norm.curRev.name hk.1.1.norm.updRev.name (bOf j) (EOf j) j.pods)
      (monoTgt j.view hk.1.1.norm.curRev.name hk.1.1.norm.updRev.name (bOf j) (EOf j) j.pods) := by
  obtain ⟨hk0, hroll, hru⟩ := hk
  have hs := hk0.1
  have hn := hs.norm
  have hctx := hs.ctx
  refine ⟨⟨hroll, hru⟩, (recon_mono hk0).1, by rw [(recon_mono hk0).2, monoActsOf_split], monoA_facts hk0, ?_, ?_, ?_⟩
  · rintro c hcm ⟨o, w, hm⟩
    obtain ⟨c', hc', hcid, hcase⟩ := monoA_delete_src hk0 hm
    have : c' = c := hctx.id_inj hc' hcm hcid
    subst this
    rcases hcase with ⟨h1, _⟩ | h2
    · exact Or.inl h1
    · exact Or.inr h2
  · intro t q htg
    unfold monoTgt at htg
    split_ifs at htg with hcond
    obtain ⟨hfl, hce⟩ := hcond
    have hall := mono_full hk0 hfl
    have htg' := htg
    unfold walkTarget at htg'
    split_ifs at htg' with hod
    obtain ⟨hmem, hrev, _⟩ := walkFind_some htg'
    unfold walkList at hmem
    rw [List.mem_reverse, List.mem_filter] at hmem
    obtain ⟨hr, hq0⟩ := mem_repsOf.1 hmem.1
    simp only at hr hq0
    obtain ⟨c, hcm, hco, hfs⟩ := hall t hr
    have hsl := hctx.slot_of_mem hcm (by rw [hco]; exact hr)
    rw [hco] at hsl
    rw [hsl] at hq0
    simp only [Option.getD_some] at hq0
    refine ⟨hr, hrev, Or.inl ⟨c, hcm, hq0.symm, hco, hfs⟩, fun o hro _ => Or.inl (hall o hro), ?_⟩
    intro hne
    have hb := recon_mono_cur_le hk0 hfl hce
    have hkeys := reps_keys j.view hn.curRev.name hn.updRev.name (bOf j) (EOf j) (j.pods.map (·.pod))
    have hwb := walk_bound_list j.view hn.curRev.name hn.updRev.name _ (partOf_legacy hru) hkeys.1 hkeys.2 htg hne
    rw [htg] at hb
    omega
  · intro o hr hnone hnocre
    -- the loop stopped: it filled (or replaced at) another ordinal
    have hfl : (monoRep j.view hn.curRev.name hn.updRev.name
        (repsOf j.view hn.curRev.name hn.updRev.name (bOf j) (EOf j) (j.pods.map (·.pod)))).2 = false := by
      by_contra hfl
      obtain ⟨c, hcm, hco, _⟩ := mono_full hk0 (by simpa using hfl) o hr
      exact hnone c hcm hco
    obtain ⟨o0, rev, hm⟩ := monoRep_stopped hfl
    have hmA : Action.create o0 rev ∈ monoA j.view hn.curRev.name hn.updRev.name (bOf j) (EOf j) j.pods := by
      unfold monoA; exact List.mem_append_left _ hm
    have hne : o0 ≠ o := fun heq => hnocre rev (heq ▸ hmA)
    obtain ⟨hr0, _, hcase⟩ := (monoA_facts hk0).cre o0 rev hmA
    refine ⟨o0, hr0, hne, ?_⟩
    intro c hcm hco
    rcases hcase with hn0 | ⟨c', hc', hco', hfs', _⟩
    · exact absurd hco (hn0 c hcm)
    · rw [hctx.ord_inj hcm hc' (by rw [hco, hco'])]; exact hfs'

theorem lmono_progress (hk : LMonoK h j) (hpos : 0 < muL j) :
    LEvent j (monoA j.view hk.1.1.norm.curRev.name hk.1.1.norm.updRev.name (bOf j) (EOf j) j.pods)
      (monoTgt j.view hk.1.1.norm.curRev.name hk.1.1.norm.updRev.name (bOf j) (EOf j) j.pods) :=
  mono_event hk.1 (muL_pos_cases hk.1.1 hk.2.1 hk.2.2 hpos)

theorem lmono_next (hk : LMonoK h j) : LMonoK h (nextW h j) := by
  have hview := nextW_view hk.1.1 (lmono_pol hk).pol
  exact ⟨monoK0_next hk.1 (lmono_pol hk).pol, by rw [hview]; exact hk.2.1, by rw [hview]; exact hk.2.2⟩

end

end Asts.C02p
