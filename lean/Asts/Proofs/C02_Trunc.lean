import Asts.Proofs.C02_Round
import Asts.Proofs.C02_RevFilter

/-! C02: `truncateHistory` when no call fails: the oldest unused revisions are deleted, by name. -/
namespace Asts.C02p
open Asts Asts.L1c

theorem listedRevs_names_nodup (i : SyncIn) : ((listedRevs i).map (·.name)).Nodup := sorted_listing_names_nodup i.store

theorem mem_listedRevs {i : SyncIn} {r : Rev} (h : r ∈ listedRevs i) : r ∈ i.store :=
  (mem_listRevisions (mem_sortRevs.1 h)).1

/-- the listed, owned revisions that nothing uses -/
def histOf (podRevs : List String) (revs : List Rev) (cur upd : Rev) : List Rev :=
  revs.filter (fun r => !(cur.name :: upd.name :: podRevs).contains r.name && r.owner == .self)

/-- the revisions `truncateHistory` deletes -/
def victimsOf (lim : Int) (podRevs : List String) (revs : List Rev) (cur upd : Rev) : List Rev :=
  if ((histOf podRevs revs cur upd).length : Int) ≤ lim then []
  else (histOf podRevs revs cur upd).take ((histOf podRevs revs cur upd).length - lim.toNat)

theorem truncateF_nil (lim : Int) (podRevs : List String) (revs : List Rev) (cur upd : Rev) (s : RevSt)
    (hin : ∀ r ∈ revs, s.store.any (·.name == r.name) = true) (hnd : (revs.map (·.name)).Nodup) :
    truncateF [] (some lim) podRevs revs cur upd s =
      ({ store := s.store.filter (fun x => !((victimsOf lim podRevs revs cur upd).map (·.name)).contains x.name),
         tr := { log := s.tr.log ++ (victimsOf lim podRevs revs cur upd).map (fun r => s!"delete:rev:{r.name}") } }, .ok) := by
  rw [SYa.truncateF_eq]
  unfold victimsOf histOf SYa.historyOf
  simp only
  by_cases hle : (((revs.filter (fun r => !(cur.name :: upd.name :: podRevs).contains r.name && r.owner == .self)).length : Nat) : Int) ≤ lim
  · rw [if_pos hle, if_pos hle]
    simp
  · have hsub : ((revs.filter (fun r => !(cur.name :: upd.name :: podRevs).contains r.name && r.owner == .self)).take
        ((revs.filter (fun r => !(cur.name :: upd.name :: podRevs).contains r.name && r.owner == .self)).length - lim.toNat)).Sublist revs :=
      (List.take_sublist _ _).trans List.filter_sublist
    rw [if_neg hle, if_neg hle, SYa.foldOk_truncStep_nil _ s (fun r hr => hin r (hsub.subset hr)) ((List.Sublist.map _ hsub).nodup hnd)]
    simp only [if_true]

end Asts.C02p

namespace Asts.C02p
open Asts Asts.L1c

/-- the tail of the sync when the reconcile returned `.ok` and no call fails: status write if it differs, then truncation -/
theorem finishCore_ok_trunc (i : SyncIn) (claimed : List CPod) (revs : List Rev) (cur upd : Rev) (cc : Int) (s : RevSt) (st : St)
    (hgone : i.fresh.gone = false) (lim : Int) (hlim : i.historyLimit = some lim)
    (hin : ∀ r ∈ revs, s.store.any (·.name == r.name) = true) (hnd : (revs.map (·.name)).Nodup) :
    SYa.finishCore i [] claimed revs cur upd cc s st .ok =
      (if inconsistentStatus i.stored (completeRollingUpdate i.view st.status) then
        { log := s.tr.log ++ ["updatestatus"] ++
                   (victimsOf lim (claimed.map (·.pod.rev)) revs cur upd).map (fun r => s!"delete:rev:{r.name}"),
          status := some (completeRollingUpdate i.view st.status), cc := some cc,
          store := s.store.filter (fun x => !((victimsOf lim (claimed.map (·.pod.rev)) revs cur upd).map (·.name)).contains x.name),
          cur := cur.name, upd := upd.name, claimed := claimed, acts := st.acts,
          actsDone := st.acts.length, outcome := .ok }
      else
        { log := s.tr.log ++ (victimsOf lim (claimed.map (·.pod.rev)) revs cur upd).map (fun r => s!"delete:rev:{r.name}"),
          status := none, cc := none,
          store := s.store.filter (fun x => !((victimsOf lim (claimed.map (·.pod.rev)) revs cur upd).map (·.name)).contains x.name),
          cur := cur.name, upd := upd.name, claimed := claimed, acts := st.acts,
          actsDone := st.acts.length, outcome := .ok }) := by
  have htr : ∀ t : Tr, truncateF [] i.historyLimit (claimed.map (·.pod.rev)) revs cur upd { store := s.store, tr := t } =
      ({ store := s.store.filter (fun x => !((victimsOf lim (claimed.map (·.pod.rev)) revs cur upd).map (·.name)).contains x.name),
         tr := { log := t.log ++ (victimsOf lim (claimed.map (·.pod.rev)) revs cur upd).map (fun r => s!"delete:rev:{r.name}") } }, .ok) := by
    intro t
    rw [hlim]
    exact truncateF_nil lim _ revs cur upd { store := s.store, tr := t } hin hnd
  have hs : s = { store := s.store, tr := s.tr } := rfl
  have hne : (Outcome.ok == Outcome.err) = false := by decide
  unfold SYa.finishCore SYa.reached
  simp only [hgone, SYa.statusWriteF_nil, hne, Bool.false_eq_true, if_false, Bool.not_true, Bool.not_false]
  rw [htr]
  conv_lhs => rw [hs, htr]

end Asts.C02p
