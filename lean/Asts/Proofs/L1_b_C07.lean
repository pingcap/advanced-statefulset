import Asts.Proofs.L1_b_C05

/-! # L1_b — C07: rolling update honours the partition and goes highest-first; OnDelete never restarts -/
namespace Asts.L1b
open List

/-- the model's partition (`getRollingUpdatePartition`) is the raw partition of the spec clamped at 0 -/
theorem partOf_eq_max (v : SetView) : partOf v = max 0 (partitionOf v) := by
  unfold partOf partitionOf
  rcases v.ru with _ | _ | p
  · simp
  · simp
  · simp only
    split_ifs with h
    · omega
    · omega

theorem partitionOf_le_partOf (v : SetView) : partitionOf v ≤ partOf v := by
  rw [partOf_eq_max]; exact le_max_right _ _

section
variable (v : SetView) (cur upd : String) (pods : List Pod) (f : Faults)

/-- C07, OnDelete: the update walk deletes nothing (both pod management policies, any spec, any snapshot) -/
theorem C07_onDelete (hod : v.strat = .onDelete) (o : Int) (id : Nat) :
    Action.delete o id .update ∉ (updateStatefulSet v cur upd pods f).1.acts := by
  intro h
  rcases updateStatefulSet_spec v cur upd pods f with h' | ⟨P, _, _, hj, _, _⟩
  · rw [h'] at h; simp at h
  · have hj' := hj _ h
    cases hj' with
    | upd i p q hp hq hnf hne hpt hpost hmn => exact hne hod

/-- C07: at most one delete by the update walk per reconcile (both policies, any spec, any snapshot) -/
theorem C07_one_update_delete :
    ((updateStatefulSet v cur upd pods f).1.acts.filter Action.isUpdDel).length ≤ 1 := by
  rcases updateStatefulSet_spec v cur upd pods f with h' | ⟨P, _, _, _, hc, _⟩
  · rw [h']; simp
  · exact hc

variable (r : Int) (hr : v.replicas = some r) (h0 : 0 ≤ r)
include hr h0

/-- C07: a delete by the update walk at `o` is not under OnDelete, is at or above the partition (raw and clamped), and
    every desired ordinal above `o` holds a pod of the snapshot that is healthy and at the update revision. -/
theorem C07_update_delete {o : Int} {id : Nat}
    (h : Action.delete o id .update ∈ (updateStatefulSet v cur upd pods f).1.acts) :
    v.strat ≠ .onDelete ∧ partitionOf v ≤ o ∧ partOf v ≤ o ∧
    ∀ i ∈ desired r v.slots, o < i → HealthyAtRev pods upd i := by
  obtain ⟨P, inv, _, _, hj, _⟩ := run_just v cur upd pods f r hr h0 h
  have hj' := hj _ h
  cases hj' with
  | upd i p q hp hq hnf hne hpt hpost hmn =>
    refine ⟨hne, le_trans (partitionOf_le_partOf v) hpt, hpt, ?_⟩
    intro j hj hlt
    obtain ⟨x, hx, rfl⟩ := inv.exists_rep hj
    obtain ⟨k1, k2⟩ := hpost x hx hlt
    obtain ⟨m1, m2⟩ := inv.created_mem hx (Pod.healthy_created k1)
    exact ⟨x.2, m1, m2, k2, (Pod.healthy_iff _).1 k1⟩

/-- C07: every create is at a desired ordinal and carries the revision `newVersionedStatefulSetPod` chooses -/
theorem C07_create_rev (hwf : wfSnapshot pods = true) {o : Int} {rev : String}
    (h : Action.create o rev ∈ (updateStatefulSet v cur upd pods f).1.acts) :
    o ∈ desired r v.slots ∧ rev = newPodRev v cur upd o := by
  obtain ⟨P, inv, _, _, hj, _⟩ := run_just v cur upd pods f r hr h0 h
  have hj' := hj _ h
  cases hj' with
  | create pre i p post rev e hrev hpre =>
    have hmem : (o, p) ∈ P.reps := by rw [e]; simp
    refine ⟨inv.idx_mem hmem, ?_⟩
    rcases hrev with hrev | ⟨hc, hrev⟩
    · exact hrev
    · rcases inv.rep _ hmem with ⟨k1, _⟩ | k1
      · have := wfSnapshot_created hwf _ k1
        simp only at this
        rw [hc] at this; cases this
      · rw [hrev, show p = _ from k1]; rfl

/-- C07, partition present: created pods below the partition carry the current revision, the others the update revision -/
theorem C07_create_partition (hwf : wfSnapshot pods = true) {p : Int} (hru : v.ru = some (some p)) {o : Int}
    {rev : String} (h : Action.create o rev ∈ (updateStatefulSet v cur upd pods f).1.acts) :
    rev = if o < p then cur else upd := by
  obtain ⟨hD, hrev⟩ := C07_create_rev v cur upd pods f r hr h0 hwf h
  have hnn : 0 ≤ o := (desired_isDesired r v.slots).nonneg o hD
  rw [hrev]
  simp only [newPodRev, partOf, hru, Option.isNone_some, Bool.and_false, Bool.false_and, Bool.false_eq_true, if_false,
    Option.isSome_some, Bool.true_and, decide_eq_true_eq]
  by_cases hp : p < 0
  · have h1 : ¬ o < 0 := by omega
    have h2 : ¬ o < p := by omega
    simp only [hp, if_true, h1, h2, if_false]
  · simp only [hp, if_false]

/-- C07, legacy rule (`rollingUpdate` block absent under RollingUpdate): the boundary is `status.currentReplicas` -/
theorem C07_legacy_boundary (hwf : wfSnapshot pods = true) (hst : v.strat = .rolling) (hru : v.ru = none) {o : Int}
    {rev : String} (h : Action.create o rev ∈ (updateStatefulSet v cur upd pods f).1.acts) :
    rev = if o < v.stCurrentReplicas then cur else upd := by
  obtain ⟨_, hrev⟩ := C07_create_rev v cur upd pods f r hr h0 hwf h
  rw [hrev]
  simp [newPodRev, hru, hst]

/-- the same as an equivalence, when the two revisions differ -/
theorem C07_legacy_boundary_iff (hwf : wfSnapshot pods = true) (hst : v.strat = .rolling) (hru : v.ru = none)
    (hne : cur ≠ upd) {o : Int} {rev : String}
    (h : Action.create o rev ∈ (updateStatefulSet v cur upd pods f).1.acts) :
    rev = cur ↔ o < v.stCurrentReplicas := by
  rw [C07_legacy_boundary v cur upd pods f r hr h0 hwf hst hru h]
  split_ifs with hlt
  · simp [hlt]
  · simp only [hlt, iff_false]; exact fun e => hne e.symm

/-- the monitors' update-class deletes of a model run are the deletes issued by the update walk -/
theorem C07_updateDeletes_eq (hids : IdsOk pods) :
    updateDeletes (desired r v.slots) pods (observe (updateStatefulSet v cur upd pods f).1.acts)
      = (updateStatefulSet v cur upd pods f).1.acts.filterMap updOrd := by
  rcases updateStatefulSet_spec v cur upd pods f with h' | ⟨r', hr', _, hj, _, _⟩
  · rw [h']; rfl
  · obtain rfl : r' = r := Option.some.inj (hr'.symm.trans hr)
    exact updateDeletes_observe (prepOf_inv v cur upd pods h0) hids hj

/-- **C07** — the monitor is true on the model's output for every spec, snapshot and fault plan, both policies. -/
theorem C07_holds (hwf : wfSnapshot pods = true) (hids : IdsOk pods) :
    C07 v cur upd pods (observe (updateStatefulSet v cur upd pods f).1.acts) = true := by
  have hrep : replicasOf v = r := by simp [replicasOf, hr]
  have huds := C07_updateDeletes_eq v cur upd pods f r hr h0 hids
  unfold C07
  simp only [hrep, huds, Bool.and_eq_true]
  refine ⟨⟨⟨?_, ?_⟩, ?_⟩, ?_⟩
  · by_cases hs : v.strat = .onDelete
    · simp only [hs, beq_self_eq_true, if_true]
      rw [List.isEmpty_iff, List.eq_nil_iff_forall_not_mem]
      intro o ho
      obtain ⟨id, hid⟩ := mem_filterMap_updOrd.1 ho
      exact C07_onDelete v cur upd pods f hs o id hid
    · have : (v.strat == StratType.onDelete) = false := by simpa using hs
      simp only [this, Bool.false_eq_true, if_false]
  · rw [decide_eq_true_eq, length_filterMap_updOrd]
    exact C07_one_update_delete v cur upd pods f
  · rw [List.all_eq_true]
    intro o ho
    obtain ⟨id, hid⟩ := mem_filterMap_updOrd.1 ho
    obtain ⟨_, k1, _, k2⟩ := C07_update_delete v cur upd pods f r hr h0 hid
    rw [Bool.and_eq_true, decide_eq_true_eq]
    refine ⟨k1, ?_⟩
    rw [List.all_eq_true]
    intro i hi
    rw [List.mem_filter] at hi
    obtain ⟨q, q1, q2, q3, q4⟩ := k2 i hi.1 (by simpa using hi.2)
    have hpa := podAt_of_mem hwf q1
    rw [q2] at hpa
    rw [hpa]
    simp [(Pod.healthy_iff q).2 q4, q3]
  · cases hru : v.ru with
    | none => simp only
    | some x =>
      cases x with
      | none => simp only
      | some p =>
        simp only
        rw [List.all_eq_true]
        intro a ha
        simp only [observe, List.mem_map] at ha
        obtain ⟨a0, ha0, rfl⟩ := ha
        cases a0 with
        | create o rev =>
          simp only [Action.observe]
          rw [C07_create_partition v cur upd pods f r hr h0 hwf hru ha0]
          split_ifs <;> simp
        | update o => simp only [Action.observe]
        | delete o id w => simp only [Action.observe]

end

/-- C07 with the replica count read as the monitor reads it (`replicasOf v`, 0 for a nil pointer) -/
theorem C07_holds_total (v : SetView) (cur upd : String) (pods : List Pod) (f : Faults)
    (h0 : 0 ≤ replicasOf v) (hwf : wfSnapshot pods = true) (hids : IdsOk pods) :
    C07 v cur upd pods (observe (updateStatefulSet v cur upd pods f).1.acts) = true := by
  cases hr : v.replicas with
  | none =>
    rw [acts_nil_of_replicas_none v cur upd pods f hr]
    unfold C07
    rcases v.ru with _ | _ | p <;> cases v.strat <;> rfl
  | some r =>
    have : replicasOf v = r := by simp [replicasOf, hr]
    exact C07_holds v cur upd pods f r hr (this ▸ h0) hwf hids

end Asts.L1b
