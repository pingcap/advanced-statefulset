import Asts.Proofs.SY_b_C08Monitor

/-! The adoption stage, exactly, when it succeeds: which revisions end up owned, and which `patch:rev:` calls stand in the
    log. -/
namespace Asts.SYb
open Asts

def patchRevKey (r : Rev) : String := s!"patch:rev:{r.name}"

def orphanNames (revs : List Rev) : List String := (revs.filter (·.owner == .none)).map (·.name)
def markerNames (revs : List Rev) : List String := (revs.filter (·.marker)).map (·.name)

theorem foldOk_ok_cons {α β} {x : α} {xs : List α} {b : β} {f : β → α → β × Bool} (h : (foldOk (x :: xs) b f).2 = true) :
    (f b x).2 = true ∧ foldOk (x :: xs) b f = foldOk xs (f b x).1 f := by
  rw [foldOk_cons] at h ⊢
  cases hx : (f b x).2
  · rw [hx] at h; simp at h
  · simp

theorem patchStep_ok {plan : List Fault} {s : RevSt} {r : Rev} (h : (SYa.patchStep plan s r).2 = true) :
    (r.owner ≠ .none ∧ SYa.patchStep plan s r = (s, true)) ∨
    (r.owner = .none ∧ look plan (patchRevKey r) (cnt (patchRevKey r) s.tr.log) = none ∧
      (SYa.patchStep plan s r).1 = { store := s.store.map (SYa.setOwn r.name), tr := { log := s.tr.log ++ [patchRevKey r] } }) := by
  unfold SYa.patchStep at h ⊢
  dsimp only at h ⊢
  by_cases ho : (r.owner != .none) = true
  · left; rw [if_pos ho]; exact ⟨by simpa using ho, rfl⟩
  · right
    rw [if_neg ho] at h ⊢
    have ho' : r.owner = .none := by simpa using ho
    have hc : (s.tr.call plan s!"patch:rev:{r.name}").2 = look plan (patchRevKey r) (cnt (patchRevKey r) s.tr.log) := rfl
    cases he : (s.tr.call plan s!"patch:rev:{r.name}").2 with
    | some k => rw [he] at h; simp at h
    | none => exact ⟨ho', hc ▸ he, rfl⟩

/-- all adoption patches went through: every listed orphan is owned and has an unfaulted `patch:rev:` call in the log -/
theorem foldOk_own_ok (plan : List Fault) (revs : List Rev) (s : RevSt) (hok : (foldOk revs s (SYa.patchStep plan)).2 = true) :
    (foldOk revs s (SYa.patchStep plan)).1.store = s.store.map (ownAll (orphanNames revs)) ∧
    Ext (fun e => ∃ r ∈ revs, r.owner = .none ∧ e = patchRevKey r) s.tr.log (foldOk revs s (SYa.patchStep plan)).1.tr.log ∧
    (∀ r ∈ revs, r.owner = .none → Succ plan (foldOk revs s (SYa.patchStep plan)).1.tr.log (patchRevKey r)) := by
  induction revs generalizing s with
  | nil =>
    refine ⟨?_, Ext.refl _ _, by simp⟩
    simp [foldOk_nil, orphanNames, ownAll_nil]
  | cons r rs ih =>
    obtain ⟨h1, h2⟩ := foldOk_ok_cons hok
    rw [h2] at hok ⊢
    obtain ⟨i1, i2, i3⟩ := ih _ hok
    rcases patchStep_ok h1 with ⟨hne, hs⟩ | ⟨hno, hl, hs⟩
    · rw [hs] at i1 i2 i3 ⊢
      refine ⟨?_, i2.mono (fun e ⟨r', hr', h'⟩ => ⟨r', List.mem_cons_of_mem _ hr', h'⟩), ?_⟩
      · rw [i1]
        have : orphanNames (r :: rs) = orphanNames rs := by
          unfold orphanNames
          rw [List.filter_cons_of_neg (by simpa using hne)]
        rw [this]
      · intro r' hr' ho
        rcases List.mem_cons.mp hr' with rfl | hr'
        · exact absurd ho hne
        · exact i3 r' hr' ho
    · rw [hs] at i1 i2 i3 ⊢
      refine ⟨?_, ?_, ?_⟩
      · rw [i1, List.map_map]
        have : orphanNames (r :: rs) = r.name :: orphanNames rs := by
          unfold orphanNames
          rw [List.filter_cons_of_pos (by simpa using hno)]
          rfl
        rw [this]
        apply List.map_congr_left
        intro x _
        exact ownAll_cons r.name _ x
      · have e1 : Ext (fun e => ∃ r' ∈ r :: rs, r'.owner = .none ∧ e = patchRevKey r') s.tr.log (s.tr.log ++ [patchRevKey r]) :=
          Ext.one _ ⟨r, List.mem_cons_self, hno, rfl⟩
        exact e1.trans (i2.mono (fun e ⟨r', hr', h'⟩ => ⟨r', List.mem_cons_of_mem _ hr', h'⟩))
      · intro r' hr' ho
        rcases List.mem_cons.mp hr' with rfl | hr'
        · obtain ⟨m, hm, _⟩ := i2
          simp only at hm
          rw [hm]
          exact Succ.mono ⟨s.tr.log, [], rfl, hl⟩ m
        · exact i3 r' hr' ho

theorem labelStep_ok {plan : List Fault} {s : RevSt} {r : Rev} (h : (SYa.labelStep plan s r).2 = true) :
    (r.marker = false ∧ SYa.labelStep plan s r = (s, true)) ∨
    (r.marker = true ∧ (SYa.labelStep plan s r).1 =
      { store := s.store.map (SYa.setSel r.name), tr := { log := s.tr.log ++ [s!"update:rev:{r.name}"] } }) := by
  unfold SYa.labelStep at h ⊢
  dsimp only at h ⊢
  by_cases hm : r.marker = true
  · right
    rw [if_pos hm] at h ⊢
    cases he : (s.tr.call plan s!"update:rev:{r.name}").2 with
    | some k => rw [he] at h; simp at h
    | none => exact ⟨hm, rfl⟩
  · left; rw [if_neg hm]; exact ⟨by simpa using hm, rfl⟩

theorem foldOk_label_ok (plan : List Fault) (revs : List Rev) (s : RevSt) (hok : (foldOk revs s (SYa.labelStep plan)).2 = true) :
    (foldOk revs s (SYa.labelStep plan)).1.store = s.store.map (selAll (markerNames revs)) ∧
    Ext (fun e => ∃ n : String, e = s!"update:rev:{n}") s.tr.log (foldOk revs s (SYa.labelStep plan)).1.tr.log := by
  induction revs generalizing s with
  | nil =>
    refine ⟨?_, Ext.refl _ _⟩
    simp [foldOk_nil, markerNames, selAll_nil]
  | cons r rs ih =>
    obtain ⟨h1, h2⟩ := foldOk_ok_cons hok
    rw [h2] at hok ⊢
    obtain ⟨i1, i2⟩ := ih _ hok
    rcases labelStep_ok h1 with ⟨hne, hs⟩ | ⟨hno, hs⟩
    · rw [hs] at i1 i2 ⊢
      refine ⟨?_, i2⟩
      rw [i1]
      have : markerNames (r :: rs) = markerNames rs := by
        unfold markerNames
        rw [List.filter_cons_of_neg (by simpa using hne)]
      rw [this]
    · rw [hs] at i1 i2 ⊢
      refine ⟨?_, (Ext.one _ ⟨r.name, rfl⟩).trans i2⟩
      rw [i1, List.map_map]
      have : markerNames (r :: rs) = r.name :: markerNames rs := by
        unfold markerNames
        rw [List.filter_cons_of_pos hno]
        rfl
      rw [this]
      apply List.map_congr_left
      intro x _
      exact selAll_cons r.name _ x

/-- entries of a successful adoption stage over the listing `L` -/
def AdoptLogShape (L : List Rev) (e : String) : Prop :=
  e = "list:revs" ∨ e = "get:set" ∨ (∃ n : String, e = s!"update:rev:{n}") ∨ ∃ r ∈ L, r.owner = .none ∧ e = patchRevKey r

/-- **the adoption stage when it succeeds**: either nothing is adopted (the set is being deleted, or no listed revision is
    an orphan) — store untouched, only List calls — or every marker-carrying listed revision has its labels synced and
    every listed orphan is owned, with an unfaulted `patch:rev:` call for each -/
theorem adopt_ok_exact (plan : List Fault) (del : Bool) (fresh : Fresh) (s A : RevSt)
    (hA : adoptOrphanRevisionsF plan del fresh s = (A, .ok)) :
    ((del = true ∨ (listRevisions s.store).any (·.owner == .none) = false) ∧ A.store = s.store ∧
        Ext (· = "list:revs") s.tr.log A.tr.log) ∨
    (del = false ∧ (listRevisions s.store).any (·.owner == .none) = true ∧
      A.store = (s.store.map (selAll (markerNames (listRevisions s.store)))).map (ownAll (orphanNames (listRevisions s.store))) ∧
      Ext (AdoptLogShape (listRevisions s.store)) s.tr.log A.tr.log ∧
      (∀ r ∈ listRevisions s.store, r.owner = .none → Succ plan A.tr.log (patchRevKey r))) := by
  rw [SYa.adoptF_eq] at hA
  by_cases hd : del = true
  · rw [if_pos hd] at hA
    cases hA
    exact Or.inl ⟨Or.inl hd, rfl, Ext.refl _ _⟩
  · rw [if_neg hd] at hA
    have hst := listRevsF_store plan s
    have hlog := listRevsF_log plan s
    have hsome := @listRevsF_some plan s
    generalize listRevsF plan s = l at hA hst hlog hsome
    obtain ⟨s1, _ | revs⟩ := l
    · cases hA
    · obtain rfl : revs = listRevisions s.store := hsome rfl
      dsimp only at hA hst hlog
      by_cases ha : (!((listRevisions s.store).any (·.owner == .none))) = true
      · rw [if_pos ha] at hA
        cases hA
        exact Or.inl ⟨Or.inr (by simpa using ha), hst, hlog⟩
      · rw [if_neg ha] at hA
        by_cases h1 : (!(foldOk (listRevisions s.store) s1 (SYa.labelStep plan)).2) = true
        · rw [if_pos h1] at hA; cases hA
        · rw [if_neg h1] at hA
          obtain ⟨l1, l2⟩ := foldOk_label_ok plan (listRevisions s.store) s1 (by simpa using h1)
          split at hA
          · cases hA
          · generalize hs2 : (⟨(foldOk (listRevisions s.store) s1 (SYa.labelStep plan)).1.store,
                ((foldOk (listRevisions s.store) s1 (SYa.labelStep plan)).1.tr.call plan "get:set").1⟩ : RevSt) = s2 at hA
            cases h3 : (foldOk (listRevisions s.store) s2 (SYa.patchStep plan)).2
            · rw [h3] at hA; cases hA
            · rw [h3] at hA
              obtain ⟨o1, o2, o3⟩ := foldOk_own_ok plan (listRevisions s.store) s2 h3
              cases hA
              subst hs2
              refine Or.inr ⟨by simpa using hd, by simpa using ha, ?_, ?_, o3⟩
              · rw [o1, l1, hst]
              · exact (((hlog.mono (T := AdoptLogShape (listRevisions s.store)) (fun e he => Or.inl he)).trans
                  (l2.mono (fun e he => Or.inr (Or.inr (Or.inl he))))).trans
                  (Ext.call _ plan (Or.inr (Or.inl rfl)))).trans (o2.mono (fun e he => Or.inr (Or.inr (Or.inr he))))

end Asts.SYb
