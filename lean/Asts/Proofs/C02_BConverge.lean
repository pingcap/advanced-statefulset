import Asts.Proofs.C02_CFront

/-! C02, **general convergence when every pod object is a member of the set**, as corollaries of the theory with
    non-members (`C02_CFront`, `C02_CSim`): `preNB` is `preNMB` without non-members, and the members-only world of such a
    world is the world itself. -/
namespace Asts.C02p
open Asts Asts.L1c

theorem mOf_of_members {x : SyncIn} (hm : ∀ c ∈ x.pods, c.member = true) : mOf x = x := by
  unfold mOf
  rw [List.filter_eq_self.2 hm]

theorem settle_members {i : SyncIn} (hm : ∀ c ∈ i.pods, c.member = true) : ∀ c ∈ (settle i).pods, c.member = true := by
  intro x hx
  obtain ⟨c0, hc0, _, hk⟩ := settle_src i hx
  have e : (settleOne c0).member = x.member := key_transfer (·.member) (fun _ => rfl) hk
  rw [← e, settleOne_member]
  exact hm c0 hc0

theorem names_nodup_of_ords {pods : List CPod} {s : String} (hn : ∀ c ∈ pods, c.name = canonicalName s c.pod.ord)
    (hd : distinctOrdsC pods = true) : (pods.map (·.name)).Nodup := by
  have hords : (pods.map (·.pod.ord)).Nodup := by
    unfold distinctOrdsC at hd
    apply GL.nodup_of_eraseDups_length
    simpa using hd
  have : pods.map (·.name) = (pods.map (·.pod.ord)).map (canonicalName s) := by
    rw [List.map_map]
    exact List.map_congr_left hn
  rw [this]
  exact canon_map_nodup _ hords

section
variable {h : Hashing} {i : SyncIn}

theorem members_of_preCB (hb : preCB h i = true) : ∀ c ∈ i.pods, c.member = true := by
  unfold preCB at hb
  simp only [Bool.and_eq_true, List.all_eq_true] at hb
  intro c hc
  exact (hb.1.1.1.1.1.1.1.2 c hc).1.1.1.1.1.2

/-- without non-members the clauses of `preMB` on non-members are empty, and the pod names are distinct because the
    ordinals are -/
theorem preMB_of_preCB (hb : preCB h i = true) : preMB h i = true := by
  have hm := members_of_preCB hb
  unfold preCB at hb
  simp only [Bool.and_eq_true, List.all_eq_true, decide_eq_true_eq, beq_iff_eq] at hb
  obtain ⟨⟨⟨⟨⟨⟨⟨⟨hspec, hpods⟩, hdist⟩, _⟩, _⟩, hnames⟩, hcol⟩, hhash⟩, hlab⟩ := hb
  have hpn := names_nodup_of_ords (fun c hc => (hpods c hc).1.1.1.2) hdist
  unfold preMB
  rw [List.filter_eq_self.2 hm]
  simp only [Bool.and_eq_true, List.all_eq_true, decide_eq_true_eq, Bool.or_eq_true, beq_iff_eq]
  refine ⟨⟨⟨⟨⟨⟨⟨⟨⟨hspec, ?_⟩, hdist⟩, hpn⟩, ?_⟩, ?_⟩, hnames⟩, hcol⟩, hhash⟩, hlab⟩
  · intro c hc
    obtain ⟨⟨⟨⟨⟨⟨a1, _⟩, a3⟩, a4⟩, a5⟩, a6⟩, a7⟩ := hpods c hc
    exact Or.inr ⟨⟨⟨⟨⟨a1, a3⟩, a4⟩, a5⟩, a6⟩, a7⟩
  · intro c hc
    exact Or.inl (hm c hc)
  · intro c hc
    exact Or.inl (Or.inl (hm c hc))

theorem roomMB_of_roomB (hm : ∀ c ∈ i.pods, c.member = true) (hr : roomB i = true) : roomMB i = true := by
  unfold roomB at hr
  unfold roomMB
  have h0 : i.pods.filter (fun c => !c.member) = [] := by
    rw [List.filter_eq_nil_iff]
    intro c hc
    rw [hm c hc]
    simp
  rw [List.filter_eq_self.2 hm, h0]
  simpa using hr

theorem extraMB_of_extraB (hw : wfWorld h i = true) (hx : extraB h i = true) : extraMB h i = true := by
  obtain ⟨_, _, hpods⟩ := (wfWorld_iff h i).1 hw
  unfold extraB at hx
  simp only [Bool.and_eq_true, List.all_eq_true, decide_eq_true_eq] at hx
  obtain ⟨⟨⟨⟨⟨⟨⟨⟨⟨x1, x2⟩, x3⟩, _⟩, _⟩, x7⟩, x8⟩, x9⟩, x10⟩, x11⟩ := hx
  have hm : ∀ c ∈ i.pods, c.member = true := fun c hc => (x2 c hc).1
  have hpn := names_nodup_of_ords (fun c hc => (wfPod_member (hpods c hc) (hm c hc)).1) x3
  unfold extraMB
  rw [List.filter_eq_self.2 hm]
  simp only [Bool.and_eq_true, List.all_eq_true, decide_eq_true_eq, Bool.or_eq_true]
  refine ⟨⟨⟨⟨⟨⟨⟨⟨⟨⟨x1, ?_⟩, x3⟩, hpn⟩, ?_⟩, ?_⟩, x7⟩, x8⟩, x9⟩, x10⟩, roomMB_of_roomB hm x11⟩
  · intro c hc
    exact Or.inr (x2 c hc).2
  · intro c hc
    exact Or.inl (hm c hc)
  · intro c hc
    exact Or.inl (Or.inl (hm c hc))

theorem preNMB_of_preNB (hb : preNB h i = true) : preNMB h i = true := by
  unfold preNB at hb
  unfold preNMB
  simp only [Bool.and_eq_true] at hb ⊢
  obtain ⟨⟨⟨hpre, hmode⟩, hroom⟩, hpol⟩ := hb
  refine ⟨⟨⟨preMB_of_preCB hpre, hmode⟩, roomMB_of_roomB (members_of_preCB hpre) hroom⟩, ?_⟩
  rw [Bool.or_eq_true] at hpol ⊢
  rcases hpol with hp | hp
  · exact Or.inl hp
  · right
    unfold noFsOutB at hp
    unfold noFsOutMB
    rw [List.all_eq_true] at hp ⊢
    intro c hc
    rw [Bool.or_assoc, hp c hc, Bool.or_true]

/-- the fairness step takes a world inside `preCB` to one the argument speaks about, every pod still a member -/
theorem preM_settle_members (hb : preCB h i = true) (hroom : roomB i = true) :
    PreM (settle i) ∧ roomM (settle i) ∧ RevPrem h (settle i) ∧ mOf (settle i) = settle i :=
  have hm := members_of_preCB hb
  have ⟨hp, hrm, hr⟩ := preM_settle (preMB_of_preCB hb) (roomMB_of_roomB hm hroom)
  ⟨hp, hrm, hr, mOf_of_members (settle_members hm)⟩

end

/-- **the simulation when every pod object is a member**: one sync + apply, with the owners forgotten, is one sync + apply
    of the prepared world -/
theorem prep_sim {h : Hashing} {j : SyncIn} {G : List Rev} {upd : Rev} {cc : Int} (hp : PreM j)
    (hm : ∀ c ∈ j.pods, c.member = true)
    (hpick : PickOut h j.template (j.collisionCount.getD 0) (adoptS j.store) G upd cc)
    (hcc : cc ≠ j.collisionCount.getD 0 → j.stored.updateRev ≠ upd.name)
    (hn : NormC h (prepW h j)) (hok : hn.recon.2 = .ok) :
    ownS (applySync j [] (syncF h j [])) = applySync (prepW h j) [] (syncF h (prepW h j) []) ∧
    (syncF h j []).outcome = .ok := by
  have e : mOf j = j := mOf_of_members hm
  obtain ⟨hnM, hokM⟩ : ∃ hnM : NormC h (prepW h (mOf j)), hnM.recon.2 = .ok := by
    rw [e]; exact ⟨hn, hok⟩
  obtain ⟨hrest, hout, hA, hB⟩ := prep_simM hp hpick hcc hnM hokM
  refine ⟨?_, hout⟩
  have hpods : (ownS (applySync j [] (syncF h j []))).pods =
      (applySync (prepW h (mOf j)) [] (syncF h (prepW h (mOf j)) [])).pods := by
    rw [ownS_pods, hA, hB, own_reindex_sort_map, own_applyActs, prepW_pods, List.map_map]
    have h1 : ownM j.pods = j.pods.map own := by unfold ownM; rw [List.filter_eq_self.2 hm]
    have h2 : j.pods.map (own ∘ norm1) = j.pods.map own := by
      apply List.map_congr_left
      intro c hc
      show own (norm1 c) = own c
      rw [norm1_of_member (hm c hc) (hp.mem c hc (hm c hc)).1]
      rfl
    rw [h1, h2]
  have := eq_withPods (a := ownS (applySync j [] (syncF h j [])))
    (b := applySync (prepW h (mOf j)) [] (syncF h (prepW h (mOf j)) [])) hrest
  rw [← hpods, e] at this
  exact this.symm

end Asts.C02p
