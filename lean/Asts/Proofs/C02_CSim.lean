import Asts.Proofs.C02_CSync
import Asts.Proofs.C02_BOrphan

/-! C02, worlds with pod objects that are not members of the set: one sync + apply, restricted to the members and with the
    owners forgotten, is one sync + apply of the prepared members-only world — up to the pod ids (the ids are positions in
    the whole pod list). The other pod objects stay what they are: no members, not the set's. -/
namespace Asts.C02p
open Asts Asts.L1c

/-- the members, owned -/
def ownM (l : List CPod) : List CPod := (l.filter (·.member)).map own

theorem ownM_append (a b : List CPod) : ownM (a ++ b) = ownM a ++ ownM b := by
  unfold ownM; rw [List.filter_append, List.map_append]

theorem ownM_setPod (pods : List CPod) (p : CPod → Bool) (f f' : CPod → CPod) (hp : ∀ c, p (own c) = p c)
    (hm : ∀ c, (f c).member = c.member) (hf : ∀ c, own (f c) = f' (own c)) :
    ownM (setPod pods p f) = setPod (ownM pods) p f' := by
  unfold ownM
  have h1 : (setPod pods p f).filter (·.member) = setPod (pods.filter (·.member)) p f := by
    unfold setPod
    rw [List.filter_map]
    congr 1
    apply List.filter_congr
    intro c _
    simp only [Function.comp]
    split_ifs
    · exact hm c
    · rfl
  rw [h1]
  exact setPod_map_own _ p f f' hp hf

/-- the pod-control calls do to the members what they do in the members-only world -/
theorem ownM_applyActs (setName : String) (orig orig' : List CPod) (ho : ∀ c ∈ orig', c.owner = .self)
    (acts : List Action) (pods : List CPod) :
    ownM (applyActs setName orig pods acts) = applyActs setName orig' (ownM pods) acts := by
  induction acts generalizing pods with
  | nil => rfl
  | cons a rest ih =>
    cases a with
    | create o rev =>
      unfold applyActs
      rw [ih, ownM_append]
      rfl
    | delete o id w =>
      unfold applyActs
      rw [ih]
      congr 1
      have e : List.filter (fun c => !(c.pod.id == id && (c.pod.failed || c.pod.succeeded))) (ownM pods) =
          ownM (List.filter (fun c => !(c.pod.id == id && (c.pod.failed || c.pod.succeeded))) pods) := by
        unfold ownM
        rw [List.filter_filter, List.filter_map, List.filter_filter]
        congr 1
        apply List.filter_congr
        intro c _
        simp only [Function.comp, own]
        exact Bool.and_comm _ _
      rw [e]
      apply ownM_setPod _ _ _ _ (fun _ => rfl)
      · intro c; rfl
      · intro c; rfl
    | update o =>
      unfold applyActs
      rw [ih]
      congr 1
      apply ownM_setPod _ _ _ _ (fun _ => rfl)
      · intro c; rfl
      · intro c
        have : (orig'.find? (·.name == canonicalName setName o)).any (·.owner == .none) = false := by
          cases hf : orig'.find? (·.name == canonicalName setName o) with
          | none => rfl
          | some y =>
            have hy := List.mem_of_find?_eq_some hf
            simp [ho y hy]
        simp only [this, Bool.false_eq_true, if_false]
        rfl

/-- a non-member in the list after the calls was one before, under the same name, and is not the set's if it was not -/
theorem nonmem_applyActs (setName : String) (orig : List CPod) (acts : List Action) (pods : List CPod) :
    ∀ c ∈ applyActs setName orig pods acts, c.member = false →
      ∃ c0 ∈ pods, c0.member = false ∧ c0.name = c.name ∧ (c0.owner ≠ .self → c.owner ≠ .self) := by
  induction acts generalizing pods with
  | nil => intro c hc hm; exact ⟨c, hc, hm, rfl, fun h => h⟩
  | cons a rest ih =>
    cases a with
    | create o rev =>
      unfold applyActs
      intro c hc hm
      obtain ⟨c0, hc0, h1, h2, h3⟩ := ih _ c hc hm
      rw [List.mem_append, List.mem_singleton] at hc0
      rcases hc0 with hc0 | rfl
      · exact ⟨c0, hc0, h1, h2, h3⟩
      · cases h1
    | delete o id w =>
      unfold applyActs
      intro c hc hm
      obtain ⟨c1, hc1, h1, h2, h3⟩ := ih _ c hc hm
      obtain ⟨c0, hc0, hcc⟩ := setPod_mem hc1
      have hc0' := List.mem_of_mem_filter hc0
      rcases hcc with rfl | rfl
      · exact ⟨c0, hc0', h1, h2, h3⟩
      · exact ⟨c1, hc0', h1, h2, h3⟩
    | update o =>
      unfold applyActs
      intro c hc hm
      obtain ⟨c1, hc1, h1, h2, h3⟩ := ih _ c hc hm
      obtain ⟨c0, hc0, hcc⟩ := setPod_mem hc1
      rcases hcc with rfl | rfl
      · refine ⟨c0, hc0, h1, h2, ?_⟩
        intro hne
        apply h3
        simp only
        split_ifs
        · simp
        · exact hne
      · exact ⟨c1, hc0, h1, h2, h3⟩

theorem setPod_nonmem_names (pods : List CPod) (p : CPod → Bool) (f : CPod → CPod) (hm : ∀ c, (f c).member = c.member)
    (hn : ∀ c, (f c).name = c.name) :
    ((setPod pods p f).filter (fun c => !c.member)).map (·.name) = (pods.filter (fun c => !c.member)).map (·.name) := by
  unfold setPod
  rw [List.filter_map, List.map_map]
  have h1 : ((fun c : CPod => !c.member) ∘ fun c => if p c = true then f c else c) = fun c => !c.member := by
    funext c
    simp only [Function.comp]
    split_ifs
    · rw [hm]
    · rfl
  rw [h1]
  apply List.map_congr_left
  intro c _
  simp only [Function.comp]
  split_ifs
  · exact hn c
  · rfl

theorem setPod_nonmem_sub (pods : List CPod) (p : CPod → Bool) (f : CPod → CPod) (hm : ∀ c, (f c).member = c.member)
    (hn : ∀ c, (f c).name = c.name) :
    (((setPod pods p f).filter (fun c => !c.member)).map (·.name)).Sublist ((pods.filter (fun c => !c.member)).map (·.name)) := by
  rw [setPod_nonmem_names pods p f hm hn]

/-- the names of the non-members after the calls are among those before, each at most once -/
theorem nonmem_names_applyActs (setName : String) (orig : List CPod) (acts : List Action) (pods : List CPod) :
    (((applyActs setName orig pods acts).filter (fun c => !c.member)).map (·.name)).Sublist
      ((pods.filter (fun c => !c.member)).map (·.name)) := by
  induction acts generalizing pods with
  | nil => exact List.Sublist.refl _
  | cons a rest ih =>
    cases a with
    | create o rev =>
      unfold applyActs
      refine (ih _).trans ?_
      rw [List.filter_append]
      simp
    | delete o id w =>
      unfold applyActs
      refine (ih _).trans ?_
      refine (List.Sublist.trans (setPod_nonmem_sub _ _ _ ?_ ?_) ?_)
      · intro c; rfl
      · intro c; rfl
      · rw [List.filter_filter]
        apply List.Sublist.map
        apply List.monotone_filter_right
        intro c hc
        simp only [Bool.and_eq_true] at hc
        exact hc.1
    | update o =>
      unfold applyActs
      refine (ih _).trans ?_
      refine setPod_nonmem_sub _ _ _ ?_ ?_
      · intro c; rfl
      · intro c; rfl

section
variable {h : Hashing} {x : SyncIn} {G : List Rev} {upd : Rev} {cc : Int}

theorem mOf_pick (hpick : PickOut h x.template (x.collisionCount.getD 0) (adoptS x.store) G upd cc) :
    PickOut h (mOf x).template ((mOf x).collisionCount.getD 0) (adoptS (mOf x).store) G upd cc := hpick

/-- **one sync + apply in a world with non-members**, against the prepared members-only world: everything but the pod
    list is the same, and the pod list is the old one with the claim stage's patches and the reconcile's calls applied -/
theorem prep_simM (hp : PreM x) (hpick : PickOut h x.template (x.collisionCount.getD 0) (adoptS x.store) G upd cc)
    (hcc : cc ≠ x.collisionCount.getD 0 → x.stored.updateRev ≠ upd.name)
    (hn : NormC h (prepW h (mOf x))) (hok : hn.recon.2 = .ok) :
    ({ applySync x [] (syncF h x []) with pods := [] } : SyncIn) =
      { applySync (prepW h (mOf x)) [] (syncF h (prepW h (mOf x)) []) with pods := [] } ∧
    (syncF h x []).outcome = .ok ∧
    (applySync x [] (syncF h x [])).pods =
      reindex (sortPods (applyActs x.setName x.pods (x.pods.map norm1) hn.recon.1.acts)) ∧
    (applySync (prepW h (mOf x)) [] (syncF h (prepW h (mOf x)) [])).pods =
      reindex (sortPods (applyActs x.setName (prepW h (mOf x)).pods (prepW h (mOf x)).pods hn.recon.1.acts)) := by
  have hpc := hp.preC
  have hpickm := mOf_pick hpick
  obtain ⟨lim, hlim, _⟩ := hp.spec.lim
  obtain ⟨lg1, lg2, hlg1, hlg2, hsync⟩ := sync_preM hp hpick
  have hro : updateStatefulSet x.view
      (((sortRevs (listRevisions (adoptS x.store))).find? (·.name == x.stored.currentRev)).getD upd).name upd.name
      ((x.pods.filter (·.member)).map (·.pod)) [] = hn.recon := by
    unfold NormC.recon
    rw [prepW_curName hpc hpickm hn, prepW_updRev hpc hpickm hn]
    have : (prepW h (mOf x)).pods.map (·.pod) = (x.pods.filter (·.member)).map (·.pod) := map_own_pod _
    rw [this]
    rfl
  have hnohit : NoHit (podFaults x.setName [] x.pods (x.pods.filter (·.member))
      (maxReplicaAndSlots (replicasOf x.view) x.view.slots).1 (maxReplicaAndSlots (replicasOf x.view) x.view.slots).2)
      (idxOf (maxReplicaAndSlots (replicasOf x.view) x.view.slots).1 (maxReplicaAndSlots (replicasOf x.view) x.view.slots).2) := by
    apply podFaults_noHitM
    · intro c hc
      rw [List.mem_filter] at hc
      exact (hp.mem c hc.1 hc.2).2.2.1
    · exact hp.ords
    · intro c hc hncl hcn
      have hm : c.member = false := by
        cases hcm : c.member
        · rfl
        · exact absurd (List.mem_filter.2 ⟨hc, hcm⟩) hncl
      cases hr : inRange (maxReplicaAndSlots (replicasOf x.view) x.view.slots).1
          (maxReplicaAndSlots (replicasOf x.view) x.view.slots).2 c.pod.ord
      · rfl
      · exfalso
        have hD : c.pod.ord ∈ desired (replicasOf x.view) x.view.slots := by
          rw [desired_eq_idxOf]; exact mem_idxOf.2 hr
        exact hp.inertNames c hc hm _ hD hcn
  obtain ⟨lgR, hlgR, hrec⟩ := finishF_nilM x (x.pods.filter (·.member)) (sortRevs (listRevisions (adoptS x.store)))
    (((sortRevs (listRevisions (adoptS x.store))).find? (·.name == x.stored.currentRev)).getD upd) upd cc G
    (lg1 ++ claimLogM false x.pods ++ lg2) hnohit hp.spec.rep hp.gone lim hlim
    hpick.sub (sorted_listing_names_nodup _) hn.recon hro hok
  obtain ⟨hN, _⟩ := applySync_normC h (prepW h (mOf x)) hn hok
  have hkeep : (fun y : Rev => !((victimsOf lim ((x.pods.filter (·.member)).map (·.pod.rev))
      (sortRevs (listRevisions (adoptS x.store)))
      (((sortRevs (listRevisions (adoptS x.store))).find? (·.name == x.stored.currentRev)).getD upd) upd).map
        (·.name)).contains y.name) = hn.keep := by
    funext y; unfold NormC.keep; rw [prepW_victims hpc hpickm hn lim hlim]; rfl
  have hstore : (prepW h (mOf x)).store = G := prepW_store hpc hpickm
  have hus : hn.recon.1.status.updateRev = upd.name := by
    rw [(recon_status_names hn hok).2, prepW_updRev hpc hpickm hn]
  have hccD : (prepW h (mOf x)).collisionCount.getD 0 = cc := prepW_cc_getD hpc hpickm
  have hstored : (prepW h (mOf x)).stored = x.stored := prepW_stored h (mOf x)
  have hview : (prepW h (mOf x)).view = x.view := prepW_view h (mOf x)
  have hP1 : applyPatches [] (lg1 ++ claimLogM false x.pods ++ lg2 ++ lgR) x.pods = x.pods.map norm1 := by
    rw [applyPatches_nil, List.foldl_append, List.foldl_append, List.foldl_append, foldl_patch_noPatch lg1 hlg1,
      claimLogM_norm x.pods hp.podNames hp.flipColon, foldl_patch_noPatch lg2 hlg2, foldl_patch_noPatch lgR hlgR]
  -- the collision count is written with the status; if the status is not written, the count has not moved
  have hC : (if inconsistentStatus x.stored (completeRollingUpdate x.view hn.recon.1.status) then some cc
        else x.collisionCount) =
      (if inconsistentStatus x.stored (completeRollingUpdate x.view hn.recon.1.status) then some cc
        else (prepW h (mOf x)).collisionCount) := by
    cases hinc : inconsistentStatus x.stored (completeRollingUpdate x.view hn.recon.1.status)
    · have hcceq : cc = x.collisionCount.getD 0 := by
        by_contra hne
        unfold inconsistentStatus at hinc
        simp only [Bool.or_eq_false_iff, bne_eq_false_iff_eq] at hinc
        have h2 := hinc.2
        rw [cru_updateRev, hus] at h2
        exact hcc hne h2.symm
      rw [if_neg Bool.false_ne_true, if_neg Bool.false_ne_true, prepW_cc hpc hpickm, hcceq]
      exact (if_pos (beq_self_eq_true _)).symm
    · rfl
  refine ⟨?_, by rw [hsync, hrec], ?_, ?_⟩
  · rw [hN, hsync, hrec, applySync_ok, prepW_with, hstored, hview, hstore, ← hkeep, hccD, hC]
    rfl
  · rw [hsync, hrec]
    show reindex (sortPods (applyActs x.setName x.pods (applyPatches [] _ x.pods) (hn.recon.1.acts.take _))) = _
    rw [List.take_length, hP1]
  · rw [hN]
    rfl

end

end Asts.C02p
