import Mathlib.Tactic
import Asts.Proofs.WE_Traj

/-! # WE — indexing into the observation of a model history

`observeHist (runHistory …)` round `k` is `histRoundAt … k`; what the monitors read at position `k` (the round, the previous
round, the spec state `specAt`) in terms of the worlds of the trajectory. -/
namespace Asts.WE
open Asts

def obs1 (r : HistRound) : HRound :=
  { edits := r.edits, spec := if r.edits.isEmpty then none else some (specOfWorld r.world), obs := r.obs }

theorem observeHist_eq (hs : List HistRound) : observeHist hs = hs.map obs1 := rfl

theorem observeHist_length (hs : List HistRound) : (observeHist hs).length = hs.length := by
  rw [observeHist_eq, List.length_map]

theorem observeHist_get (hs : List HistRound) (k : Nat) : (observeHist hs)[k]? = (hs[k]?).map obs1 := by
  rw [observeHist_eq, List.getElem?_map]

theorem specAt_zero (i0 : SyncIn) (rs : List HRound) :
    specAt i0 rs 0 = match rs[0]? with | some r => r.spec.getD (specOfWorld i0) | none => specOfWorld i0 := by
  unfold specAt
  cases rs with
  | nil => rfl
  | cons r rest =>
    simp only [List.take_succ_cons, List.take_zero, List.getElem?_cons_zero]
    cases hs : r.spec <;> simp [List.filterMap_cons, hs]

theorem specAt_succ (i0 : SyncIn) (rs : List HRound) (k : Nat) :
    specAt i0 rs (k + 1) = match rs[k + 1]? with | some r => r.spec.getD (specAt i0 rs k) | none => specAt i0 rs k := by
  unfold specAt
  rw [List.take_succ (i := k + 1)]
  cases hr : rs[k + 1]? with
  | none => simp
  | some r =>
    simp only [Option.toList_some, List.filterMap_append]
    cases hs : r.spec with
    | none => simp [List.filterMap_cons, hs]
    | some s => simp [List.filterMap_cons, hs]

/-- the fields of the spec state no round changes -/
def CoreEq (s : SpecState) (w : SyncIn) : Prop :=
  s.paused = w.paused ∧ s.template = w.template ∧ s.replicas = w.view.replicas ∧ s.slots = w.view.slots ∧ s.ru = w.view.ru

theorem coreEq_specOfWorld (w : SyncIn) : CoreEq (specOfWorld w) w := ⟨rfl, rfl, rfl, rfl, rfl⟩

theorem coreEq_round {s : SpecState} {w : SyncIn} (hc : CoreEq s w) (h : Hashing) (p : List Fault) : CoreEq s (round h w p).1 := hc

section
variable (h : Hashing) (script : Script) (plan : List Fault) (i : SyncIn)

/-- world of round `k` (after its edits) -/
abbrev wAt (k : Nat) : SyncIn := (histRoundAt h script 1 plan i k).world

theorem wAt_zero : wAt h script plan i 0 = applyEdits (editsAt script 1) i := rfl

theorem wAt_succ (k : Nat) :
    wAt h script plan i (k + 1) =
      applyEdits (editsAt script (1 + (k + 1))) (round h (wAt h script plan i k) (planAt plan k)).1 := rfl

theorem obsAt (k : Nat) : (histRoundAt h script 1 plan i k).obs = (round h (wAt h script plan i k) (planAt plan k)).2 := rfl

theorem editsAt_hist (k : Nat) : (histRoundAt h script 1 plan i k).edits = editsAt script (1 + k) := rfl

/-- the fields of a world neither a round nor an edit touches -/
structure SameFrame (i w : SyncIn) : Prop where
  setName : w.setName = i.setName
  selectorOk : w.selectorOk = i.selectorOk
  historyLimit : w.historyLimit = i.historyLimit
  parallel : w.view.parallel = i.view.parallel
  strat : w.view.strat = i.view.strat
  deleting : w.view.deleting = i.view.deleting

theorem sameFrame_step {i w : SyncIn} (hf : SameFrame i w) (p : List Fault) (es : List Edit) :
    SameFrame i (applyEdits es (round h w p).1) :=
  have f := applyEdits_frame es (round h w p).1
  ⟨f.setName.trans hf.setName, f.selectorOk.trans hf.selectorOk, f.historyLimit.trans hf.historyLimit,
   f.parallel.trans hf.parallel, f.strat.trans hf.strat, f.deleting.trans hf.deleting⟩

theorem wAt_sameFrame : ∀ k, SameFrame i (wAt h script plan i k)
  | 0 =>
    have f := applyEdits_frame (editsAt script 1) i
    ⟨f.setName, f.selectorOk, f.historyLimit, f.parallel, f.strat, f.deleting⟩
  | k + 1 => sameFrame_step h (wAt_sameFrame k) _ _

theorem hist_get (fuel k : Nat) (x : HistRound) (hx : (runHistory h script fuel 1 0 i plan)[k]? = some x) :
    x = histRoundAt h script 1 plan i k := runHistory_get h script fuel 1 0 i plan k x hx

theorem observe_get (fuel k : Nat) (hk : k < (runHistory h script fuel 1 0 i plan).length) :
    (observeHist (runHistory h script fuel 1 0 i plan))[k]? = some (obs1 (histRoundAt h script 1 plan i k)) := by
  have hx : (runHistory h script fuel 1 0 i plan)[k]? = some (runHistory h script fuel 1 0 i plan)[k] := List.getElem?_eq_getElem hk
  rw [observeHist_get, hx, hist_get h script plan i fuel k _ hx]; rfl

theorem applyEdits_nonempty_spec (es : List Edit) : es.isEmpty = false → es ≠ [] := by
  intro h1 h2; rw [h2] at h1; simp at h1

/-- `specAt` on the model's observation agrees with the world of the round on the fields no round changes, and is exactly
    the spec state of that world in a round with edits -/
theorem specAt_hist (fuel : Nat) : ∀ k, k < (runHistory h script fuel 1 0 i plan).length →
    CoreEq (specAt i (observeHist (runHistory h script fuel 1 0 i plan)) k) (wAt h script plan i k) ∧
    ((histRoundAt h script 1 plan i k).edits.isEmpty = false →
      specAt i (observeHist (runHistory h script fuel 1 0 i plan)) k = specOfWorld (wAt h script plan i k))
  | 0, hk => by
    rw [specAt_zero, observe_get h script plan i fuel 0 hk]
    simp only [obs1]
    by_cases he : (histRoundAt h script 1 plan i 0).edits.isEmpty = true
    · simp only [he, if_true, Option.getD_none]
      refine ⟨?_, fun hne => absurd hne (by decide)⟩
      have : (histRoundAt h script 1 plan i 0).edits = [] := List.isEmpty_iff.mp he
      have hw : wAt h script plan i 0 = i := by
        show applyEdits (histRoundAt h script 1 plan i 0).edits i = i
        rw [this]; rfl
      rw [hw]; exact coreEq_specOfWorld i
    · simp only [he, Bool.false_eq_true, if_false, Option.getD_some]
      exact ⟨coreEq_specOfWorld _, by simp⟩
  | k + 1, hk => by
    obtain ⟨ih, _⟩ := specAt_hist fuel k (by omega)
    rw [specAt_succ, observe_get h script plan i fuel (k + 1) hk]
    simp only [obs1]
    by_cases he : (histRoundAt h script 1 plan i (k + 1)).edits.isEmpty = true
    · simp only [he, if_true, Option.getD_none]
      refine ⟨?_, fun hne => absurd hne (by decide)⟩
      have : (histRoundAt h script 1 plan i (k + 1)).edits = [] := List.isEmpty_iff.mp he
      have hw : wAt h script plan i (k + 1) = (round h (wAt h script plan i k) (planAt plan k)).1 := by
        show applyEdits (histRoundAt h script 1 plan i (k + 1)).edits _ = _
        rw [this]; rfl
      rw [hw]; exact coreEq_round ih h _
    · simp only [he, Bool.false_eq_true, if_false, Option.getD_some]
      exact ⟨coreEq_specOfWorld _, by simp⟩

end

end Asts.WE
