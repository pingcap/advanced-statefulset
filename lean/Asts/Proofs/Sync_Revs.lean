import Mathlib.Tactic
import Mathlib.Data.String.Basic
import Asts.Model.Sync

/-! # The working list of ControllerRevisions (C10, revision half)

`revLt` is the lexicographic order on (number, creation time, name), so `sortRevs` yields a sorted permutation;
`listRevisions` drops everything controlled by somebody else and lists each name once; `equalRev`, `nextRevision`,
`insertByName`. -/

namespace Asts

/-- the sort key of `SortControllerRevisions` -/
def sortKey (r : Rev) : ℤ ×ₗ ℤ ×ₗ String := toLex (r.number, toLex (r.ctime, r.name))

theorem revLt_iff_key (a b : Rev) : revLt a b = true ↔ sortKey a < sortKey b := by
  simp only [revLt, sortKey, Prod.Lex.toLex_lt_toLex, Bool.or_eq_true, Bool.and_eq_true, decide_eq_true_eq, beq_iff_eq]

theorem revLt_false_iff_key (a b : Rev) : revLt a b = false ↔ sortKey b ≤ sortKey a := by
  rw [← Bool.not_eq_true, revLt_iff_key, not_lt]

theorem sortKey_name {a b : Rev} (h : sortKey a = sortKey b) : a.name = b.name :=
  congrArg (fun k => (ofLex (ofLex k).2).2) h

theorem revLt_iff (a b : Rev) :
    revLt a b = true ↔
      a.number < b.number ∨ (a.number = b.number ∧ (a.ctime < b.ctime ∨ (a.ctime = b.ctime ∧ a.name < b.name))) := by
  simp [revLt]

theorem revLt_irrefl (a : Rev) : revLt a a = false := (revLt_false_iff_key a a).2 le_rfl

theorem revLt_trans {a b c : Rev} (h1 : revLt a b = true) (h2 : revLt b c = true) : revLt a c = true :=
  (revLt_iff_key a c).2 (lt_trans ((revLt_iff_key a b).1 h1) ((revLt_iff_key b c).1 h2))

theorem revLt_asymm {a b : Rev} (h : revLt a b = true) : revLt b a = false :=
  (revLt_false_iff_key b a).2 (le_of_lt ((revLt_iff_key a b).1 h))

/-- on revisions with different names `revLt` is total -/
theorem revLt_total {a b : Rev} (hne : a.name ≠ b.name) : revLt a b = true ∨ revLt b a = true := by
  rw [revLt_iff_key, revLt_iff_key]
  exact lt_or_gt_of_ne (fun e => hne (sortKey_name e))

/-- `¬ revLt b a` ("a is not newer than b") is transitive -/
theorem revLe_trans {a b c : Rev} (h1 : revLt b a = false) (h2 : revLt c b = false) : revLt c a = false :=
  (revLt_false_iff_key c a).2 (le_trans ((revLt_false_iff_key b a).1 h1) ((revLt_false_iff_key c b).1 h2))

theorem revLt_trans_le {r x y : Rev} (h1 : revLt r x = true) (h2 : revLt y x = false) : revLt r y = true :=
  (revLt_iff_key r y).2 (lt_of_lt_of_le ((revLt_iff_key r x).1 h1) ((revLt_false_iff_key y x).1 h2))

theorem sortRevs_cons (a : Rev) (l : List Rev) : sortRevs (a :: l) = insertRev a (sortRevs l) := by
  unfold sortRevs
  rw [List.reverse_cons, List.foldl_append]
  rfl

theorem insertRev_perm (r : Rev) (l : List Rev) : (insertRev r l).Perm (r :: l) := by
  induction l with
  | nil => exact List.Perm.refl _
  | cons q qs ih =>
    unfold insertRev
    split
    · exact List.Perm.refl _
    · exact (List.Perm.cons q ih).trans (List.Perm.swap r q qs)

theorem mem_insertRev {r x : Rev} {l : List Rev} : x ∈ insertRev r l ↔ x = r ∨ x ∈ l :=
  (insertRev_perm r l).mem_iff.trans List.mem_cons

/-- `sortRevs` neither loses nor invents nor duplicates a revision -/
theorem sortRevs_perm (l : List Rev) : (sortRevs l).Perm l := by
  induction l with
  | nil => exact List.Perm.refl _
  | cons a l ih => rw [sortRevs_cons]; exact (insertRev_perm a _).trans (List.Perm.cons a ih)

theorem mem_sortRevs {l : List Rev} {r : Rev} : r ∈ sortRevs l ↔ r ∈ l := (sortRevs_perm l).mem_iff

/-- non-descending w.r.t. `revLt`: nothing later in the list is strictly older than something earlier -/
def SortedRevs (l : List Rev) : Prop := l.Pairwise (fun a b => revLt b a = false)

theorem insertRev_sorted (r : Rev) {l : List Rev} (hs : SortedRevs l) : SortedRevs (insertRev r l) := by
  induction l with
  | nil => simp [insertRev, SortedRevs]
  | cons q qs ih =>
    unfold SortedRevs at hs ih ⊢
    rw [List.pairwise_cons] at hs
    unfold insertRev
    by_cases hlt : revLt r q = true
    · rw [if_pos hlt]
      refine List.pairwise_cons.mpr ⟨?_, List.pairwise_cons.mpr hs⟩
      intro x hx
      rcases List.mem_cons.mp hx with rfl | hx
      · exact revLt_asymm hlt
      · exact revLe_trans (revLt_asymm hlt) (hs.1 x hx)
    · rw [if_neg hlt]
      refine List.pairwise_cons.mpr ⟨?_, ih hs.2⟩
      intro x hx
      rcases mem_insertRev.mp hx with rfl | hx
      · simpa using hlt
      · exact hs.1 x hx

/-- the output of `sortRevs` is sorted (oldest first) by (revision number, creation time, name) -/
theorem sortRevs_sorted (l : List Rev) : SortedRevs (sortRevs l) := by
  induction l with
  | nil => simp [sortRevs, SortedRevs]
  | cons r rs ih => rw [sortRevs_cons]; exact insertRev_sorted r ih

theorem sortRevs_names_nodup {l : List Rev} (h : (l.map (·.name)).Nodup) : ((sortRevs l).map (·.name)).Nodup :=
  ((sortRevs_perm l).map _).nodup_iff.mpr h

/-- with distinct names the sort is strict: each revision is strictly older than all that follow -/
theorem sorted_strict {l : List Rev} (hs : SortedRevs l) (hn : (l.map (·.name)).Nodup) :
    l.Pairwise (fun a b => revLt a b = true) := by
  induction l with
  | nil => exact List.Pairwise.nil
  | cons q qs ih =>
    unfold SortedRevs at hs
    rw [List.pairwise_cons] at hs
    rw [List.map_cons, List.nodup_cons] at hn
    refine List.pairwise_cons.mpr ⟨?_, ih hs.2 hn.2⟩
    intro x hx
    have hne : q.name ≠ x.name := fun e => hn.1 (e ▸ List.mem_map_of_mem hx)
    rcases revLt_total hne with h | h
    · exact h
    · rw [hs.1 x hx] at h; exact absurd h (by decide)

/-- two sorted lists with the same members and distinct names are equal -/
theorem sorted_unique {l1 l2 : List Rev} (h1 : SortedRevs l1) (h2 : SortedRevs l2)
    (hn : (l1.map (·.name)).Nodup) (hp : l1.Perm l2) : l1 = l2 := by
  have hn2 : (l2.map (·.name)).Nodup := (hp.map _).nodup_iff.1 hn
  have s1 := sorted_strict h1 hn
  have s2 := sorted_strict h2 hn2
  refine List.Perm.eq_of_pairwise ?_ s1 s2 hp
  intro a b _ _ hab hba
  rw [revLt_asymm hab] at hba
  cases hba

/-- appending a revision whose number is above all the others keeps a list sorted -/
theorem sorted_snoc {l : List Rev} (hl : SortedRevs l) {x : Rev} (hx : ∀ r ∈ l, r.number < x.number) :
    SortedRevs (l ++ [x]) := by
  unfold SortedRevs at *
  rw [List.pairwise_append]
  refine ⟨hl, List.pairwise_singleton _ _, ?_⟩
  intro a ha b hb
  rw [List.mem_singleton] at hb
  subst hb
  have := hx a ha
  cases hlt : revLt b a
  · rfl
  · rw [revLt_iff] at hlt
    omega

theorem sorted_filter {l : List Rev} (hl : SortedRevs l) (p : Rev → Bool) : SortedRevs (l.filter p) :=
  List.Pairwise.sublist List.filter_sublist hl

/-- the last element of a sorted list carries the largest revision number -/
theorem sorted_getLast_max {l : List Rev} (hs : SortedRevs l) {m : Rev} (hm : l.getLast? = some m) :
    ∀ r ∈ l, r.number ≤ m.number := by
  induction l with
  | nil => simp at hm
  | cons q qs ih =>
    unfold SortedRevs at hs
    rw [List.pairwise_cons] at hs
    intro r hr
    cases qs with
    | nil =>
      simp at hm hr; subst hm; subst hr; exact le_refl _
    | cons q' qs' =>
      rw [List.getLast?_cons_cons] at hm
      rcases List.mem_cons.mp hr with rfl | hr
      · have hmem : m ∈ q' :: qs' := List.mem_of_getLast? hm
        have := hs.1 m hmem
        have e := (revLt_iff m r).not.mp (by simp [this])
        push Not at e
        exact e.1
      · exact ih hs.2 hm r hr

theorem nextRevision_gt {l : List Rev} (hs : SortedRevs l) : ∀ r ∈ l, r.number < nextRevision l := by
  intro r hr
  unfold nextRevision
  cases hm : l.getLast? with
  | none => rw [List.getLast?_eq_none_iff] at hm; subst hm; simp at hr
  | some m => have := sorted_getLast_max hs hm r hr; simp only; omega

theorem dedupByName_spec (l : List Rev) (seen : List String) :
    ((dedupByName l seen).map (·.name)).Nodup ∧ (∀ r ∈ dedupByName l seen, r ∈ l ∧ r.name ∉ seen) := by
  induction l generalizing seen with
  | nil => simp [dedupByName]
  | cons r rs ih =>
    simp only [dedupByName]
    split
    · rename_i h
      obtain ⟨h1, h2⟩ := ih seen
      exact ⟨h1, fun x hx => ⟨List.mem_cons_of_mem _ (h2 x hx).1, (h2 x hx).2⟩⟩
    · rename_i h
      obtain ⟨h1, h2⟩ := ih (r.name :: seen)
      refine ⟨?_, ?_⟩
      · rw [List.map_cons, List.nodup_cons]
        refine ⟨?_, h1⟩
        intro hmem
        obtain ⟨x, hx, hxe⟩ := List.mem_map.mp hmem
        exact (h2 x hx).2 (by rw [hxe]; exact List.mem_cons_self)
      · intro x hx
        rcases List.mem_cons.mp hx with rfl | hx
        · exact ⟨List.mem_cons_self, by simpa using h⟩
        · exact ⟨List.mem_cons_of_mem _ (h2 x hx).1, fun hs => (h2 x hx).2 (List.mem_cons_of_mem _ hs)⟩

/-- every name not yet seen that occurs in `l` is kept once, namely its first occurrence -/
theorem dedupByName_complete (l : List Rev) (seen : List String) {n : String} (hn : n ∈ l.map (·.name)) (hs : n ∉ seen) :
    n ∈ (dedupByName l seen).map (·.name) := by
  induction l generalizing seen with
  | nil => simp at hn
  | cons r rs ih =>
    simp only [dedupByName]
    by_cases hr : r.name = n
    · subst hr
      rw [if_neg (by simpa using hs), List.map_cons]
      exact List.mem_cons_self
    · have hn' : n ∈ rs.map (·.name) := by
        rw [List.map_cons, List.mem_cons] at hn
        rcases hn with e | hn
        · exact absurd e.symm hr
        · exact hn
      split
      · exact ih seen hn' hs
      · rw [List.map_cons]
        exact List.mem_cons_of_mem _ (ih (r.name :: seen) hn' (by
          intro h; rcases List.mem_cons.mp h with e | h
          · exact hr e.symm
          · exact hs h))

/-- `ListRevisions` yields each name at most once -/
theorem listRevisions_nodup (store : List Rev) : ((listRevisions store).map (·.name)).Nodup := by
  unfold listRevisions
  exact List.Nodup.sublist (List.Sublist.map _ List.filter_sublist) (dedupByName_spec _ _).1

/-- what is listed is stored, matches the selector or carries the marker, and is not controlled by somebody else -/
theorem mem_listRevisions {store : List Rev} {r : Rev} (h : r ∈ listRevisions store) :
    r ∈ store ∧ (r.selMatch = true ∨ r.marker = true) ∧ r.owner ≠ .other := by
  unfold listRevisions at h
  rw [List.mem_filter] at h
  obtain ⟨h1, h2⟩ := h
  have := ((dedupByName_spec _ _).2 r h1).1
  rw [List.mem_append, List.mem_filter, List.mem_filter] at this
  refine ⟨?_, ?_, by simpa using h2⟩
  · rcases this with h | h <;> exact h.1
  · rcases this with h | h
    · exact Or.inl h.2
    · exact Or.inr h.2

/-- the sorted listing the reconcile works on has distinct names -/
theorem sorted_listing_names_nodup (store : List Rev) : ((sortRevs (listRevisions store)).map (·.name)).Nodup :=
  sortRevs_names_nodup (listRevisions_nodup store)

/-- with distinct store names, the listing is exactly the stored revisions that match (selector or marker) and are not
    controlled by somebody else -/
theorem mem_listRevisions_iff {store : List Rev} (hn : (store.map (·.name)).Nodup) {r : Rev} :
    r ∈ listRevisions store ↔ r ∈ store ∧ (r.selMatch = true ∨ r.marker = true) ∧ r.owner ≠ .other := by
  refine ⟨mem_listRevisions, ?_⟩
  rintro ⟨h1, h2, h3⟩
  unfold listRevisions
  rw [List.mem_filter]
  refine ⟨?_, by simpa using h3⟩
  have hmem : r ∈ store.filter (·.selMatch) ++ store.filter (·.marker) := by
    rw [List.mem_append, List.mem_filter, List.mem_filter]
    rcases h2 with h | h
    · exact Or.inl ⟨h1, h⟩
    · exact Or.inr ⟨h1, h⟩
  have := dedupByName_complete _ [] (List.mem_map_of_mem (f := (·.name)) hmem) (by simp)
  obtain ⟨x, hx, hxe⟩ := List.mem_map.mp this
  have hx' := ((dedupByName_spec _ _).2 x hx).1
  have hxs : x ∈ store := by
    rw [List.mem_append, List.mem_filter, List.mem_filter] at hx'
    rcases hx' with h | h <;> exact h.1
  have : x = r := List.inj_on_of_nodup_map hn hxs h1 hxe
  exact this ▸ hx

theorem equalRev_data {a b : Rev} (h : equalRev a b = true) : a.data = b.data :=
  eq_of_beq ((Bool.and_eq_true _ _).mp h).2

theorem equalRev_iff_of_nonnumeric {a b : Rev} (h : a.hashNum = none ∨ b.hashNum = none) :
    equalRev a b = true ↔ a.data = b.data := by
  unfold equalRev
  rcases h with h | h
  · rw [h]; simp
  · rw [h]; cases a.hashNum <;> simp

theorem equalRev_iff (a b : Rev) :
    equalRev a b = true ↔ a.data = b.data ∧ ∀ x y, a.hashNum = some x → b.hashNum = some y → x = y := by
  unfold equalRev
  cases a.hashNum <;> cases b.hashNum <;> simp [and_comm]

theorem insertByName_perm (r : Rev) (l : List Rev) : (insertByName r l).Perm (r :: l) := by
  induction l with
  | nil => simp [insertByName]
  | cons q qs ih =>
    simp only [insertByName]
    split
    · exact List.Perm.refl _
    · exact (List.Perm.cons q ih).trans (List.Perm.swap r q qs)

theorem mem_insertByName {r x : Rev} {l : List Rev} : x ∈ insertByName r l ↔ x = r ∨ x ∈ l := by
  rw [(insertByName_perm r l).mem_iff, List.mem_cons]

theorem equalRev_refl (a : Rev) : equalRev a a = true := by
  unfold equalRev; cases a.hashNum <;> simp

theorem getLast?_filter_of_last {α} {p : α → Bool} {l : List α} {x : α} (hl : l.getLast? = some x) (hp : p x = true) :
    (l.filter p).getLast? = some x := by
  obtain ⟨ys, rfl⟩ := List.getLast?_eq_some_iff.1 hl
  rw [List.filter_append]
  simp [hp]

/-- `nextRevision` reads nothing but the number of a revision on the list it is given -/
theorem nextRevision_mem (sorted : List Rev) :
    nextRevision sorted = 1 ∨ ∃ r ∈ sorted, nextRevision sorted = r.number + 1 := by
  unfold nextRevision
  cases h : sorted.getLast? with
  | none => exact Or.inl rfl
  | some r => exact Or.inr ⟨r, List.mem_of_getLast? h, rfl⟩

/-- (5) for the list the reconcile works with: sorted working list — no foreign revision, names distinct, all stored -/
theorem sorted_listing_spec (store : List Rev) :
    (∀ r ∈ sortRevs (listRevisions store), r.owner ≠ .other ∧ r ∈ store ∧ (r.selMatch = true ∨ r.marker = true)) ∧
    ((sortRevs (listRevisions store)).map (·.name)).Nodup := by
  refine ⟨fun r hr => ?_, sorted_listing_names_nodup store⟩
  obtain ⟨h1, h2, h3⟩ := mem_listRevisions (mem_sortRevs.1 hr)
  exact ⟨h3, h1, h2⟩

end Asts
