import Asts.Model.Annot
import Asts.Spec.Annot
import Asts.Proofs.Ordinals
import Asts.Proofs.JsonInts
import Mathlib.Tactic

namespace Asts.Annot
open Asts List

theorem lookup_erase_self (k : String) (l : Entries) : lookup k (erase k l) = none := by
  induction l with
  | nil => simp [erase, lookup]
  | cons e es ih =>
    obtain ⟨k', v⟩ := e
    by_cases h : k' = k
    · simpa [erase, List.filter_cons, h] using ih
    · simp only [erase, List.filter_cons, ne_eq, h, not_false_eq_true, decide_true, ite_true, lookup, if_false]
      simpa [erase] using ih

theorem lookup_erase_ne {k k' : String} (h : k' ≠ k) (l : Entries) : lookup k' (erase k l) = lookup k' l := by
  induction l with
  | nil => simp [erase, lookup]
  | cons e es ih =>
    obtain ⟨k₀, v⟩ := e
    by_cases h0 : k₀ = k
    · have : k₀ ≠ k' := by rw [h0]; exact fun e => h e.symm
      simp only [erase, List.filter_cons, ne_eq, h0, not_true_eq_false, decide_false, lookup]
      rw [h0] at this
      simp only [this, if_false]
      simpa [erase] using ih
    · simp only [erase, List.filter_cons, ne_eq, h0, not_false_eq_true, decide_true, ite_true, lookup]
      by_cases h1 : k₀ = k'
      · simp [h1]
      · simp only [h1, if_false]; simpa [erase] using ih

theorem lookup_insert_self (k : String) (v : List Char) (l : Entries) : lookup k (insert k v l) = some v := by
  simp [insert, lookup]

theorem lookup_insert_ne {k k' : String} (h : k' ≠ k) (v : List Char) (l : Entries) :
    lookup k' (insert k v l) = lookup k' l := by
  have : k ≠ k' := fun e => h e.symm
  simp only [insert, lookup, this, if_false]
  exact lookup_erase_ne h l

theorem others_erase (k : String) (l : Entries) : Spec.others k (erase k l) = Spec.others k l := by
  simp [Spec.others, erase, List.filter_filter]

theorem others_insert (k : String) (v : List Char) (l : Entries) : Spec.others k (insert k v l) = Spec.others k l := by
  simp [Spec.others, insert, erase, List.filter_filter]

theorem hasKey_erase (k : String) (l : Entries) : Spec.hasKey k (erase k l) = false := by
  simp [Spec.hasKey, erase]

theorem insertSorted_lt_all {x : Int} {l : List Int} (h : ∀ y ∈ l, x < y) : insertSorted x l = x :: l := by
  cases l with
  | nil => rfl
  | cons a as => simp [insertSorted, h a (by simp)]

theorem dedupSort_of_sorted {l : List Int} (h : l.Pairwise (· < ·)) : dedupSort l = l := by
  induction l with
  | nil => rfl
  | cons a as ih =>
    rw [List.pairwise_cons] at h
    have : dedupSort (a :: as) = insertSorted a (dedupSort as) := by simp [dedupSort]
    rw [this, ih h.2, insertSorted_lt_all h.1]

theorem dedupSort_idem (l : List Int) : dedupSort (dedupSort l) = dedupSort l :=
  dedupSort_of_sorted (sorted_dedupSort l)

theorem dedupSort_eq_nil {l : List Int} : dedupSort l = [] ↔ l = [] := by
  constructor
  · intro h
    cases l with
    | nil => rfl
    | cons a as =>
      have : a ∈ dedupSort (a :: as) := mem_dedupSort.2 (by simp)
      rw [h] at this; simp at this
  · rintro rfl; rfl

theorem sameSet_iff {a b : List Int} : Spec.sameSet a b = true ↔ ∀ x, x ∈ a ↔ x ∈ b := by
  simp only [Spec.sameSet, Bool.and_eq_true, List.all_eq_true, List.contains_iff_mem]
  constructor
  · rintro ⟨h1, h2⟩ x; exact ⟨h1 x, h2 x⟩
  · intro h; exact ⟨fun x hx => (h x).1 hx, fun x hx => (h x).2 hx⟩

theorem sameSet_dedupSort (l : List Int) : Spec.sameSet (dedupSort l) l = true :=
  sameSet_iff.2 fun _ => mem_dedupSort

open JsonInts in
theorem intLit_int32 {neg : Bool} {ds rest r : List Char} {v : Int} (h : intLit neg ds rest = some (v, r)) :
    inInt32 v = true := by
  unfold intLit at h
  split at h
  · exact absurd h nofun
  · simp only [Option.ite_none_left_eq_some, Option.ite_none_right_eq_some, Option.some.injEq, Prod.mk.injEq] at h
    obtain ⟨_, _, hv, rfl, _⟩ := h
    exact hv

open JsonInts in
theorem parseElem_int32 {cs rest : List Char} {v : Int} (h : parseElem cs = some (v, rest)) : inInt32 v = true := by
  unfold parseElem at h
  split at h
  · obtain ⟨rfl, _⟩ := Prod.mk.inj (Option.some.inj h)
    rfl
  · exact intLit_int32 h

open JsonInts in
theorem int32_cons_map {v : Int} {o : Option (List Int)} {l : List Int} (hv : inInt32 v = true)
    (ho : ∀ tl, o = some tl → ∀ x ∈ tl, inInt32 x = true) (h : o.map (v :: ·) = some l) : ∀ x ∈ l, inInt32 x = true := by
  obtain ⟨tl, rfl, rfl⟩ := Option.map_eq_some_iff.mp h
  intro x hx
  rcases List.mem_cons.1 hx with rfl | hx
  · exact hv
  · exact ho tl rfl x hx

open JsonInts in
theorem parseRest_int32 : ∀ (fuel : Nat) (cs : List Char) (l : List Int), parseRest fuel cs = some l → ∀ x ∈ l, inInt32 x = true
  | 0, _, _, h => by simp [parseRest] at h
  | fuel + 1, cs, l, h => by
    unfold parseRest at h
    split at h
    · split_ifs at h; simp only [Option.some.injEq] at h; subst h; simp
    · split at h
      · rename_i v rest' he
        exact int32_cons_map (parseElem_int32 he) (parseRest_int32 fuel rest') h
      · simp at h
    · simp at h

open JsonInts in
theorem parse_int32 {cs : List Char} {l : List Int} (h : parse cs = some l) : ∀ x ∈ l, inInt32 x = true := by
  unfold parse at h
  split at h
  · split_ifs at h; simp only [Option.some.injEq] at h; subst h; simp
  · split at h
    · split_ifs at h; simp only [Option.some.injEq] at h; subst h; simp
    · split at h
      · rename_i v rest' he
        exact int32_cons_map (parseElem_int32 he) (parseRest_int32 _ rest') h
      · simp at h
  · simp at h

theorem slotsOfValue_int32 (v : Option (List Char)) : ∀ x ∈ slotsOfValue v, JsonInts.inInt32 x = true := by
  unfold slotsOfValue
  split
  · simp
  · split
    · rename_i xs hp
      intro x hx; exact parse_int32 hp x (mem_dedupSort.1 hx)
    · simp

theorem getSlots_int32 (m : Ann) : ∀ x ∈ getSlots m, JsonInts.inInt32 x = true := slotsOfValue_int32 _

theorem slotsOfValue_render {s : List Int} (hs : ∀ x ∈ s, JsonInts.inInt32 x = true) :
    slotsOfValue (some (JsonInts.render (dedupSort s))) = dedupSort s := by
  have : JsonInts.parse (JsonInts.render (dedupSort s)) = some (dedupSort s) :=
    JsonInts.parse_render _ (fun x hx => hs x (mem_dedupSort.1 hx))
  simp [slotsOfValue, this, dedupSort_idem]

/-- `GetDeleteSlots ∘ SetDeleteSlots` is the identity on sets of int32 (as sorted duplicate-free lists) -/
theorem getSlots_setSlots (m : Ann) (s : List Int) (hs : ∀ x ∈ s, JsonInts.inInt32 x = true) :
    getSlots (setSlots m (some s)) = dedupSort s := by
  unfold setSlots
  simp only [Option.getD_some]
  split_ifs with h
  · rw [h]
    cases m with
    | none => rfl
    | some l => simp [getSlots, lookupA, lookup_erase_self, slotsOfValue]
  · simp only [getSlots, lookupA, lookup_insert_self]
    exact slotsOfValue_render hs

/-- a nil set behaves as the empty set -/
theorem getSlots_setSlots_nil (m : Ann) : getSlots (setSlots m none) = [] := by
  have := getSlots_setSlots m [] (by simp)
  have hd : dedupSort ([] : List Int) = [] := rfl
  rw [hd] at this
  simpa [setSlots] using this

/-- `AddDeleteSlots` yields the union -/
theorem getSlots_addSlots (m : Ann) (s : Option (List Int)) (hs : ∀ x ∈ s.getD [], JsonInts.inInt32 x = true) :
    getSlots (addSlots m s) = dedupSort (getSlots m ++ s.getD []) := by
  unfold addSlots
  apply getSlots_setSlots
  intro x hx
  rcases List.mem_append.1 hx with hx | hx
  · exact getSlots_int32 m x hx
  · exact hs x hx

/-- no other annotation is disturbed by `SetDeleteSlots` -/
theorem setSlots_others (m : Ann) (s : Option (List Int)) {k : String} (hk : k ≠ slotsKey) :
    lookupA k (setSlots m s) = lookupA k m := by
  unfold setSlots
  simp only
  split_ifs with h
  · cases m with
    | none => rfl
    | some l => simp [lookupA, lookup_erase_ne hk]
  · cases m with
    | none => simp [lookupA, lookup_insert_ne hk, lookup]
    | some l => simp [lookupA, lookup_insert_ne hk]

theorem addSlots_others (m : Ann) (s : Option (List Int)) {k : String} (hk : k ≠ slotsKey) :
    lookupA k (addSlots m s) = lookupA k m := setSlots_others m _ hk

theorem setPaused_others (m : Ann) (b : Bool) {k : String} (hk : k ≠ pausedKey) :
    lookupA k (setPaused m b) = lookupA k m := by
  unfold setPaused
  cases b <;> cases m <;> simp [lookupA, lookup_insert_ne hk, lookup_erase_ne hk, lookup]

theorem getPaused_setPaused (m : Ann) (b : Bool) : getPaused (setPaused m b) = b := by
  unfold getPaused setPaused
  cases b <;> simp [lookupA, lookup_insert_self, lookup_erase_self]

theorem getSlots_setPaused (m : Ann) (b : Bool) : getSlots (setPaused m b) = getSlots m := by
  unfold getSlots; rw [setPaused_others m b (by decide)]

theorem getPaused_setSlots (m : Ann) (s : Option (List Int)) : getPaused (setSlots m s) = getPaused m := by
  unfold getPaused; rw [setSlots_others m s (by decide)]

theorem getPaused_addSlots (m : Ann) (s : Option (List Int)) : getPaused (addSlots m s) = getPaused m :=
  getPaused_setSlots m _

theorem setSlots_entries_others (m : Ann) (s : Option (List Int)) :
    Spec.others slotsKey ((setSlots m s).getD []) = Spec.others slotsKey (m.getD []) := by
  unfold setSlots
  simp only
  split_ifs with h
  · cases m with
    | none => rfl
    | some l => simp [others_erase]
  · simp [others_insert]

theorem setPaused_entries_others (m : Ann) (b : Bool) :
    Spec.others pausedKey ((setPaused m b).getD []) = Spec.others pausedKey (m.getD []) := by
  unfold setPaused
  cases b <;> simp [others_insert, others_erase]

theorem getSlots_setSlots' (m : Ann) (s : Option (List Int)) (hs : ∀ x ∈ s.getD [], JsonInts.inInt32 x = true) :
    getSlots (setSlots m s) = dedupSort (s.getD []) := by
  cases s with
  | none => simpa [dedupSort] using getSlots_setSlots_nil m
  | some l => exact getSlots_setSlots m l hs

theorem hasKey_setSlots_empty (m : Ann) (s : Option (List Int)) (hs : s.getD [] = []) :
    Spec.hasKey slotsKey ((setSlots m s).getD []) = false := by
  unfold setSlots
  rw [hs]
  cases m with
  | none => simp [dedupSort, Spec.hasKey]
  | some l => simp [dedupSort, hasKey_erase]

/-- every clause of the monitor holds on one step of the model, for every map and every call with int32 slots -/
theorem stepOk_model (m : Ann) (op : Op) (h : Spec.opInt32 op = true) :
    Spec.stepOk (view m) op (ret m op) (view (apply m op)) = true := by
  cases op with
  | set s =>
    have hs : ∀ x ∈ s.getD [], JsonInts.inInt32 x = true := by
      simpa [Spec.opInt32, Spec.argOf, List.all_eq_true] using h
    have h1 := getSlots_setSlots' m s hs
    have h2 := setSlots_entries_others m s
    have h3 : (s.getD []).isEmpty = true → Spec.hasKey slotsKey ((setSlots m s).getD []) = false := by
      intro he; exact hasKey_setSlots_empty m s (List.isEmpty_iff.1 he)
    simp only [Spec.stepOk, Spec.clauses, List.all_cons, List.all_nil, Bool.and_true, Bool.and_eq_true,
      Spec.setReadBack, Spec.setEmptyRemoves, Spec.addIsUnion, Spec.pauseReadBack, Spec.othersUntouched, Spec.retOk,
      view, apply, ret, Spec.argOf, h1, h2, sameSet_dedupSort, beq_self_eq_true, true_and]
    cases he : (s.getD []).isEmpty
    · simp
    · simp [h3 he]
  | add s =>
    have hs : ∀ x ∈ s.getD [], JsonInts.inInt32 x = true := by
      simpa [Spec.opInt32, Spec.argOf, List.all_eq_true] using h
    have h1 := getSlots_addSlots m s hs
    have h2 : Spec.others slotsKey ((addSlots m s).getD []) = Spec.others slotsKey (m.getD []) :=
      setSlots_entries_others m _
    simp [Spec.stepOk, Spec.clauses, Spec.setReadBack, Spec.setEmptyRemoves, Spec.addIsUnion, Spec.pauseReadBack,
      Spec.othersUntouched, Spec.retOk, view, apply, ret, Spec.argOf, h1, h2, sameSet_dedupSort]
  | get =>
    simp [Spec.stepOk, Spec.clauses, Spec.setReadBack, Spec.setEmptyRemoves, Spec.addIsUnion, Spec.pauseReadBack,
      Spec.othersUntouched, Spec.retOk, view, apply, ret]
  | pause b =>
    have h1 := getPaused_setPaused m b
    have h2 := setPaused_entries_others m b
    simp [Spec.stepOk, Spec.clauses, Spec.setReadBack, Spec.setEmptyRemoves, Spec.addIsUnion, Spec.pauseReadBack,
      Spec.othersUntouched, Spec.retOk, view, apply, ret, h1, h2]
  | isPaused =>
    simp [Spec.stepOk, Spec.clauses, Spec.setReadBack, Spec.setEmptyRemoves, Spec.addIsUnion, Spec.pauseReadBack,
      Spec.othersUntouched, Spec.retOk, view, apply, ret]

end Asts.Annot
