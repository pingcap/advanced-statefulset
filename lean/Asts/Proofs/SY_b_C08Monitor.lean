import Asts.Proofs.SY_b_Annotate

/-! The monitor `Spec.C08` on the model: `C08 h i (syncF h i plan).observe = true`, clause by clause. -/
namespace Asts.SYb
open Asts

def isRevCreate (en : Entry) : Bool := en.res == "rev" && en.verb == "create"

theorem not_revCreate_of_shape {e : String} (hs : AnyShape e) (hp : pre "create:rev:" e = false) :
    isRevCreate (parseEntry e) = false := by
  cases hd : isRevCreate (parseEntry e)
  · rfl
  · rw [isRevCreate, Bool.and_eq_true, beq_iff_eq, beq_iff_eq] at hd
    rw [pre_of_parse hs pre_create_rev (Or.inl rfl) hd.2 hd.1] at hp
    exact absurd hp (by simp)

def obsUpd (i : SyncIn) (o : SyncObs) : String := match o.status with | some s => s.updateRev | none => i.stored.updateRev
def ran (i : SyncIn) (o : SyncObs) : Bool := o.out == "ok" && !i.paused && i.selectorOk
def noRevCreate (o : SyncObs) : Bool := (o.log.map parseEntry).all (fun e => !(e.res == "rev" && e.verb == "create"))
def compatWith (h : Hashing) (i : SyncIn) (r : Rev) : Bool :=
  match r.hashNum, h.hashNumOf i.template (i.collisionCount.getD 0) with | some a, some b => a == b | _, _ => true

/-- clause 1 of `Spec.C08`: after a successful reconcile the update revision is stored and records the current template -/
def C08stored (i : SyncIn) (o : SyncObs) : Bool :=
  if ran i o then (o.revs.find? (·.name == obsUpd i o)).any (fun d => d.data == i.template) else true
/-- clause 2: every revision that is still there records what it recorded before -/
def C08kept (i : SyncIn) (o : SyncObs) : Bool :=
  i.store.all (fun r => (o.revs.find? (·.name == r.name)).all (fun d => d.data == r.data))
/-- clause 3: an unchanged template adds no revision -/
def C08unchanged (h : Hashing) (i : SyncIn) (o : SyncObs) : Bool :=
  match (sortRevs (listRevisions i.store)).getLast? with
  | some l => if l.data == i.template && compatWith h i l then noRevCreate o else true
  | none => true
/-- clause 4: reverting re-uses the earlier revision, renumbered above all others -/
def C08revert (h : Hashing) (i : SyncIn) (o : SyncObs) : Bool :=
  if (listRevisions i.store).any (fun r => r.data == i.template && compatWith h i r) then
    noRevCreate o &&
    (if ran i o then
      (o.revs.find? (·.name == obsUpd i o)).any (fun d => (listRevisions i.store).all (fun r => r.name == obsUpd i o || (o.revs.find? (·.name == r.name)).all (fun q => q.number ≤ d.number)))
     else true)
  else true

theorem C08_split (h : Hashing) (i : SyncIn) (o : SyncObs) :
    C08 h i o = (C08stored i o && C08kept i o && C08unchanged h i o && C08revert h i o) := rfl

def toD (r : Rev) : RevD :=
  { name := r.name, number := r.number, owner := r.owner, sel := r.selMatch, marker := r.marker, data := r.data }

theorem observe_revs (o : SyncOut) : o.observe.revs = o.store.map toD := rfl
theorem observe_log (o : SyncOut) : o.observe.log = o.log := rfl
theorem observe_status (o : SyncOut) : o.observe.status = o.status := rfl

theorem observe_out_ok (o : SyncOut) : (o.observe.out == "ok") = true ↔ o.outcome = .ok := by
  unfold SyncOut.observe
  cases o.outcome <;> simp

theorem obsUpd_observe (i : SyncIn) (o : SyncOut) : obsUpd i o.observe = reportedUpd i o := rfl

theorem ran_observe (i : SyncIn) (o : SyncOut) :
    ran i o.observe = true ↔ o.outcome = .ok ∧ (i.paused || !i.selectorOk) = false := by
  unfold ran
  rw [Bool.and_eq_true, Bool.and_eq_true, observe_out_ok]
  cases i.paused <;> cases i.selectorOk <;> simp

theorem find?_toD (l : List Rev) (n : String) : (l.map toD).find? (·.name == n) = (l.find? (·.name == n)).map toD := by
  rw [List.find?_map]; rfl

theorem find?_some_of_nodup {l : List Rev} (hn : (l.map (·.name)).Nodup) {x : Rev} (hx : x ∈ l) {n : String} (hxn : x.name = n) :
    l.find? (·.name == n) = some x := hxn ▸ find?_of_names_nodup hn hx

theorem find?_name {l : List Rev} {n : String} {q : Rev} (h : l.find? (·.name == n) = some q) : q ∈ l ∧ q.name = n :=
  ⟨List.mem_of_find?_eq_some h, by have := List.find?_some h; simpa using this⟩

theorem C08stored_model (h : Hashing) (i : SyncIn) (plan : List Fault) (hn : (i.store.map (·.name)).Nodup) :
    C08stored i (syncF h i plan).observe = true := by
  unfold C08stored
  split
  · rename_i hr
    obtain ⟨hok, hrun⟩ := (ran_observe i _).mp hr
    obtain ⟨u, hu, _, h2, h3⟩ := sync_ok_upd_stored h i plan hrun hok
    rw [observe_revs, obsUpd_observe, find?_toD, find?_some_of_nodup (sync_names_nodup h i plan hn) hu h2]
    simp [toD, h3]
  · rfl

theorem C08kept_model (h : Hashing) (i : SyncIn) (plan : List Fault) (hn : (i.store.map (·.name)).Nodup) :
    C08kept i (syncF h i plan).observe = true := by
  unfold C08kept
  rw [List.all_eq_true]
  intro r hr
  rw [observe_revs, find?_toD]
  cases hf : (syncF h i plan).store.find? (·.name == r.name) with
  | none => rfl
  | some q =>
    obtain ⟨hq, hqn⟩ := find?_name hf
    have : q.data = r.data := by
      rcases sync_store_evolved h i plan q hq with ⟨x', hx', h1, h2, _⟩ | ⟨h1, _⟩
      · have : x' = r := List.inj_on_of_nodup_map hn hx' hr (h1.symm.trans hqn)
        rw [h2, this]
      · exact absurd (hqn ▸ List.mem_map_of_mem (f := (·.name)) hr) h1
    simp [toD, this]

/-! ## clauses 3 and 4: no Create when a listed revision equals the fresh one -/

theorem noRevCreate_of_filter (h : Hashing) (i : SyncIn) (plan : List Fault)
    (hf : (syncF h i plan).log.filter (pre "create:rev:") = []) : noRevCreate (syncF h i plan).observe = true := by
  unfold noRevCreate
  rw [observe_log, List.all_eq_true]
  intro en hen
  obtain ⟨e, he, rfl⟩ := List.mem_map.mp hen
  have hp : pre "create:rev:" e = false := by
    rw [List.filter_eq_nil_iff] at hf
    simpa using hf e he
  have := not_revCreate_of_shape (sync_log_shapes h i plan e he) hp
  unfold isRevCreate at this
  rw [this]; rfl

/-- a revision listed from the initial store is, after adoption, still listed: same name, number, data, hash label -/
theorem listed_adopted {plan : List Fault} {i : SyncIn} (hn : (i.store.map (·.name)).Nodup) {l : Rev}
    (hl : l ∈ listRevisions i.store) : ∃ r ∈ listRevisions (adoptedStore plan i), core r = core l := by
  obtain ⟨h1, h2, h3⟩ := mem_listRevisions hl
  obtain ⟨r, hr, hc, ho, hs⟩ := (adoptedStore_adopted plan i).mem' h1
  have hnA : ((adoptedStore plan i).map (·.name)).Nodup := by rw [(adoptedStore_adopted plan i).names]; exact hn
  refine ⟨r, (mem_listRevisions_iff hnA).mpr ⟨hr, ?_, ?_⟩, hc⟩
  · rcases h2 with h2 | h2
    · exact Or.inl (hs h2)
    · right
      have : r.marker = l.marker := congrArg (fun p => p.2.2.2.2.2) hc
      rw [this]; exact h2
  · rcases ho with ho | ho
    · rw [ho]; exact h3
    · rw [ho]; simp

theorem equalRev_fresh_of_compat {h : Hashing} {i : SyncIn} {revs : List Rev} {l r : Rev} (hc : core r = core l)
    (hd : (l.data == i.template && compatWith h i l) = true) :
    equalRev r (freshOf h i.template (i.collisionCount.getD 0) revs) = true := by
  have e1 : r.data = l.data := core_data hc
  have e2 : r.hashNum = l.hashNum := congrArg (fun p => p.2.2.2.2.1) hc
  unfold equalRev freshOf
  simp only [Bool.and_eq_true, beq_iff_eq] at hd ⊢
  rw [e1, e2]
  exact ⟨by unfold compatWith at hd; exact hd.2, hd.1⟩

theorem C08unchanged_model (h : Hashing) (i : SyncIn) (plan : List Fault) (hn : (i.store.map (·.name)).Nodup) :
    C08unchanged h i (syncF h i plan).observe = true := by
  unfold C08unchanged
  split
  · rename_i l hl
    split
    · rename_i hd
      have hlm : l ∈ listRevisions i.store := mem_sortRevs.mp (List.mem_of_getLast? hl)
      obtain ⟨r, hr, hc⟩ := listed_adopted (plan := plan) hn hlm
      apply noRevCreate_of_filter
      exact sync_no_create_of_equal h i plan (r := r) (mem_sortRevs.mpr hr) (equalRev_fresh_of_compat hc hd)
    · rfl
  · rfl

theorem C08revert_model (h : Hashing) (i : SyncIn) (plan : List Fault) (hn : (i.store.map (·.name)).Nodup) :
    C08revert h i (syncF h i plan).observe = true := by
  unfold C08revert
  split
  · rename_i hany
    rw [List.any_eq_true] at hany
    obtain ⟨l, hlm, hd⟩ := hany
    obtain ⟨r, hr, hc⟩ := listed_adopted (plan := plan) hn hlm
    have hrl : r ∈ syncListing plan i := mem_sortRevs.mpr hr
    have heq := equalRev_fresh_of_compat (revs := syncListing plan i) hc hd
    rw [Bool.and_eq_true]
    refine ⟨noRevCreate_of_filter h i plan (sync_no_create_of_equal h i plan hrl heq), ?_⟩
    split
    · rename_i hran
      obtain ⟨hok, hrun⟩ := (ran_observe i _).mp hran
      obtain ⟨u, hu, hun, _, hmax, _, hrest⟩ := sync_revert_number h i plan hrun hok hrl heq
      have hrep : reportedUpd i (syncF h i plan) = (syncF h i plan).upd := by
        obtain ⟨u', _, a, b, _⟩ := sync_ok_upd_stored h i plan hrun hok
        rw [← b, a]
      have hnf := sync_names_nodup h i plan hn
      rw [observe_revs, obsUpd_observe, find?_toD, find?_some_of_nodup hnf hu (hun.trans hrep.symm)]
      simp only [Option.map_some, Option.any_some, List.all_eq_true, Bool.or_eq_true, beq_iff_eq]
      intro r' hr'
      by_cases hname : r'.name = reportedUpd i (syncF h i plan)
      · exact Or.inl hname
      · right
        rw [find?_toD]
        cases hf : (syncF h i plan).store.find? (·.name == r'.name) with
        | none => rfl
        | some q =>
          obtain ⟨hq, hqn⟩ := find?_name hf
          have hqA : q ∈ adoptedStore plan i := hrest q hq (by rw [hqn, ← hrep]; exact hname)
          obtain ⟨r'', hr'', hc''⟩ := listed_adopted (plan := plan) hn hr'
          have hnA : ((adoptedStore plan i).map (·.name)).Nodup := by rw [(adoptedStore_adopted plan i).names]; exact hn
          have : q = r'' := List.inj_on_of_nodup_map hnA hqA (mem_listRevisions hr'').1 (hqn.trans (core_name hc'').symm)
          have hle := hmax r'' (mem_sortRevs.mpr hr'')
          simp only [Option.map_some, Option.all_some, toD]
          rw [this]; exact decide_eq_true hle
    · rfl
  · rfl

end Asts.SYb
