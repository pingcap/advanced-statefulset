import Asts.Proofs.C02_CKey
import Asts.Proofs.C02_BStep

/-! C02, worlds with non-members: one round, seen through the prepared members-only world, and the invariant. -/
namespace Asts.C02p
open Asts Asts.L1c

/-- the members of the world, owned (pod ids as they are in the whole list) -/
def Y (x : SyncIn) : SyncIn := ownS (mOf x)

theorem Y_pods (x : SyncIn) : (Y x).pods = ownM x.pods := rfl

/-- room in the model's id scheme: non-members, members outside the desired set, and a full desired set -/
def roomM (x : SyncIn) : Prop :=
  (x.pods.filter (fun c => !c.member)).length +
    ((x.pods.filter (·.member)).filter (fun c => !(desired (replicasOf x.view) x.view.slots).contains c.pod.ord)).length +
    (replicasOf x.view).toNat ≤ freshId

section
variable {h : Hashing} {j : SyncIn}

/-- the pods outside the desired set do not grow in number -/
theorem nextW_outside_le (hs : NSC h j) (hp : Pol hs.norm) :
    ((nextW h j).pods.filter (fun c => !(desired (replicasOf j.view) j.view.slots).contains c.pod.ord)).length ≤
      (j.pods.filter (fun c => !(desired (replicasOf j.view) j.view.slots).contains c.pod.ord)).length := by
  have hkp := nextW_pods hs hp
  rw [(hkp.filter (fun c => !(desired (replicasOf j.view) j.view.slots).contains c.pod.ord) (fun _ => rfl)).length]
  obtain ⟨A, hA, hsub⟩ := hp.sub
  exact le_trans (hsub.filter _).length_le (step_condemnedG hs.ctx hA _ (mem_desired_iff hs.norm)).1

end

theorem prepW_pods (h : Hashing) (x : SyncIn) : (prepW h (mOf x)).pods = ownM x.pods := rfl

theorem mem_ownM {l : List CPod} {c : CPod} : c ∈ ownM l ↔ ∃ c0 ∈ l, c0.member = true ∧ c = own c0 := by
  unfold ownM
  rw [List.mem_map]
  constructor
  · rintro ⟨c0, hc0, rfl⟩
    rw [List.mem_filter] at hc0
    exact ⟨c0, hc0.1, hc0.2, rfl⟩
  · rintro ⟨c0, hc0, hm, rfl⟩
    exact ⟨c0, List.mem_filter.2 ⟨hc0, hm⟩, rfl⟩

theorem canon_map_nodup (s : String) {l : List Int} (hl : l.Nodup) : (l.map (canonicalName s)).Nodup :=
  List.Nodup.map (fun _ _ => canonicalName_injective s) hl

theorem ownM_filter_len (l : List CPod) (q : CPod → Bool) (hq : ∀ c, q (own c) = q c) :
    ((ownM l).filter q).length = ((l.filter (·.member)).filter q).length := by
  unfold ownM
  rw [List.filter_map, List.length_map]
  congr 2
  funext c
  exact hq c

theorem ownM_ords (l : List CPod) : (ownM l).map (·.pod.ord) = (l.filter (·.member)).map (·.pod.ord) := by
  unfold ownM; rw [List.map_map]; rfl

/-- the pod list after the claim stage's patches and the reconcile's calls -/
def XAof (x : SyncIn) (acts : List Action) : List CPod := applyActs x.setName x.pods (x.pods.map norm1) acts

/-- the fairness step on a raw pod list -/
def stage (X : List CPod) : List CPod := (X.filter (fun c => !c.pod.terminating)).map settleOne

/-- apart from the pod list, `settle` renews the `fresh` marks only, from the view -/
theorem settle_rest {a b : SyncIn} (e : ({ a with pods := [] } : SyncIn) = { b with pods := [] }) :
    ({ settle a with pods := [] } : SyncIn) = { settle b with pods := [] } :=
  congrArg (fun z : SyncIn => ({ z with fresh := { gone := false, uidOk := true, deleting := z.view.deleting } } : SyncIn)) e

theorem ownM_stage (X : List CPod) : ownM (stage X) = stage (ownM X) := ownM_settleStage X

section
variable {h : Hashing} {x : SyncIn} {G : List Rev} {upd : Rev} {cc : Int} {K : SyncIn → Prop}

/-- the raw form of one round in a world with non-members -/
structure StepRaw (h : Hashing) (x : SyncIn) (hn : NormC h (prepW h (mOf x))) : Prop where
  rest : ({ nextW h x with pods := [] } : SyncIn) = { nextW h (prepW h (mOf x)) with pods := [] }
  kA : KeyPerm (nextW h x).pods (stage (XAof x hn.recon.1.acts))
  kB : KeyPerm (ownM (stage (XAof x hn.recon.1.acts))) (nextW h (prepW h (mOf x))).pods

theorem stepRaw (hp : PreM x)
    (hpick : PickOut h x.template (x.collisionCount.getD 0) (adoptS x.store) G upd cc)
    (hcc : cc ≠ x.collisionCount.getD 0 → x.stored.updateRev ≠ upd.name)
    (hn : NormC h (prepW h (mOf x))) (hok : hn.recon.2 = .ok) : StepRaw h x hn := by
  obtain ⟨hrest, _, hA, hB⟩ := prep_simM hp hpick hcc hn hok
  have hNself : ∀ c ∈ (prepW h (mOf x)).pods, c.owner = .self := by
    intro c hc
    rw [prepW_pods, mem_ownM] at hc
    obtain ⟨c0, _, _, rfl⟩ := hc
    rfl
  have hXAB : ownM (XAof x hn.recon.1.acts) =
      applyActs x.setName (prepW h (mOf x)).pods (prepW h (mOf x)).pods hn.recon.1.acts := by
    unfold XAof
    rw [ownM_applyActs x.setName x.pods (prepW h (mOf x)).pods hNself, ownM_norm1, prepW_pods]
  refine ⟨?_, settle_keyPerm _ _ hA, ?_⟩
  · exact settle_rest hrest
  · rw [ownM_stage, hXAB]
    exact (settle_keyPerm _ _ hB).symm

theorem StepRaw.keyPerm {hn : NormC h (prepW h (mOf x))} (hr : StepRaw h x hn) :
    KeyPerm (Y (nextW h x)).pods (nextW h (prepW h (mOf x))).pods := by
  rw [Y_pods]
  exact (keyPerm_ownM hr.kA).trans hr.kB

/-- where a pod of the next world comes from -/
theorem StepRaw.src {hn : NormC h (prepW h (mOf x))} (hr : StepRaw h x hn) :
    ∀ c ∈ (nextW h x).pods, ∃ c1 ∈ XAof x hn.recon.1.acts, c1.owner = c.owner ∧ c1.member = c.member ∧
      c1.pod.idOk = c.pod.idOk ∧ c1.name = c.name := by
  intro c hc
  obtain ⟨z, hz, hkz⟩ := hr.kA.mem hc
  unfold stage at hz
  rw [List.mem_map] at hz
  obtain ⟨c1, hc1, rfl⟩ := hz
  obtain ⟨k, rfl⟩ := eq_of_key hkz.symm
  exact ⟨c1, List.mem_of_mem_filter hc1, (settleOne_owner c1).symm, (settleOne_member c1).symm, (settleOne_idOk c1).symm,
    (settleOne_name c1).symm⟩

theorem XAof_members (hp : PreM x) (acts : List Action) :
    (XAof x acts).filter (·.member) = applyActs x.setName x.pods ((x.pods.map norm1).filter (·.member)) acts ∧
    ∀ c ∈ (x.pods.map norm1).filter (·.member), c.owner = .self := by
  refine ⟨by unfold XAof; rw [filterMem_applyActs], ?_⟩
  intro c hc
  rw [List.mem_filter, List.mem_map] at hc
  obtain ⟨⟨c0, hc0, rfl⟩, hm⟩ := hc
  rw [norm1_member] at hm
  rw [norm1_of_member hm (hp.mem c0 hc0 hm).1]

/-- members after the round: owned, or orphans whose identity is in order -/
theorem StepRaw.ownP (hp : PreM x) {hn : NormC h (prepW h (mOf x))} (hr : StepRaw h x hn) :
    ∀ c ∈ (nextW h x).pods, c.member = true → OwnP c := by
  intro c hc hm
  obtain ⟨c1, hc1, e1, e2, e3, _⟩ := hr.src c hc
  obtain ⟨hmem, hself⟩ := XAof_members hp hn.recon.1.acts
  have hc1m : c1 ∈ (XAof x hn.recon.1.acts).filter (·.member) := List.mem_filter.2 ⟨hc1, by rw [e2]; exact hm⟩
  rw [hmem] at hc1m
  have := applyActs_ownP _ _ _ _ (fun c hc => Or.inl (hself c hc)) c1 hc1m
  unfold OwnP at this ⊢
  rw [← e1, ← e3]; exact this

theorem StepRaw.noOrphan (hp : PreM x) {hn : NormC h (prepW h (mOf x))} (hr : StepRaw h x hn)
    (hupd : ∀ o, Action.update o ∈ hn.recon.1.acts → ∃ c ∈ (prepW h (mOf x)).pods, c.pod.ord = o ∧ c.pod.idOk = false)
    (hO : ∀ c ∈ x.pods, c.member = true → OwnP c) :
    ∀ c ∈ (nextW h x).pods, c.member = true → c.owner = .self := by
  intro c hc hm
  obtain ⟨c1, hc1, e1, e2, _, _⟩ := hr.src c hc
  obtain ⟨hmem, hself⟩ := XAof_members hp hn.recon.1.acts
  have hc1m : c1 ∈ (XAof x hn.recon.1.acts).filter (·.member) := List.mem_filter.2 ⟨hc1, by rw [e2]; exact hm⟩
  rw [hmem] at hc1m
  rw [← e1]
  apply applyActs_noOrphan _ _ _ _ hself _ c1 hc1m
  intro o ho
  obtain ⟨c', hc', hco, hid⟩ := hupd o ho
  rw [prepW_pods, mem_ownM] at hc'
  obtain ⟨c0, hc0, hm0, rfl⟩ := hc'
  have hco0 : c0.pod.ord = o := hco
  have hid0 : c0.pod.idOk = false := hid
  unfold wasOrphan
  have hname : canonicalName x.setName o = c0.name := by rw [(hp.mem c0 hc0 hm0).2.2.1, hco0]
  rw [hname, find_pod_name hp.podNames hc0]
  simp only [Option.any_some]
  rcases hO c0 hc0 hm0 with hself0 | ⟨_, hidok⟩
  · rw [hself0]; rfl
  · rw [hidok] at hid0; cases hid0

/-- non-members after the round are not the set's -/
theorem StepRaw.inert {hn : NormC h (prepW h (mOf x))} (hr : StepRaw h x hn) :
    ∀ c ∈ (nextW h x).pods, c.member = false → c.owner ≠ .self := by
  intro c hc hm
  obtain ⟨c1, hc1, e1, e2, _, _⟩ := hr.src c hc
  unfold XAof at hc1
  obtain ⟨c0, hc0, h1, _, h3⟩ := nonmem_applyActs _ _ _ _ c1 hc1 (by rw [e2]; exact hm)
  rw [List.mem_map] at hc0
  obtain ⟨c00, _, rfl⟩ := hc0
  rw [norm1_member] at h1
  rw [← e1]
  exact h3 (norm1_nonmember_owner h1)

/-- the names of the non-members after the round are names of non-members before, each at most once -/
theorem StepRaw.nmNames {hn : NormC h (prepW h (mOf x))} (hr : StepRaw h x hn) :
    ∃ L, (((nextW h x).pods.filter (fun c => !c.member)).map (·.name)).Perm L ∧
      L.Sublist ((x.pods.filter (fun c => !c.member)).map (·.name)) := by
  refine ⟨((stage (XAof x hn.recon.1.acts)).filter (fun c => !c.member)).map (·.name),
    keyPerm_names (hr.kA.filter (fun c => !c.member) (fun _ => rfl)), ?_⟩
  refine (names_settleStage_nonmem _).trans ?_
  have := nonmem_names_applyActs x.setName x.pods hn.recon.1.acts (x.pods.map norm1)
  rw [names_norm1_nonmem] at this
  exact this

end

end Asts.C02p
