import Asts.Proofs.SY_b_ClaimExact

/-! Preparation for the C13 monitor on the model: in a sync that reaches the truncation, exactly which revisions are owned
    after adoption and exactly which pods are claimed, in terms of the unfaulted `patch:` calls in the complete log. -/
namespace Asts.SYb
open Asts

/-- the hypotheses on the input under which the string-level monitor reads the log back faithfully: one object per name
    in the store and in the pod cache, and no ':' in those names -/
structure InputOk (i : SyncIn) : Prop where
  storeNames : (i.store.map (·.name)).Nodup
  podNames : (i.pods.map (·.name)).Nodup
  revNoColon : ∀ r ∈ i.store, NoColon r.name
  podNoColon : ∀ c ∈ i.pods, NoColon c.name

theorem patchRevKey_pre (r : Rev) : pre "patch:rev:" (patchRevKey r) = true := pre_append_self _ r.name
theorem patchRevKey_inj {a b : Rev} (h : patchRevKey a = patchRevKey b) : a.name = b.name := append_left_cancel h

/-! ## the log of a sync that reaches the truncation, seen from the adoption stage and from the claim stage -/

def adoptState (plan : List Fault) (i : SyncIn) : RevSt :=
  (adoptOrphanRevisionsF plan i.view.deleting i.fresh { store := i.store }).1
def claimLog (plan : List Fault) (i : SyncIn) : List String :=
  (claimPodsF plan i.view.deleting i.fresh i.pods (adoptState plan i).tr).tr.log

theorem Reach.log_after {h : Hashing} {i : SyncIn} {plan : List Fault} {o : SyncOut} (R : Reach h i plan o) :
    ∃ rest, o.log = R.sL.tr.log ++ rest ∧ ∀ e ∈ rest, (∃ c : RevCall, e = c.key) ∨ TailShape e ∨ ∃ r : Rev, e = delKey r := by
  obtain ⟨hd', h1, _⟩ := R.hlogL
  obtain ⟨tl', h3, h4⟩ := R.hlogT
  refine ⟨(pickCalls h plan i.template (i.collisionCount.getD 0) (syncListing plan i) R.sL).map RevCall.key ++ tl' ++
      (truncDeletes plan i.historyLimit (o.claimed.map (·.pod.rev)) (syncListing plan i) R.cur R.upd R.sT).map delKey, ?_, ?_⟩
  · rw [R.olog, truncateF_log, h3, R.sG_eq, pickF_log]; simp
  · intro e he
    simp only [List.mem_append] at he
    rcases he with (he | he) | he
    · obtain ⟨c, _, rfl⟩ := List.mem_map.mp he; exact Or.inl ⟨c, rfl⟩
    · exact Or.inr (Or.inl (h4 e he))
    · obtain ⟨r, _, rfl⟩ := List.mem_map.mp he; exact Or.inr (Or.inr ⟨r, rfl⟩)

theorem Reach.log_from_claim {h : Hashing} {i : SyncIn} {plan : List Fault} {o : SyncOut} (R : Reach h i plan o) :
    ∃ rest, o.log = claimLog plan i ++ rest ∧ ∀ e ∈ rest, pre "patch:pod:" e = false ∧ pre "patch:rev:" e = false := by
  obtain ⟨rest, h1, h2⟩ := R.log_after
  have hl : Ext (· = "list:revs") (claimLog plan i) R.sL.tr.log := by
    rw [R.hsL]; unfold listedState claimLog adoptState
    exact listRevsF_log plan _
  obtain ⟨lr, h3, h4⟩ := hl
  refine ⟨lr ++ rest, by rw [h1, h3]; simp, ?_⟩
  intro e he
  rcases List.mem_append.mp he with he | he
  · rw [h4 e he]; exact ⟨pre_patch_pod.pre_few few_list_revs, pre_patch_rev.pre_few few_list_revs⟩
  · rcases h2 e he with ⟨c, rfl⟩ | ht | ⟨r, rfl⟩
    · exact ⟨c.keyed.not_pre pre_patch_pod (by simp), c.keyed.not_pre pre_patch_rev (by simp)⟩
    · exact ⟨ht.keyed.not_pre pre_patch_pod (by simp), ht.keyed.not_pre pre_patch_rev (by simp)⟩
    · exact ⟨(delKey_keyed r).not_pre pre_patch_pod (by simp), (delKey_keyed r).not_pre pre_patch_rev (by simp)⟩

theorem Reach.log_from_adopt {h : Hashing} {i : SyncIn} {plan : List Fault} {o : SyncOut} (R : Reach h i plan o) :
    ∃ rest, o.log = (adoptState plan i).tr.log ++ rest ∧ ∀ e ∈ rest, pre "patch:rev:" e = false := by
  obtain ⟨rest, h1, h2⟩ := R.log_from_claim
  obtain ⟨cl, h3, h4⟩ := claim_log plan i.view.deleting i.fresh i.pods (adoptState plan i).tr
  refine ⟨cl ++ rest, by rw [h1]; unfold claimLog; rw [h3]; simp, ?_⟩
  intro e he
  rcases List.mem_append.mp he with he | he
  · exact (h4 e he).keyed.not_pre pre_patch_rev (by simp)
  · exact (h2 e he).2

theorem succ_back {plan : List Fault} {l rest : List String} {k P : String} (hk : pre P k = true)
    (hrest : ∀ e ∈ rest, pre P e = false) (h : Succ plan (l ++ rest) k) : Succ plan l k := by
  apply succ_of_append_not_mem h
  intro hmem
  rw [hrest k hmem] at hk
  exact absurd hk (by simp)

theorem Reach.succ_patchRev {h : Hashing} {i : SyncIn} {plan : List Fault} {o : SyncOut} (R : Reach h i plan o) (r : Rev) :
    Succ plan o.log (patchRevKey r) ↔ Succ plan (adoptState plan i).tr.log (patchRevKey r) := by
  obtain ⟨rest, h1, h2⟩ := R.log_from_adopt
  rw [h1]
  exact ⟨succ_back (patchRevKey_pre r) h2, fun hs => hs.mono rest⟩

theorem Reach.succ_patchPod {h : Hashing} {i : SyncIn} {plan : List Fault} {o : SyncOut} (R : Reach h i plan o) (c : CPod) :
    Succ plan o.log (patchPodKey c) ↔ Succ plan (claimLog plan i) (patchPodKey c) := by
  obtain ⟨rest, h1, h2⟩ := R.log_from_claim
  rw [h1]
  exact ⟨succ_back (patchPodKey_pre c) (fun e he => (h2 e he).1), fun hs => hs.mono rest⟩

/-! ## exactly which revisions are owned after adoption -/

theorem mem_orphanNames {L : List Rev} {n : String} : n ∈ orphanNames L ↔ ∃ r ∈ L, r.owner = .none ∧ r.name = n := by
  unfold orphanNames
  simp only [List.mem_map, List.mem_filter, beq_iff_eq]
  constructor
  · rintro ⟨r, ⟨h1, h2⟩, h3⟩; exact ⟨r, h1, h2, h3⟩
  · rintro ⟨r, h1, h2, h3⟩; exact ⟨r, ⟨h1, h2⟩, h3⟩

theorem mem_markerNames {L : List Rev} {n : String} : n ∈ markerNames L ↔ ∃ r ∈ L, r.marker = true ∧ r.name = n := by
  unfold markerNames
  simp only [List.mem_map, List.mem_filter]
  constructor
  · rintro ⟨r, ⟨h1, h2⟩, h3⟩; exact ⟨r, h1, h2, h3⟩
  · rintro ⟨r, h1, h2, h3⟩; exact ⟨r, ⟨h1, h2⟩, h3⟩

/-- what a successful adoption stage over the listing `L` does to one stored revision -/
def adoptG (L : List Rev) (x : Rev) : Rev := ownAll (orphanNames L) (selAll (markerNames L) x)

theorem adoptG_core (L : List Rev) (x : Rev) : core (adoptG L x) = core x := by
  unfold adoptG ownAll selAll; split <;> split <;> rfl
theorem adoptG_marker (L : List Rev) (x : Rev) : (adoptG L x).marker = x.marker := by
  unfold adoptG ownAll selAll; split <;> split <;> rfl
theorem adoptG_owner (L : List Rev) (x : Rev) :
    (adoptG L x).owner = if x.name ∈ orphanNames L then Owner.self else x.owner := by
  unfold adoptG
  rw [ownAll_owner, (selAll_fields _ x).1, (selAll_fields _ x).2.2.2.2.2.2]
  simp only [List.contains_iff_mem]
theorem adoptG_sel (L : List Rev) (x : Rev) :
    (adoptG L x).selMatch = if x.name ∈ markerNames L then true else x.selMatch := by
  unfold adoptG
  rw [(ownAll_fields _ _).2.2.2.2.2.2, selAll_selMatch]
  by_cases h : x.name ∈ markerNames L
  · simp [h]
  · simp [h]

/-- In a sync that reaches the truncation the adopted store is the initial store mapped, revision by revision, by a
    function `G` that keeps the core, owns exactly the revisions that were owned or were orphans with an unfaulted
    `patch:rev:` in the log, leaves foreign ones foreign, and keeps "listed by selector or marker". -/
theorem Reach.adopt_image {h : Hashing} {i : SyncIn} {plan : List Fault} {o : SyncOut} (R : Reach h i plan o)
    (hn : (i.store.map (·.name)).Nodup) :
    ∃ G : Rev → Rev, adoptedStore plan i = i.store.map G ∧ ∀ x ∈ i.store,
      core (G x) = core x ∧
      ((G x).owner = .self ↔ x.owner = .self ∨ (x.owner = .none ∧ Succ plan o.log (patchRevKey x))) ∧
      ((G x).owner = .other ↔ x.owner = .other) ∧
      (((G x).selMatch = true ∨ (G x).marker = true) ↔ (x.selMatch = true ∨ x.marker = true)) := by
  have hA : adoptOrphanRevisionsF plan i.view.deleting i.fresh { store := i.store } = (adoptState plan i, .ok) := by
    unfold adoptState
    rw [← R.hadopt]
  have huniq : ∀ {r x : Rev}, r ∈ listRevisions i.store → x ∈ i.store → r.name = x.name → r = x :=
    fun hr hx he => List.inj_on_of_nodup_map hn (mem_listRevisions hr).1 hx he
  have hAs : adoptedStore plan i = (adoptState plan i).store := rfl
  rcases adopt_ok_exact plan i.view.deleting i.fresh { store := i.store } (adoptState plan i) hA with
    ⟨_, hst, hlog⟩ | ⟨_, _, hst, hlog, hsucc⟩
  · refine ⟨id, by rw [hAs, hst]; simp, ?_⟩
    intro x hx
    refine ⟨rfl, ⟨fun h => Or.inl h, ?_⟩, Iff.rfl, Iff.rfl⟩
    rintro (h | ⟨_, hs⟩)
    · exact h
    · exfalso
      rw [R.succ_patchRev] at hs
      obtain ⟨m, hm, hm'⟩ := hlog
      simp only [List.nil_append] at hm
      apply not_succ_of_not_mem _ hs
      rw [hm]
      intro hmem
      exact Keyed.ne_append (VR := []) (Or.inl few_list_revs) pre_patch_rev (by simp) _ (hm' _ hmem).symm
  · refine ⟨adoptG (listRevisions i.store), ?_, ?_⟩
    · rw [hAs, hst, List.map_map]; rfl
    · intro x hx
      refine ⟨adoptG_core _ x, ?_, ?_, ?_⟩
      · rw [adoptG_owner]
        by_cases hO : x.name ∈ orphanNames (listRevisions i.store)
        · rw [if_pos hO]
          obtain ⟨r, hr, hro, hrn⟩ := mem_orphanNames.mp hO
          have hrx : r = x := huniq hr hx hrn
          subst hrx
          refine ⟨fun _ => Or.inr ⟨hro, ?_⟩, fun _ => rfl⟩
          rw [R.succ_patchRev]; exact hsucc r hr hro
        · rw [if_neg hO]
          refine ⟨fun h => Or.inl h, ?_⟩
          rintro (h | ⟨hno, hs⟩)
          · exact h
          · exfalso
            rw [R.succ_patchRev] at hs
            obtain ⟨pre', post, hlg, _⟩ := hs
            obtain ⟨m, hm, hm'⟩ := hlog
            simp only [List.nil_append] at hm
            have hmem : patchRevKey x ∈ m := by rw [← hm, hlg]; simp
            rcases hm' _ hmem with he | he | ⟨n, he⟩ | ⟨r, hr, hro, he⟩
            · exact Keyed.ne_append (VR := []) (Or.inl few_list_revs) pre_patch_rev (by simp) _ he.symm
            · exact Keyed.ne_append (VR := []) (Or.inl few_get_set) pre_patch_rev (by simp) _ he.symm
            · exact (RevCall.update n).keyed.ne_append pre_patch_rev (by simp) _ he.symm
            · exact hO (mem_orphanNames.mpr ⟨r, hr, hro, (patchRevKey_inj he).symm⟩)
      · rw [adoptG_owner]
        by_cases hO : x.name ∈ orphanNames (listRevisions i.store)
        · rw [if_pos hO]
          obtain ⟨r, hr, hro, hrn⟩ := mem_orphanNames.mp hO
          have hrx : r = x := huniq hr hx hrn
          subst hrx
          exact ⟨fun h => by simp at h, fun h => by rw [hro] at h; simp at h⟩
        · rw [if_neg hO]
      · rw [adoptG_marker, adoptG_sel]
        by_cases hM : x.name ∈ markerNames (listRevisions i.store)
        · obtain ⟨r, hr, hrm, hrn⟩ := mem_markerNames.mp hM
          have hrx : r = x := huniq hr hx hrn
          subst hrx
          exact ⟨fun _ => Or.inr hrm, fun _ => Or.inr hrm⟩
        · rw [if_neg hM]

end Asts.SYb
