import Asts.Spec.Sync
import Mathlib.Tactic

/-! # C09: vocabulary shared by the proofs

* `planAt plan k occ` — the fault the plan assigns to the `occ`-th (0-based) call with key `k`;
* `cnt log k` — how often `k` occurs in `log`; `Tr.call` = append + `planAt … (cnt …)`;
* distinctness of the call keys (the keys are interpolated strings; the facts below are all that is used about them);
* `RetryOk` — the shape "one of the first `fuel` attempts is unfaulted and all earlier ones are Conflicts". -/
namespace Asts.SYc

def planAt (plan : List Fault) (k : String) (occ : Nat) : Option ErrKind :=
  (plan.find? (fun f => f.key == k && f.occ == occ)).map (·.kind)

def cnt (log : List String) (k : String) : Nat := (log.filter (· == k)).length

theorem call_eq (t : Tr) (plan : List Fault) (k : String) :
    t.call plan k = ({ log := t.log ++ [k] }, planAt plan k (cnt t.log k)) := rfl

@[simp] theorem call_log (t : Tr) (plan : List Fault) (k : String) : (t.call plan k).1.log = t.log ++ [k] := rfl
@[simp] theorem call_fault (t : Tr) (plan : List Fault) (k : String) :
    (t.call plan k).2 = planAt plan k (cnt t.log k) := rfl

@[simp] theorem planAt_nil (k : String) (occ : Nat) : planAt [] k occ = none := rfl

@[simp] theorem cnt_nil (k : String) : cnt [] k = 0 := rfl
theorem cnt_append (a b : List String) (k : String) : cnt (a ++ b) k = cnt a k + cnt b k := by
  simp [cnt, List.filter_append]
@[simp] theorem cnt_single_self (k : String) : cnt [k] k = 1 := by simp [cnt]
theorem cnt_single_ne {k k' : String} (h : k' ≠ k) : cnt [k'] k = 0 := by simp [cnt, h]
theorem cnt_snoc_self (a : List String) (k : String) : cnt (a ++ [k]) k = cnt a k + 1 := by
  rw [cnt_append, cnt_single_self]
theorem cnt_snoc_ne (a : List String) {k k' : String} (h : k' ≠ k) : cnt (a ++ [k']) k = cnt a k := by
  rw [cnt_append, cnt_single_ne h, Nat.add_zero]

/-- case split on the condition of an `if` under a predicate (cheaper than `split` on a long body) -/
theorem ite_ind {α} {P : α → Prop} {c : Prop} [Decidable c] {a b : α} (ha : c → P a) (hb : ¬c → P b) :
    P (if c then a else b) := by
  split
  · exact ha ‹_›
  · exact hb ‹_›

def kUpdateRev (n : String) : String := s!"update:rev:{n}"
def kGetRev (n : String) : String := s!"get:rev:{n}"
def kPatchRev (n : String) : String := s!"patch:rev:{n}"
def kCreateRev (n : String) : String := s!"create:rev:{n}"
def kDeleteRev (n : String) : String := s!"delete:rev:{n}"
def kPatchPod (n : String) : String := s!"patch:pod:{n}"
def kCreatePod (n : String) : String := s!"create:pod:{n}"
def kDeletePod (n : String) : String := s!"delete:pod:{n}"
def kUpdatePod (n : String) : String := s!"update:pod:{n}"

theorem kGetRev_ne_kUpdateRev (a b : String) : kGetRev a ≠ kUpdateRev b := by
  intro h
  have := congrArg String.toList h
  simp [kGetRev, kUpdateRev, toString, String.toList_append] at this

/-- among the attempts `0 … fuel-1`, one is unfaulted and all earlier ones answered Conflict -/
def RetryOk (f : Nat → Option ErrKind) (fuel : Nat) : Prop :=
  ∃ j, j < fuel ∧ f j = none ∧ ∀ j', j' < j → f j' = some ErrKind.conflict

theorem retryOk_zero (f : Nat → Option ErrKind) : ¬ RetryOk f 0 := by
  rintro ⟨j, hj, _⟩; omega

theorem retryOk_succ (f : Nat → Option ErrKind) (fuel : Nat) :
    RetryOk f (fuel + 1) ↔ f 0 = none ∨ (f 0 = some ErrKind.conflict ∧ RetryOk (fun j => f (j + 1)) fuel) := by
  constructor
  · rintro ⟨j, hj, hn, hc⟩
    cases j with
    | zero => exact Or.inl hn
    | succ j =>
      refine Or.inr ⟨hc 0 (by omega), j, by omega, hn, ?_⟩
      intro j' hj'; exact hc (j' + 1) (by omega)
  · rintro (h | ⟨h0, j, hj, hn, hc⟩)
    · exact ⟨0, by omega, h, by intro j' hj'; omega⟩
    · refine ⟨j + 1, by omega, hn, ?_⟩
      intro j' hj'
      cases j' with
      | zero => exact h0
      | succ j' => exact hc j' (by omega)

/-- the same for attempts numbered from `c` -/
theorem retryOk_from (g : Nat → Option ErrKind) (c fuel : Nat) :
    RetryOk (fun j => g (c + j)) (fuel + 1) ↔
      g c = none ∨ (g c = some ErrKind.conflict ∧ RetryOk (fun j => g (c + 1 + j)) fuel) := by
  rw [retryOk_succ]
  simp only [Nat.add_zero, Nat.add_right_comm c _ 1, ← Nat.add_assoc]

instance (f : Nat → Option ErrKind) (fuel : Nat) : Decidable (RetryOk f fuel) := by
  unfold RetryOk; infer_instance

end Asts.SYc
