import Mathlib.Tactic
import Asts.Spec.Sync
import Asts.Proofs.Sync_Claim

/-! # SY_a — `annotate`: the entries of a log with their positions and injected faults -/

namespace Asts.SYa
open Asts

theorem occIn_cons (a e : String) (l : List String) : occIn (a :: l) e = occIn l e + if (a == e) = true then 1 else 0 := by
  unfold occIn
  rw [List.filter_cons]
  split <;> rfl

/-- `seen` holds the entries before `rest`, so the occurrence count of an entry of `rest` is taken over both -/
theorem mem_annotate_go (plan : List Fault) : ∀ (rest seen : List String) (idx : Nat)
    (x : Entry × Nat × Option ErrKind),
    x ∈ annotate.go plan seen idx rest ↔
      ∃ pre e post, rest = pre ++ e :: post ∧
        x = (parseEntry e, idx + pre.length, look plan e (occIn seen e + occIn pre e))
  | [], seen, idx, x => by simp [annotate.go]
  | e0 :: rest, seen, idx, x => by
    -- moving `e0` from the rest to the entries seen does not change a count
    have shift : ∀ (e : String) (pre : List String),
        (parseEntry e, idx + 1 + pre.length, look plan e (occIn (e0 :: seen) e + occIn pre e)) =
        (parseEntry e, idx + (e0 :: pre).length, look plan e (occIn seen e + occIn (e0 :: pre) e)) := by
      intro e pre
      rw [occIn_cons, occIn_cons, List.length_cons, show idx + 1 + pre.length = idx + (pre.length + 1) by omega,
        Nat.add_right_comm (occIn seen e), Nat.add_assoc (occIn seen e)]
    rw [annotate.go, List.mem_cons, mem_annotate_go plan rest (e0 :: seen) (idx + 1) x]
    constructor
    · rintro (rfl | ⟨pre, e, post, rfl, rfl⟩)
      · exact ⟨[], e0, rest, rfl, rfl⟩
      · exact ⟨e0 :: pre, e, post, rfl, shift e pre⟩
    · rintro ⟨pre, e, post, hr, rfl⟩
      cases pre with
      | nil =>
        obtain ⟨rfl, rfl⟩ := List.cons.inj hr
        exact Or.inl rfl
      | cons p pre' =>
        obtain ⟨rfl, rfl⟩ := List.cons.inj hr
        exact Or.inr ⟨pre', e, post, rfl, (shift e pre').symm⟩

/-- the annotated log: one triple per position — the parsed entry, its index, and the fault the plan injects into that
    occurrence of the call -/
theorem mem_annotate (plan : List Fault) (log : List String) (x : Entry × Nat × Option ErrKind) :
    x ∈ annotate plan log ↔
      ∃ pre e post, log = pre ++ e :: post ∧ x = (parseEntry e, pre.length, look plan e (occIn pre e)) := by
  unfold annotate
  rw [mem_annotate_go]
  simp only [Nat.zero_add, occIn, List.filter_nil, List.length_nil]

end Asts.SYa
