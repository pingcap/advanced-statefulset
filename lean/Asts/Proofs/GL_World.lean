import Asts.Proofs.GL_Sync
import Asts.Proofs.World_Pods

/-! # Glue, world level: every round re-numbers the pods by position

`settle` and `applySync` both end with `reindex (sortPods …)`, and `reindex` gives every pod its position as id. Hence
the sync of every round of `round` / `runRounds` (`Model/World.lean`) runs on a world whose pod ids are positions, which
is the `IdsOk` hypothesis of the reconcile-level theorems (as long as there are at most `freshId` = 1 000 000 pod objects). -/
namespace Asts.GL
open Asts Asts.C02p

theorem idPos_map {pods : List CPod} (h : IdPos pods) :
    ∀ (k : Nat) (p : Pod), (pods.map (·.pod))[k]? = some p → p.id = k := by
  intro k p hk
  rw [List.getElem?_map] at hk
  cases hc : pods[k]? with
  | none => rw [hc] at hk; cases hk
  | some c =>
    rw [hc] at hk
    simp only [Option.map_some, Option.some.injEq] at hk
    rw [← hk]; exact h k c hc

theorem idsOk_of_idPos {pods : List CPod} (h : IdPos pods) (hlen : pods.length ≤ freshId) :
    IdsOk (pods.map (·.pod)) :=
  idsOk_of_pos (idPos_map h) (by simpa using hlen)

/-- the world a round syncs on has `IdsOk` pods, whatever world the round started from -/
theorem settle_idsOk (i : SyncIn) (hlen : i.pods.length ≤ freshId) : IdsOk ((settle i).pods.map (·.pod)) :=
  idsOk_of_idPos (settle_idPos i) (le_trans (settle_length_le i) hlen)

/-- the world after one round per fault plan of the list, in order -/
def roundsWith (h : Hashing) : List (List Fault) → SyncIn → SyncIn
  | [], i => i
  | p :: ps, i => roundsWith h ps (round h i p).1

theorem roundsWith_append (h : Hashing) (ps qs : List (List Fault)) (i : SyncIn) :
    roundsWith h (ps ++ qs) i = roundsWith h qs (roundsWith h ps i) := by
  induction ps generalizing i with
  | nil => rfl
  | cons p ps ih => exact ih _

theorem roundsWith_induction {h : Hashing} {P : SyncIn → Prop} (hstep : ∀ W p, P W → P (round h W p).1) :
    ∀ (ps : List (List Fault)) (i : SyncIn), P i → P (roundsWith h ps i)
  | [], _, h0 => h0
  | p :: ps, i, h0 => roundsWith_induction hstep ps _ (hstep i p h0)

/-- rounds change nothing of the spec part of the view the reconcile-level predicates read (only
    `status.currentReplicas` moves) -/
theorem round_view (h : Hashing) (i : SyncIn) (plan : List Fault) :
    (round h i plan).1.view = { i.view with stCurrentReplicas := (round h i plan).1.view.stCurrentReplicas } := rfl

theorem roundsWith_view (h : Hashing) (ps : List (List Fault)) (i : SyncIn) :
    (roundsWith h ps i).view = { i.view with stCurrentReplicas := (roundsWith h ps i).view.stCurrentReplicas } := by
  induction ps generalizing i with
  | nil => rfl
  | cons p ps ih =>
    show (roundsWith h ps (round h i p).1).view = _
    rw [ih, round_view]
    rfl

theorem roundsWith_replicasOf (h : Hashing) (ps : List (List Fault)) (i : SyncIn) :
    replicasOf (roundsWith h ps i).view = replicasOf i.view := by
  rw [roundsWith_view]; rfl

theorem roundsWith_parallel (h : Hashing) (ps : List (List Fault)) (i : SyncIn) :
    (roundsWith h ps i).view.parallel = i.view.parallel := by
  rw [roundsWith_view]

theorem settle_view (i : SyncIn) : (settle i).view = i.view := rfl

/-- after at least one round the pods of the world carry their positions as ids (before any `settle`) -/
theorem roundsWith_idPos (h : Hashing) (ps : List (List Fault)) (i : SyncIn) (hne : ps ≠ []) :
    IdPos (roundsWith h ps i).pods := by
  obtain ⟨qs, p, rfl⟩ : ∃ qs p, ps = qs ++ [p] := ⟨ps.dropLast, ps.getLast hne, (List.dropLast_append_getLast hne).symm⟩
  rw [roundsWith_append]
  show IdPos (round h _ p).1.pods
  rw [round_fst]
  exact applySync_idPos _ _ _

theorem runRounds_succ (h : Hashing) (fuel silent : Nat) (i : SyncIn) (plan : List Fault) :
    runRounds h (fuel + 1) silent i plan =
      if (if ((round h i plan).2.out == "ok" && (round h i plan).2.writes == 0) = true then silent + 1 else 0) ≥ 2
      then [(round h i plan).2]
      else (round h i plan).2 :: runRounds h fuel
        (if ((round h i plan).2.out == "ok" && (round h i plan).2.writes == 0) = true then silent + 1 else 0)
        (round h i plan).1 [] := rfl

/-- every observation of `runRounds` is the observation of one round on a world reached by rounds from the initial one
    (the first with the given plan, the later ones fault-free) -/
theorem runRounds_obs (h : Hashing) : ∀ (fuel silent : Nat) (i : SyncIn) (plan : List Fault),
    ∀ r ∈ runRounds h fuel silent i plan, ∃ (ps : List (List Fault)) (p : List Fault), r = (round h (roundsWith h ps i) p).2
  | 0, _, _, _ => by intro r hr; simp [runRounds] at hr
  | fuel + 1, silent, i, plan => by
    intro r hr
    rw [runRounds_succ] at hr
    generalize (if ((round h i plan).2.out == "ok" && (round h i plan).2.writes == 0) = true then silent + 1 else 0) = sl
      at hr
    have first : ∃ (ps : List (List Fault)) (p : List Fault), (round h i plan).2 = (round h (roundsWith h ps i) p).2 :=
      ⟨[], plan, rfl⟩
    by_cases hs : sl ≥ 2
    · rw [if_pos hs, List.mem_singleton] at hr
      rw [hr]; exact first
    · rw [if_neg hs] at hr
      rcases List.mem_cons.1 hr with hr | hr
      · rw [hr]; exact first
      · obtain ⟨ps, p, hp⟩ := runRounds_obs h fuel sl _ [] r hr
        exact ⟨plan :: ps, p, hp⟩

end Asts.GL
