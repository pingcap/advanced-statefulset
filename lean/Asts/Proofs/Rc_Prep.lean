import Asts.Proofs.Rc_Frame
import Asts.Proofs.Desired
import Asts.Proofs.List_Dedup
import Mathlib.Data.List.Perm.Subperm
import Mathlib.Data.List.Nodup

/-! How the slot list and the condemned list of `prepare` sit inside the pod snapshot, and how the monitors' classifier
    reads a delete off the snapshot. -/
namespace Asts.L1c

theorem find_unique {α : Type} (l : List α) (k : α → Bool) (q : α) (hq : q ∈ l) (hk : k q = true)
    (huniq : ∀ p ∈ l, k p = true → p = q) : l.find? k = some q := by
  induction l with
  | nil => cases hq
  | cons a as ih =>
    by_cases ha : k a = true
    · have := huniq a List.mem_cons_self ha
      rw [List.find?_cons_of_pos ha, this]
    · rw [List.find?_cons_of_neg ha]
      rcases List.mem_cons.1 hq with rfl | hq'
      · exact absurd hk ha
      · exact ih hq' (fun p hp => huniq p (List.mem_cons_of_mem _ hp))

/-- every pod object carries a phase and no two pods parse to the same ordinal -/
theorem wfSnapshot_spec {pods : List Pod} (h : wfSnapshot pods = true) :
    (∀ p ∈ pods, p.created = true) ∧ (pods.map (·.ord)).Nodup := by
  simp only [wfSnapshot, Bool.and_eq_true, List.all_eq_true, distinctOrds, beq_iff_eq] at h
  exact ⟨h.1, GL.nodup_of_eraseDups_length _ (by rw [h.2, List.length_map])⟩

/-! ### pods of the snapshot, looked up by id -/

theorem ids_of_positions {pods : List Pod} (hpos : ∀ (i : Nat) (p : Pod), pods[i]? = some p → p.id = i)
    (hlen : pods.length ≤ freshId) :
    (∀ p ∈ pods, ∀ q ∈ pods, p.id = q.id → p = q) ∧ ∀ p ∈ pods, p.id < freshId := by
  constructor
  · intro p hp q hq he
    obtain ⟨i, hi⟩ := List.getElem?_of_mem hp
    obtain ⟨j, hj⟩ := List.getElem?_of_mem hq
    obtain rfl : i = j := by rw [← hpos i p hi, ← hpos j q hj, he]
    exact Option.some.inj (hi.symm.trans hj)
  · intro p hp
    obtain ⟨i, hi⟩ := List.getElem?_of_mem hp
    obtain ⟨hlt, _⟩ := List.getElem?_eq_some_iff.1 hi
    rw [hpos i p hi]
    omega

theorem podById_of_mem {pods : List Pod} (hinj : ∀ p ∈ pods, ∀ q ∈ pods, p.id = q.id → p = q) {q : Pod}
    (hq : q ∈ pods) : podById pods q.id = some q :=
  find_unique pods (fun p : Pod => p.id == q.id) q hq (beq_self_eq_true _)
    (fun p hp hk => hinj p hp q hq (beq_iff_eq.1 hk))

/-- a delete handed a pod of the snapshot is classified by that pod: outside the desired set, Failed/Succeeded, other -/
theorem classify_delete_mem (D : List Int) {pods : List Pod} (hinj : ∀ p ∈ pods, ∀ q ∈ pods, p.id = q.id → p = q)
    (hlt : ∀ p ∈ pods, p.id < freshId) {q : Pod} (hq : q ∈ pods) (o : Int) (w : Why) :
    classify D pods (Action.observe (.delete o q.id w)) =
      if !D.contains q.ord then .scale else if q.fs then .replace else .update := by
  simp only [Action.observe, hlt q hq, if_true, classify, podById_of_mem hinj hq]
  rfl

/-- a delete handed an object built by this reconcile is classified `update` -/
theorem classify_delete_fresh (D : List Int) (pods : List Pod) (o : Int) {id : Nat} (h : freshId ≤ id) (w : Why) :
    classify D pods (Action.observe (.delete o id w)) = .update := by
  simp only [Action.observe, Nat.not_lt.2 h, if_false, classify]

/-! ### the condemned list and the slot list -/


theorem insertByOrd_perm (p : Pod) (l : List Pod) : (insertByOrd p l).Perm (p :: l) := by
  induction l with
  | nil => simp [insertByOrd]
  | cons q qs ih =>
    unfold insertByOrd
    split_ifs
    · exact List.Perm.refl _
    · exact (List.Perm.cons q ih).trans (List.Perm.swap p q qs)

theorem foldl_insertByOrd_perm (l acc : List Pod) :
    (l.foldl (fun acc p => insertByOrd p acc) acc).Perm (l ++ acc) := by
  induction l generalizing acc with
  | nil => simp
  | cons q qs ih =>
    simp only [List.foldl_cons]
    refine (ih _).trans ?_
    refine (List.Perm.append_left qs (insertByOrd_perm q acc)).trans ?_
    simp

theorem condemnedOf_perm (b : Int) (E : List Int) (pods : List Pod) :
    (condemnedOf b E pods).Perm (pods.filter (fun p => isCondemned b E p.ord)) := by
  unfold condemnedOf
  refine (foldl_insertByOrd_perm _ []).trans ?_
  simp

theorem mem_condemnedOf {b : Int} {E : List Int} {pods : List Pod} {c : Pod} :
    c ∈ condemnedOf b E pods ↔ c ∈ pods ∧ isCondemned b E c.ord = true := by
  rw [(condemnedOf_perm b E pods).mem_iff, List.mem_filter]

theorem slotOf_some {b : Int} {E : List Int} {pods : List Pod} {o : Int} {p : Pod} (h : slotOf b E pods o = some p) :
    p ∈ pods ∧ p.ord = o ∧ inRange b E p.ord = true := by
  unfold slotOf at h
  have := List.mem_of_getLast? h
  rw [List.mem_filter] at this
  simp only [Bool.and_eq_true, beq_iff_eq] at this
  exact ⟨this.1, this.2.1, this.2.2⟩

theorem slotOf_none {b : Int} {E : List Int} {pods : List Pod} {o : Int}
    (h : slotOf b E pods o = none) (hin : inRange b E o = true) : ∀ q ∈ pods, q.ord ≠ o := by
  unfold slotOf at h
  rw [List.getLast?_eq_none_iff, List.filter_eq_nil_iff] at h
  intro q hq heq
  apply h q hq
  rw [heq, hin, beq_self_eq_true]
  rfl

theorem slotOf_eq_none {b : Int} {E : List Int} {pods : List Pod} {o : Int} (h : ∀ q ∈ pods, q.ord ≠ o) :
    slotOf b E pods o = none := by
  unfold slotOf
  rw [List.getLast?_eq_none_iff, List.filter_eq_nil_iff]
  intro q hq hc
  rw [Bool.and_eq_true, beq_iff_eq] at hc
  exact h q hq hc.1

theorem mem_idxOf {b : Int} {E : List Int} {o : Int} : o ∈ idxOf b E ↔ inRange b E o = true := by
  rw [idxOf, List.mem_filter, mem_range_ofNat, inRange, Bool.and_eq_true, Bool.and_eq_true, decide_eq_true_eq,
    decide_eq_true_eq]

theorem idxOf_nodup (b : Int) (E : List Int) : (idxOf b E).Nodup := by
  unfold idxOf
  apply List.Nodup.filter
  apply List.Nodup.map
  · intro a b h; exact Int.ofNat.inj h
  · exact List.nodup_range

theorem repsOf_ord {v : SetView} {cur upd : String} {b : Int} {E : List Int} {pods : List Pod} {ip : Int × Pod}
    (h : ip ∈ repsOf v cur upd b E pods) : ip.2.ord = ip.1 := by
  unfold repsOf at h
  rw [List.mem_map] at h
  obtain ⟨i, _, rfl⟩ := h
  cases hs : slotOf b E pods i with
  | none => simp [newPod]
  | some p => simpa using (slotOf_some hs).2.1

/-- a slot holds the snapshot's pod of that ordinal, or the fresh object when the snapshot has none -/
theorem repsOf_mem {v : SetView} {cur upd : String} {b : Int} {E : List Int} {pods : List Pod} {ip : Int × Pod}
    (h : ip ∈ repsOf v cur upd b E pods) :
    (ip.2 ∈ pods ∧ inRange b E ip.2.ord = true) ∨ (ip.2 = newPod v cur upd ip.1 ∧ ∀ q ∈ pods, q.ord ≠ ip.1) := by
  unfold repsOf at h
  rw [List.mem_map] at h
  obtain ⟨i, hi, rfl⟩ := h
  cases hs : slotOf b E pods i with
  | none => exact Or.inr ⟨rfl, slotOf_none hs (mem_idxOf.1 hi)⟩
  | some p => exact Or.inl ⟨(slotOf_some hs).1, (slotOf_some hs).2.2⟩

theorem repsOf_fst (v : SetView) (cur upd : String) (b : Int) (E : List Int) (pods : List Pod) :
    (repsOf v cur upd b E pods).map (·.1) = idxOf b E := by
  unfold repsOf
  rw [List.map_map]
  exact List.map_id _

theorem repsOf_snd_nodup (v : SetView) (cur upd : String) (b : Int) (E : List Int) (pods : List Pod) :
    ((repsOf v cur upd b E pods).map (·.2)).Nodup := by
  have hinj : ∀ x ∈ repsOf v cur upd b E pods, ∀ y ∈ repsOf v cur upd b E pods, x.2 = y.2 → x = y := by
    intro x hx y hy hxy
    have h1 := repsOf_ord hx
    have h2 := repsOf_ord hy
    ext
    · rw [← h1, ← h2, hxy]
    · rw [hxy]
  have hnd : (repsOf v cur upd b E pods).Nodup := by
    have := idxOf_nodup b E
    rw [← repsOf_fst v cur upd b E pods] at this
    exact List.Nodup.of_map _ this
  exact List.Nodup.map_on hinj hnd

theorem inRange_not_condemned {b : Int} {E : List Int} {o : Int} (h : inRange b E o = true) : isCondemned b E o = false := by
  simp [isCondemned, h]

/-- the occupied slots and the condemned pods are disjoint sub-multisets of the snapshot -/
theorem count_split (v : SetView) (cur upd : String) (b : Int) (E : List Int) (pods : List Pod) (q : Pod → Bool)
    (hq : ∀ p, q p = true → p.created = true) :
    cnt q ((repsOf v cur upd b E pods).map (·.2)) + cnt q (condemnedOf b E pods) ≤ cnt q pods := by
  have h1 : cnt q ((repsOf v cur upd b E pods).map (·.2)) ≤ cnt q (pods.filter (fun p => inRange b E p.ord)) := by
    rw [cnt_eq_filter_length, cnt_eq_filter_length]
    have hnd : (((repsOf v cur upd b E pods).map (·.2)).filter q).Nodup := (repsOf_snd_nodup v cur upd b E pods).filter _
    have hsub : ((repsOf v cur upd b E pods).map (·.2)).filter q ⊆ (pods.filter (fun p => inRange b E p.ord)).filter q := by
      intro p hp
      rw [List.mem_filter, List.mem_map] at hp
      obtain ⟨⟨ip, hip, rfl⟩, hqp⟩ := hp
      rcases repsOf_mem hip with ⟨hm, hr⟩ | ⟨hn, -⟩
      · exact List.mem_filter.2 ⟨List.mem_filter.2 ⟨hm, hr⟩, hqp⟩
      · have := hq _ hqp
        rw [hn, newPod_created] at this
        cases this
    exact_mod_cast (List.subperm_of_subset hnd hsub).length_le
  have h2 : cnt q (condemnedOf b E pods) ≤ cnt q (pods.filter (fun p => !inRange b E p.ord)) := by
    rw [cnt_perm (condemnedOf_perm b E pods), cnt_eq_filter_length, cnt_eq_filter_length]
    have : ((pods.filter (fun p => isCondemned b E p.ord)).filter q).Sublist ((pods.filter (fun p => !inRange b E p.ord)).filter q) := by
      apply List.Sublist.filter
      apply List.monotone_filter_right
      intro p hp
      by_cases hr : inRange b E p.ord = true
      · rw [inRange_not_condemned hr] at hp; cases hp
      · simpa using hr
    exact_mod_cast this.length_le
  have h3 : cnt q pods = cnt q (pods.filter (fun p => inRange b E p.ord)) + cnt q (pods.filter (fun p => !inRange b E p.ord)) := by
    rw [← cnt_append]
    exact cnt_perm (List.filter_append_perm _ pods).symm
  omega

/-! ### the desired set -/

theorem contains_idxOf {b : Int} {E : List Int} (o : Int) : (idxOf b E).contains o = inRange b E o := by
  rw [Bool.eq_iff_iff, List.contains_iff_mem, mem_idxOf]

theorem desired_eq_idxOf (r : Int) (S : List Int) :
    desired r S = idxOf (maxReplicaAndSlots r S).1 (maxReplicaAndSlots r S).2 := by
  rw [← podOrdinals_eq_desired' r S]; rfl

theorem prepOf_reps (v : SetView) (cur upd : String) (r : Int) (pods : List Pod) :
    (prepOf v cur upd r pods).reps = (desired r v.slots).map (fun i =>
      (i, (slotOf (maxReplicaAndSlots r v.slots).1 (maxReplicaAndSlots r v.slots).2 pods i).getD (newPod v cur upd i))) := by
  rw [desired_eq_idxOf]
  rfl

/-- the desired set in the reconcile's own terms -/
theorem mem_desired_iff_inRange {r : Int} {S : List Int} {i : Int} :
    i ∈ desired r S ↔ inRange (maxReplicaAndSlots r S).1 (maxReplicaAndSlots r S).2 i = true := by
  rw [desired_eq_idxOf, mem_idxOf]

theorem maxReplica_facts (r : Int) (S : List Int) (h0 : 0 ≤ r) :
    0 ≤ (maxReplicaAndSlots r S).1 ∧ ∀ e ∈ (maxReplicaAndSlots r S).2, 0 ≤ e := by
  unfold maxReplicaAndSlots
  obtain ⟨h1, h2⟩ := extend_spec (sorted_dedupSort S) r h0
  constructor
  · rw [h1]; omega
  · intro e he
    rw [h2, List.mem_filter] at he
    simp only [Bool.and_eq_true, decide_eq_true_eq] at he
    exact he.2.1

theorem isCondemned_eq {b : Int} {E : List Int} (hb : 0 ≤ b) (hE : ∀ e ∈ E, 0 ≤ e) (o : Int) :
    isCondemned b E o = (decide (0 ≤ o) && !(idxOf b E).contains o) := by
  rw [contains_idxOf]
  unfold isCondemned
  cases hr : inRange b E o
  · simp only [Bool.not_false, Bool.true_and, Bool.and_true]
    rw [Bool.eq_iff_iff]
    simp only [Bool.or_eq_true, decide_eq_true_eq]
    unfold inRange at hr
    simp only [Bool.and_eq_false_iff, decide_eq_false_iff_not, Bool.not_eq_false'] at hr
    constructor
    · rintro (h | h)
      · omega
      · exact hE o (by simpa using h)
    · intro h
      rcases hr with (h' | h') | h'
      · omega
      · left; omega
      · right; exact h'
  · simp

end Asts.L1c
