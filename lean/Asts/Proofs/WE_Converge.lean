import Mathlib.Tactic
import Asts.Proofs.WE_SilentFix
import Asts.Proofs.C02_GConverge
import Asts.Proofs.C02_Target

/-! # WE — from `Final` within a bound to the Boolean monitor `C02converges` on `runRounds`

`C02_converges` (Props/C02.lean) gives `∃ n ≤ roundBound i, Final h (roundsN h n i)`. The monitor `C02converges` reads the
list `runRounds` returns: short enough, its last two rounds silent, the last one in `finalState`. The step between the two
is `C02converges_of_final`, under the hypothesis `NoEarlyStop`: the run does not show two silent rounds in a row before it
reaches `Final`. That hypothesis holds because a silent round is a fixed point of the run (`silentMeansFinal`). -/
namespace Asts.WE
open Asts Asts.C02p

theorem plainWorld_roundsN (h : Hashing) (w : SyncIn) : ∀ n, plainWorld h w [] n = roundsN h n w
  | 0 => rfl
  | n + 1 => by
    show (round h (plainWorld h w [] n) (planAt [] n)).1 = _
    rw [plainWorld_roundsN h w n, planAt_nil, roundsN_succ]

theorem roundsN_add (h : Hashing) (W : SyncIn) (a : Nat) : ∀ b, roundsN h (a + b) W = roundsN h b (roundsN h a W)
  | 0 => rfl
  | b + 1 => by rw [← Nat.add_assoc, roundsN_succ, roundsN_succ, roundsN_add h W a b]

theorem final_from {h : Hashing} {i : SyncIn} {n : Nat} (hf : Final h (roundsN h n i)) (j : Nat) :
    Final h (roundsN h (n + j) i) := by
  rw [roundsN_add]
  exact final_roundsN hf j

theorem roundsN_view (h : Hashing) (i : SyncIn) : ∀ n, (roundsN h n i).view.replicas = i.view.replicas ∧
    (roundsN h n i).view.slots = i.view.slots ∧ (roundsN h n i).view.strat = i.view.strat ∧
    (roundsN h n i).view.ru = i.view.ru ∧ (roundsN h n i).setName = i.setName
  | 0 => ⟨rfl, rfl, rfl, rfl, rfl⟩
  | n + 1 => by
    rw [roundsN_succ]
    exact roundsN_view h i n

theorem finalState_congr {i i' : SyncIn} (r : RoundObs) (h1 : i'.view.replicas = i.view.replicas)
    (h2 : i'.view.slots = i.view.slots) (h3 : i'.view.strat = i.view.strat) (h4 : i'.view.ru = i.view.ru)
    (h5 : i'.setName = i.setName) : finalState i' r = finalState i r := by
  unfold finalState replicasOf partOf
  rw [h1, h2, h3, h4, h5]

theorem reverse_two {α} (L : List α) (m : Nat) (x y : α) (hlen : L.length = m + 2) (hx : L[m + 1]? = some x)
    (hy : L[m]? = some y) : ∃ t, L.reverse = x :: y :: t := by
  have h0 : L.reverse[0]? = some x := by
    rw [List.getElem?_reverse (by omega)]
    have : L.length - 1 - 0 = m + 1 := by omega
    rw [this]; exact hx
  have h1 : L.reverse[1]? = some y := by
    rw [List.getElem?_reverse (by omega)]
    have : L.length - 1 - 1 = m := by omega
    rw [this]; exact hy
  match hr : L.reverse with
  | [] => rw [hr] at h0; simp at h0
  | [a] => rw [hr] at h1; simp at h1
  | a :: b :: t =>
    rw [hr] at h0 h1
    simp only [List.getElem?_cons_zero, Option.some.injEq] at h0
    simp only [List.getElem?_cons_succ, List.getElem?_cons_zero, Option.some.injEq] at h1
    exact ⟨t, by rw [h0, h1]⟩

/-- the run does not show two silent rounds in a row before round `n` -/
def NoEarlyStop (h : Hashing) (i : SyncIn) (n : Nat) : Prop := ∀ k, k < n → cntFrom h 0 i [] k < 2

/-- **`Final` within the bound ⇒ the monitor `C02converges` is true on the model's run** (budget at least `n + 2`), provided
    the run does not go quiet before it is `Final` -/
theorem C02converges_of_final (h : Hashing) (i : SyncIn) (fuel n : Nat) (hn : n ≤ roundBound i)
    (hf : Final h (roundsN h n i)) (hfuel : n + 2 ≤ fuel) (hne : NoEarlyStop h i n) :
    C02converges h i (runRounds h fuel 0 i []) = true := by
  obtain ⟨ha, hb, hc, hd⟩ := runRounds_spec h fuel 0 i []
  set L := runRounds h fuel 0 i [] with hL
  -- rounds n, n+1, … run on `Final` worlds: silent, in the final state
  have hobs : ∀ j, silentOk (obsFrom h i [] (n + j)) = true ∧ finalState i (obsFrom h i [] (n + j)) = true := by
    intro j
    have hfj := final_from hf j
    obtain ⟨a, b⟩ := final_round_obs hfj
    have hw : obsFrom h i [] (n + j) = (round h (roundsN h (n + j) i) []).2 := by
      unfold obsFrom; rw [plainWorld_roundsN, planAt_nil]
    obtain ⟨v1, v2, v3, v4, v5⟩ := roundsN_view h i (n + j)
    rw [hw]
    exact ⟨a, (finalState_congr _ v1 v2 v3 v4 v5).symm.trans b⟩
  have hcnt : cntFrom h 0 i [] (n + 1) ≥ 2 := cnt_of_two_silent h 0 i [] n (hobs 0).1 (hobs 1).1
  have hle : L.length ≤ n + 2 := by
    by_contra hgt
    have := hc (n + 1) (by omega)
    omega
  have hge : n + 1 ≤ L.length := by
    by_cases hlt : L.length < fuel
    · obtain ⟨m, hm, hcm⟩ := hd hlt
      have : ¬ m < n := fun hmn => by have := hne m hmn; omega
      omega
    · omega
  -- the last two rounds
  have key : ∃ m, L.length = m + 2 ∧ silentOk (obsFrom h i [] m) = true ∧ silentOk (obsFrom h i [] (m + 1)) = true ∧
      finalState i (obsFrom h i [] (m + 1)) = true := by
    by_cases hl : L.length = n + 2
    · exact ⟨n, hl, (hobs 0).1, (hobs 1).1, (hobs 1).2⟩
    · have hl' : L.length = n + 1 := by omega
      obtain ⟨m, hm, hcm⟩ := hd (by omega)
      have hmn : m = n := by omega
      subst hmn
      obtain ⟨k, hk, s1, s2⟩ := cnt_ge_two h i [] m hcm
      subst hk
      exact ⟨k, by omega, s1, s2, by have := (hobs 0).2; simpa using this⟩
  obtain ⟨m, hm, s1, s2, fs⟩ := key
  obtain ⟨t, ht⟩ := reverse_two L m _ _ hm (ha (m + 1) (by omega)) (ha m (by omega))
  unfold C02converges
  rw [ht]
  simp only [s1, s2, fs, Bool.and_true, Bool.or_eq_true, Bool.and_eq_true, decide_eq_true_eq]
  right
  omega

/-- a run that has shown two silent successful rounds in a row is in its final state (a silent reconcile changes nothing, so
    the run stays where it is; for a world that converges at all that place is `Final`: `silentMeansFinal`) -/
def SilentMeansFinal (h : Hashing) (W : SyncIn) : Prop := ∀ k, cntFrom h 0 W [] k ≥ 2 → Final h (roundsN h k W)

/-- **convergence, read by the monitor**: if the run from `W` reaches `Final` within `roundBound W` rounds (what
    `C02_converges` proves from `wfWorld` and `extraMB`), the budget is at least `roundBound W + 2` and
    `SilentMeansFinal`, the Boolean monitor `C02converges` is true on the list `runRounds` returns -/
theorem C02converges_of_bound (h : Hashing) (W : SyncIn) (fuel : Nat)
    (hconv : ∃ n ≤ roundBound W, Final h (roundsN h n W)) (hfuel : roundBound W + 2 ≤ fuel)
    (hsf : SilentMeansFinal h W) : C02converges h W (runRounds h fuel 0 W []) = true := by
  classical
  have hex : ∃ n, Final h (roundsN h n W) := by obtain ⟨n, _, hf⟩ := hconv; exact ⟨n, hf⟩
  have hmin_le : Nat.find hex ≤ roundBound W := by
    obtain ⟨n, hn, hf⟩ := hconv
    exact le_trans (Nat.find_min' hex hf) hn
  apply C02converges_of_final h W fuel (Nat.find hex) hmin_le (Nat.find_spec hex) (by omega)
  intro k hk
  by_contra hge
  exact Nat.find_min hex hk (hsf k (by omega))

/-- the same for the part of a history that follows the last edits (`runHistory_last`): in the round `j` of the last edits
    (edits non-empty, none later, `j ≥ 2` so that no fault plan is left) the observations of the history are the run of the
    world `W` those edits produced, and the monitor `C02converges` — what `C02afterEdits` evaluates on that suffix — is true -/
theorem C02converges_after_last_edit (h : Hashing) (script : Script) (fuel j silent : Nat) (i : SyncIn)
    (hs : ∀ e ∈ script, e.1 ≤ j) (hed : (editsAt script j).isEmpty = false)
    (hconv : ∃ n ≤ roundBound (applyEdits (editsAt script j) i), Final h (roundsN h n (applyEdits (editsAt script j) i)))
    (hfuel : roundBound (applyEdits (editsAt script j) i) + 2 ≤ fuel)
    (hsf : SilentMeansFinal h (applyEdits (editsAt script j) i)) :
    C02converges h (applyEdits (editsAt script j) i) ((runHistory h script fuel j silent i []).map (·.obs)) = true := by
  rw [runHistory_last h script fuel j silent i [] hs, hed]
  simp only [Bool.false_eq_true, if_false]
  exact C02converges_of_bound h _ fuel hconv hfuel hsf

theorem fixed_forever (h : Hashing) (Y : SyncIn) (hfix : (round h Y []).1 = Y) : ∀ j, roundsN h j Y = Y
  | 0 => rfl
  | j + 1 => by rw [roundsN_succ, fixed_forever h Y hfix j, hfix]

/-- **a run that has shown two silent rounds in a row is in its final state**, if it reaches a final state at all: pod names
    distinct in the settled form of every world of the run (no premise on the derived field of the initial world) -/
theorem silentMeansFinal (h : Hashing) (W : SyncIn)
    (hnod : ∀ n, ((settle (roundsN h n W)).pods.map (·.name)).Nodup) (hconv : ∃ n, Final h (roundsN h n W)) :
    SilentMeansFinal h W := by
  intro k hk
  obtain ⟨m, rfl, s1, s2⟩ := cnt_ge_two h W [] k hk
  have hobs : ∀ j, obsFrom h W [] j = (round h (roundsN h j W) []).2 := by
    intro j; unfold obsFrom; rw [plainWorld_roundsN, planAt_nil]
  rw [hobs] at s1 s2
  -- after the first silent round the world is settled and in step; the second silent round leaves it
  have hw1 : roundsN h (m + 1) W = nrm (roundsN h m W) := by
    rw [roundsN_succ]; exact silent_round_world h _ (hnod m) s1
  have hfix : (round h (roundsN h (m + 1) W) []).1 = roundsN h (m + 1) W := by
    rw [silent_round_fix h _ (by rw [hw1]; exact nrm_viewInStep _) (hnod (m + 1)) s2, hw1]
    exact settle_nrm _ (hnod m)
  obtain ⟨n, hf⟩ := hconv
  by_cases hle : n ≤ m + 1
  · obtain ⟨j, hj⟩ : ∃ j, m + 1 = n + j := ⟨m + 1 - n, by omega⟩
    rw [hj]; exact final_from hf j
  · obtain ⟨j, hj⟩ : ∃ j, n = (m + 1) + j := ⟨n - (m + 1), by omega⟩
    rw [hj, roundsN_add, fixed_forever h _ hfix j] at hf
    exact hf

/-- **`C02converges`, the monitor, on the run of a world that converges**: budget `roundBound W + 2`, distinct pod names in
    the settled worlds of the run -/
theorem C02converges_run (h : Hashing) (W : SyncIn) (fuel : Nat)
    (hnod : ∀ n, ((settle (roundsN h n W)).pods.map (·.name)).Nodup)
    (hconv : ∃ n ≤ roundBound W, Final h (roundsN h n W)) (hfuel : roundBound W + 2 ≤ fuel) :
    C02converges h W (runRounds h fuel 0 W []) = true :=
  C02converges_of_bound h W fuel hconv hfuel
    (silentMeansFinal h W hnod (by obtain ⟨n, _, hf⟩ := hconv; exact ⟨n, hf⟩))

end Asts.WE
