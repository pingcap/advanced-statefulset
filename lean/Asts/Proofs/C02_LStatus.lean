import Asts.Proofs.C02_LWalk
import Asts.Proofs.L1_c_Bounds

/-! C02, legacy boundary mode: `status.currentReplicas` after a reconcile in which the update walk took a pod down at
    ordinal `t` is at most `t` (when the current and the update revision differ) — so the vacancy it leaves is refilled at
    the update revision. -/
namespace Asts.C02p
open Asts Asts.L1c

/-! ### the counter through the loops (no faults) -/

theorem replicaLoop_par_cur (v : SetView) (cur upd : String) (reps : List (Int × Pod))
    (hq : ∀ ip ∈ reps, ip.2.created = false → ip.2.terminating = false) (s s' : St) (reps' : List (Int × Pod))
    (h : replicaLoop v cur upd [] false s reps = (.next s', reps')) :
    s'.status.current = s.status.current - cnt (countedAt cur) (reps.map (·.2)) + cnt (liveAt cur) (reps'.map (·.2)) := by
  induction reps generalizing s reps' with
  | nil =>
    simp only [replicaLoop, Prod.mk.injEq, Ctl.next.injEq] at h
    obtain ⟨rfl, rfl⟩ := h
    simp [cnt]
  | cons ip rest ih =>
    obtain ⟨i, q⟩ := ip
    unfold replicaLoop at h
    cases hstep : replicaStep v cur upd [] false s i q with
    | mk c p' =>
      rw [hstep] at h
      cases c with
      | done s1 o => simp at h
      | next s1 =>
        simp only at h
        cases hrest : replicaLoop v cur upd [] false s1 rest with
        | mk c2 rest' =>
          rw [hrest] at h
          simp only [Prod.mk.injEq] at h
          obtain ⟨rfl, rfl⟩ := h
          have ih' := ih (fun ip hip => hq ip (List.mem_cons_of_mem _ hip)) s1 rest' hrest
          have hq0 := hq (i, q) List.mem_cons_self
          simp only [List.map_cons, cnt_cons_ind]
          rw [ih']
          have key : s1.status.current = s.status.current - ind (countedAt cur q) + ind (liveAt cur p') := by
            rcases replicaStep_good v cur upd [] false s i q s1 p' (Or.inl hstep) with
              ⟨hfs, rfl, rfl⟩ | ⟨hfs, hcr, rfl, rfl⟩ | ⟨hfs, hcr, rfl, hs1⟩
            · have := ctr_stepReplace true v cur upd s i q
              simp only [ctr, revK, if_true] at this
              rw [this]
              have hc : q.created = true := fs_created hfs
              have e1 : countedAt cur q = liveAt cur q := by simp [countedAt, liveAt, hc]
              have e2 : liveAt cur (newPod v cur upd i) = ((newPod v cur upd i).rev == cur) := by simp [liveAt, newPod]
              rw [e1, e2]
            · have := ctr_stepCreate true cur upd s i p'
              simp only [ctr, revK, if_true] at this
              rw [this]
              have e1 : countedAt cur p' = false := by simp [countedAt, hcr]
              have hnt : p'.terminating = false := hq0 hcr
              have e2 : liveAt cur p' = (p'.rev == cur) := by simp [liveAt, hnt]
              rw [e1, e2]; simp [ind]
            · have hst : s1.status = s.status := by rcases hs1 with rfl | rfl <;> rfl
              rw [hst]
              have e1 : countedAt cur p' = liveAt cur p' := by simp [countedAt, liveAt, hcr]
              rw [e1]; omega
          rw [key]; omega

theorem condemnedLoop_par_cur (cur upd : String) (fu : Option Pod) (cs : List Pod) (s s' : St)
    (h : condemnedLoop cur upd [] false fu s cs = .next s') :
    s'.status.current = s.status.current - cnt (liveAt cur) cs := by
  induction cs generalizing s with
  | nil =>
    simp only [condemnedLoop, Ctl.next.injEq] at h
    rw [← h]; simp [cnt]
  | cons c rest ih =>
    rcases condemnedLoop_cons cur upd [] false fu s c rest with ⟨hm, -⟩ | ⟨-, ht, e⟩ | ⟨-, hf, -⟩ | ⟨ht, -, e⟩
    · cases hm
    · rw [e] at h
      rw [ih s h, cnt_cons_ind]
      simp [liveAt, ht, ind]
    · rw [hit_nil] at hf
      cases hf
    · rw [e, if_neg Bool.false_ne_true] at h
      rw [ih _ h, cnt_cons_ind]
      simp only [stepScale, bump_current]
      simp only [liveAt, ht, Bool.not_false, Bool.true_and, ind]
      split_ifs <;> omega

/-- the walk's effect on the counter -/
def tgtDelta (cur : String) : Option (Int × Pod) → Int
  | some (_, q) => ind (q.rev == cur)
  | none => 0

theorem updateWalk_nil_cur (cur upd : String) (l : List (Int × Pod)) (s : St) :
    (updateWalk cur upd [] s l).1.status.current = s.status.current - tgtDelta cur (walkFind upd l) := by
  induction l with
  | nil => simp [updateWalk, walkFind, tgtDelta]
  | cons ip rest ih =>
    obtain ⟨t, p⟩ := ip
    unfold updateWalk walkFind
    by_cases h1 : (p.rev != upd && !p.terminating) = true
    · simp only [h1, if_true, tgtDelta, ind]
      split_ifs <;> simp
    · simp only [h1, Bool.false_eq_true, if_false]
      by_cases h2 : (!p.healthy) = true
      · simp only [h2, if_true, tgtDelta]; omega
      · simp only [h2, Bool.false_eq_true, if_false]
        exact ih

theorem updateStage_nil_cur (v : SetView) (cur upd : String) (reps : List (Int × Pod)) (s : St) :
    (updateStage v cur upd [] reps s).1.status.current = s.status.current - tgtDelta cur (walkTarget v upd reps) := by
  unfold updateStage walkTarget
  split_ifs
  · simp [tgtDelta]
  · exact updateWalk_nil_cur cur upd _ s

/-! ### what the walk has passed is at the update revision -/

theorem walkFind_split {upd : String} {l : List (Int × Pod)} {x : Int × Pod} (h : walkFind upd l = some x) :
    ∃ pre post, l = pre ++ x :: post ∧ (∀ y ∈ pre, y.2.rev = upd) ∧ x.2.rev ≠ upd ∧ x.2.terminating = false := by
  induction l with
  | nil => cases h
  | cons ip rest ih =>
    obtain ⟨t, p⟩ := ip
    unfold walkFind at h
    split_ifs at h with h1 h2
    · simp only [Option.some.injEq] at h
      subst h
      simp only [Bool.and_eq_true, bne_iff_ne, ne_eq, Bool.not_eq_true'] at h1
      exact ⟨[], rest, rfl, by simp, h1.1, h1.2⟩
    · obtain ⟨pre, post, hl, hpre, hx⟩ := ih h
      refine ⟨(t, p) :: pre, post, by rw [hl]; rfl, ?_, hx⟩
      intro y hy
      rcases List.mem_cons.1 hy with rfl | hy
      · -- passed: healthy, hence not terminating, hence at the update revision
        have hh : p.healthy = true := by simpa using h2
        have hnt := (healthy_facts hh).2.1
        simp only [hnt, Bool.not_false, Bool.and_true, bne_iff_ne, ne_eq, Decidable.not_not] at h1
        exact h1
      · exact hpre y hy

/-- ascending keys in `[lo, t)`: at most `t - lo` of them -/
theorem length_le_of_keys (l : List (Int × Pod)) (hs : (l.map (·.1)).Pairwise (· < ·)) (lo t : Int) (hlt : lo ≤ t)
    (h0 : ∀ ip ∈ l, lo ≤ ip.1) (ht : ∀ ip ∈ l, ip.1 < t) : (l.length : Int) ≤ t - lo := by
  induction l generalizing lo with
  | nil => simp; omega
  | cons a rest ih =>
    rw [List.map_cons, List.pairwise_cons] at hs
    have ha0 := h0 a List.mem_cons_self
    have hat := ht a List.mem_cons_self
    have := ih hs.2 (a.1 + 1) (by omega)
      (fun ip hip => by have := hs.1 ip.1 (List.mem_map.2 ⟨ip, hip, rfl⟩); omega)
      (fun ip hip => ht ip (List.mem_cons_of_mem _ hip))
    simp only [List.length_cons, Nat.cast_add, Nat.cast_one]
    omega

end Asts.C02p

namespace Asts.C02p
open Asts Asts.L1c

/-- **the list-level bound**: over slots with ascending nonnegative ordinals, when the walk (partition 0) takes down the pod
    at `t`, the pods still counted at the current revision are all below `t` -/
theorem walk_bound_list (v : SetView) (cur upd : String) (R : List (Int × Pod)) (hpart : partOf v = 0)
    (hs : (R.map (·.1)).Pairwise (· < ·)) (h0 : ∀ ip ∈ R, 0 ≤ ip.1) {t : Int} {q : Pod}
    (ht : walkTarget v upd R = some (t, q)) (hne : cur ≠ upd) :
    cnt (liveAt cur) (R.map (·.2)) - tgtDelta cur (some (t, q)) ≤ t := by
  unfold walkTarget at ht
  split_ifs at ht
  unfold walkList at ht
  have hfilt : R.filter (fun ip => partOf v ≤ ip.1) = R := by
    rw [List.filter_eq_self]
    intro ip hip
    rw [hpart]
    simpa using h0 ip hip
  rw [hfilt] at ht
  obtain ⟨pre, post, hl, hpre, _, _⟩ := walkFind_split ht
  have hR : R = post.reverse ++ (t, q) :: pre.reverse := by
    have := congrArg List.reverse hl
    simpa using this
  have hpre0 : cnt (liveAt cur) (pre.reverse.map (·.2)) = 0 := by
    have : ∀ p ∈ pre.reverse.map (·.2), liveAt cur p = false := by
      intro p hp
      rw [List.mem_map] at hp
      obtain ⟨y, hy, rfl⟩ := hp
      have := hpre y (List.mem_reverse.1 hy)
      simp only [liveAt, this, Bool.and_eq_false_iff, beq_eq_false_iff_ne, ne_eq]
      right; exact fun h => hne h.symm
    unfold cnt
    rw [List.countP_eq_zero.2 (fun p hp => by simp [this p hp])]
    rfl
  have ht0 : 0 ≤ t := h0 (t, q) (by rw [hR]; simp)
  have hpostlen : (post.reverse.length : Int) ≤ t := by
    have hs' := hs
    rw [hR, List.map_append, List.pairwise_append] at hs'
    have := length_le_of_keys post.reverse hs'.1 0 t ht0
      (fun ip hip => h0 ip (by rw [hR]; exact List.mem_append_left _ hip))
      (fun ip hip => hs'.2.2 ip.1 (List.mem_map_of_mem hip) t List.mem_cons_self)
    omega
  have hpostcnt : cnt (liveAt cur) (post.reverse.map (·.2)) ≤ t := by
    have := cnt_le_length (liveAt cur) (post.reverse.map (·.2))
    rw [List.length_map] at this
    omega
  rw [hR, List.map_append, cnt_append, List.map_cons, cnt_cons_ind, hpre0]
  have hq : ind (liveAt cur q) ≤ ind (q.rev == cur) := by
    unfold liveAt ind
    cases q.terminating <;> cases (q.rev == cur) <;> simp
  simp only [tgtDelta]
  omega

/-- what the census counts at a revision is live there -/
theorem cnt_counted_le_live (x : String) (l : List Pod) : cnt (countedAt x) l ≤ cnt (liveAt x) l := by
  apply cnt_mono
  intro p _ hp
  simp only [countedAt, Bool.and_eq_true] at hp
  simp only [liveAt, Bool.and_eq_true]
  exact ⟨hp.1.2, hp.2⟩

theorem st0Of_current (v : SetView) (cur upd : String) (pods : List Pod) :
    (st0Of v cur upd pods).current = cnt (countedAt cur) pods := by
  have := census_ctr true cur upd pods
  simpa [ctr, revK, st0Of] using this

/-- the census, split into the slots and the pods outside the desired set -/
theorem census_split_le {setName : String} {P : List CPod} (hc : PodsCtx setName P) (v : SetView) (cur upd : String)
    (b : Int) (E : List Int) (hb0 : 0 ≤ b) (hE : ∀ e ∈ E, 0 ≤ e) :
    cnt (countedAt cur) (P.map (·.pod)) ≤
      cnt (countedAt cur) ((repsOf v cur upd b E (P.map (·.pod))).map (·.2)) +
      cnt (liveAt cur) (condemnedOf b E (P.map (·.pod))).reverse := by
  have hsplit : cnt (countedAt cur) (P.map (·.pod)) =
      cnt (countedAt cur) ((P.map (·.pod)).filter (fun p => inRange b E p.ord)) +
      cnt (countedAt cur) ((P.map (·.pod)).filter (fun p => !inRange b E p.ord)) := by
    rw [← cnt_append]
    exact cnt_perm (List.filter_append_perm _ _).symm
  have hnd : (P.map (·.pod)).Nodup := by
    have := hc.ordNodup
    exact List.Nodup.of_map _ this
  have h1 : cnt (countedAt cur) ((P.map (·.pod)).filter (fun p => inRange b E p.ord)) ≤
      cnt (countedAt cur) ((repsOf v cur upd b E (P.map (·.pod))).map (·.2)) := by
    rw [cnt_eq_filter_length, cnt_eq_filter_length]
    have hnd' : (((P.map (·.pod)).filter (fun p => inRange b E p.ord)).filter (countedAt cur)).Nodup := (hnd.filter _).filter _
    have hsub : ((P.map (·.pod)).filter (fun p => inRange b E p.ord)).filter (countedAt cur) ⊆
        ((repsOf v cur upd b E (P.map (·.pod))).map (·.2)).filter (countedAt cur) := by
      intro p hp
      rw [List.mem_filter, List.mem_filter, List.mem_map] at hp
      obtain ⟨⟨⟨c, hcm, rfl⟩, hr⟩, hq⟩ := hp
      rw [List.mem_filter, List.mem_map]
      refine ⟨⟨(c.pod.ord, c.pod), mem_repsOf.2 ⟨hr, by simp [hc.slot_of_mem hcm hr]⟩, rfl⟩, hq⟩
    exact_mod_cast (List.subperm_of_subset hnd' hsub).length_le
  have h2 : cnt (countedAt cur) ((P.map (·.pod)).filter (fun p => !inRange b E p.ord)) ≤
      cnt (liveAt cur) (condemnedOf b E (P.map (·.pod))).reverse := by
    rw [cnt_perm (List.reverse_perm _), cnt_perm (L1c.condemnedOf_perm b E _)]
    have hfe : (P.map (·.pod)).filter (fun p => !inRange b E p.ord) = (P.map (·.pod)).filter (fun p => isCondemned b E p.ord) := by
      apply List.filter_congr
      intro p hp
      rw [List.mem_map] at hp
      obtain ⟨c, hcm, rfl⟩ := hp
      rw [isCondemned_eq hb0 hE, contains_idxOf]
      simp [(hc.own c hcm).2.2.2.2.1]
    rw [hfe]
    exact cnt_counted_le_live _ _
  omega

end Asts.C02p

namespace Asts.C02p
open Asts Asts.L1c

theorem reps_uncreated_nt {setName : String} {P : List CPod} (hc : PodsCtx setName P) (v : SetView) (cur upd : String)
    (b : Int) (E : List Int) :
    ∀ ip ∈ repsOf v cur upd b E (P.map (·.pod)), ip.2.created = false → ip.2.terminating = false := by
  intro ip hip hcr
  obtain ⟨_, ⟨c, hcm, _, hq⟩ | ⟨_, hq⟩⟩ := hc.mem_repsOf.1 hip
  · have := (hc.own c hcm).2.2.2.2.2.2
    rw [← hq, hcr] at this; cases this
  · rw [hq]; rfl

theorem reps_keys (v : SetView) (cur upd : String) (b : Int) (E : List Int) (pods : List Pod) :
    ((repsOf v cur upd b E pods).map (·.1)).Pairwise (· < ·) ∧ ∀ ip ∈ repsOf v cur upd b E pods, 0 ≤ ip.1 := by
  have hfst : (repsOf v cur upd b E pods).map (·.1) = idxOf b E := by
    unfold repsOf; rw [List.map_map]; exact List.map_id _
  constructor
  · rw [hfst]
    unfold idxOf
    apply List.Pairwise.filter
    rw [List.pairwise_map]
    exact (List.pairwise_lt_range (n := b.toNat)).imp (fun h => by simpa using h)
  · intro ip hip
    have hr := (mem_repsOf.1 hip).1
    unfold inRange at hr
    simp only [Bool.and_eq_true, decide_eq_true_eq] at hr
    exact hr.1.1

/-- **Parallel, no faults**: `status.currentReplicas` after the reconcile is at most the number of slots that, after the
    replica loop, hold a live pod at the current revision, less the pod the walk took down -/
theorem recon_par_cur_le {setName : String} {P : List CPod} (hc : PodsCtx setName P) (v : SetView) (cur upd : String) (r : Int)
    (hr : v.replicas = some r) (h0 : 0 ≤ r) (hpar : v.parallel = true) (hdel : v.deleting = false)
    :
    (updateStatefulSet v cur upd (P.map (·.pod)) []).1.status.current ≤
      cnt (liveAt cur) (((repsOf v cur upd (maxReplicaAndSlots r v.slots).1 (maxReplicaAndSlots r v.slots).2 (P.map (·.pod))).map
        (repNew v cur upd)).map (·.2)) -
      tgtDelta cur (tgtOf v cur upd (maxReplicaAndSlots r v.slots).1 (maxReplicaAndSlots r v.slots).2 P) := by
  have hfacts := maxReplica_facts r v.slots h0
  have hsplit := census_split_le hc v cur upd _ _ hfacts.1 hfacts.2
  obtain ⟨p, hrun, hreps, hcond, hst0⟩ :=
    updateStatefulSet_run_prep (cur := cur) (upd := upd) (pods := P.map (·.pod)) [] hr hdel
  rw [hrun]
  unfold runLoops
  simp only [hpar, Bool.not_true]
  obtain ⟨s1, h1, _⟩ := replicaLoop_par v cur upd p.reps { status := p.st0 }
  rw [h1]; simp only
  have c1 := replicaLoop_par_cur v cur upd p.reps (by rw [hreps]; exact reps_uncreated_nt hc v cur upd _ _) _ _ _ h1
  obtain ⟨s2, h3, _⟩ := condemnedLoop_par cur upd p.fu p.condemned.reverse s1
  rw [h3]; simp only
  have c2 := condemnedLoop_par_cur cur upd p.fu p.condemned.reverse s1 s2 h3
  rw [updateStage_nil_cur, c2, c1]
  have hc0 : p.st0.current = cnt (countedAt cur) (P.map (·.pod)) := by rw [hst0, st0Of_current]
  simp only [hc0, hreps, hcond]
  unfold tgtOf
  omega

end Asts.C02p

namespace Asts.C02p
open Asts Asts.L1c

theorem replicaLoop_mono_next (v : SetView) (cur upd : String) (reps : List (Int × Pod))
    (hq : ∀ ip ∈ reps, Plain ip.2) (s : St) :
    ∃ s', replicaLoop v cur upd [] true s reps = (.next s', reps) ∧ s'.status = s.status := by
  induction reps generalizing s with
  | nil => exact ⟨s, rfl, rfl⟩
  | cons ip rest ih =>
    obtain ⟨i, q⟩ := ip
    unfold replicaLoop
    rw [replicaStep_mono_plain v cur upd s i q (hq (i, q) List.mem_cons_self)]
    simp only
    obtain ⟨s', h1, h2⟩ := ih (fun ip hip => hq ip (List.mem_cons_of_mem _ hip)) { s with acts := s.acts ++ idUpd i q }
    exact ⟨s', by rw [h1], h2⟩

/-- **OrderedReady, no faults, full set, nothing to scale in**: the counter after the reconcile -/
theorem recon_mono_cur_le {h : Hashing} {j : SyncIn} (hk : MonoK0 h j)
    (hfl : (monoRep j.view hk.1.norm.curRev.name hk.1.norm.updRev.name
      (repsOf j.view hk.1.norm.curRev.name hk.1.norm.updRev.name (bOf j) (EOf j) (j.pods.map (·.pod)))).2 = true)
    (hce : (condemnedOf (bOf j) (EOf j) (j.pods.map (·.pod))).reverse = []) :
    hk.1.norm.recon.1.status.current ≤
      cnt (liveAt hk.1.norm.curRev.name)
        ((repsOf j.view hk.1.norm.curRev.name hk.1.norm.updRev.name (bOf j) (EOf j) (j.pods.map (·.pod))).map (·.2)) -
      tgtDelta hk.1.norm.curRev.name (walkTarget j.view hk.1.norm.updRev.name
        (repsOf j.view hk.1.norm.curRev.name hk.1.norm.updRev.name (bOf j) (EOf j) (j.pods.map (·.pod)))) := by
  have hs := hk.1
  have hn := hs.norm
  have hpar := hk.2.1
  have hsplit := census_split_le hs.ctx j.view hn.curRev.name hn.updRev.name (bOf j) (EOf j) (bOf_nonneg hn) (EOf_nonneg hn)
  rw [hce] at hsplit
  have hplain : ∀ ip ∈ repsOf j.view hn.curRev.name hn.updRev.name (bOf j) (EOf j) (j.pods.map (·.pod)), Plain ip.2 := by
    intro ip hip
    obtain ⟨h1, h2, _⟩ := monoRep_done hfl ip hip
    rcases mono_reps_kinds hs _ _ ip hip with hp | hfs | hcr
    · exact hp
    · rw [h1] at hfs; cases hfs
    · rw [h2] at hcr; cases hcr
  unfold NormC.recon
  obtain ⟨p, hrun, hreps, hcond, hst0⟩ := updateStatefulSet_run_prep (cur := hn.curRev.name) (upd := hn.updRev.name)
    (pods := j.pods.map (·.pod)) [] hn.spec.rep hn.spec.del
  rw [hrun]
  have hreps' : p.reps = repsOf j.view hn.curRev.name hn.updRev.name (bOf j) (EOf j) (j.pods.map (·.pod)) := hreps
  have hcond' : p.condemned = condemnedOf (bOf j) (EOf j) (j.pods.map (·.pod)) := hcond
  unfold runLoops
  simp only [hpar, Bool.not_false]
  obtain ⟨s1, h1, hst1⟩ := replicaLoop_mono_next j.view hn.curRev.name hn.updRev.name p.reps (by rw [hreps']; exact hplain)
    { status := p.st0 }
  rw [h1]; simp only
  rw [hcond', hce]
  simp only [condemnedLoop]
  rw [updateStage_nil_cur, hst1, hreps']
  have hc0 : p.st0.current = cnt (countedAt hn.curRev.name) (j.pods.map (·.pod)) := by rw [hst0, st0Of_current]
  simp only [hc0]
  have hcl := cnt_counted_le_live hn.curRev.name
    ((repsOf j.view hn.curRev.name hn.updRev.name (bOf j) (EOf j) (j.pods.map (·.pod))).map (·.2))
  simp only [cnt, List.countP_nil, Nat.cast_zero, add_zero] at hsplit
  unfold cnt at hcl ⊢
  omega

end Asts.C02p
