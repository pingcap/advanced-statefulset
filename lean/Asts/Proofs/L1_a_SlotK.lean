import Asts.Proofs.L1_a_Exact
import Asts.Proofs.EditAlgebra
import Mathlib.Tactic

/-! # `slot_k_only` — putting ordinal `k` into delete-slots removes pod `k` and no other pod

Also what `L1_e_SlotOut` shares with it: a desired ordinal that holds a pod is served by it (`slotOf_getD_mem`). -/
namespace Asts
open List
open L1c (healthy_facts mem_desired_iff_inRange slotOf_some slotOf_none inRange_not_condemned replicaLoop_quiet updateStage_allupd)

/-- the condemned loop on one healthy pod deletes it, whatever the policy and the fault plan -/
theorem condemnedLoop_single (cur upd : String) (f : Faults) (mono : Bool) (fu : Option Pod) (s : St) (c : Pod)
    (hc : c.healthy = true) :
    (condemnedLoop cur upd f mono fu s [c]).st.acts = s.acts ++ [.delete c.ord c.id .scaleDown] ∧
    ((condemnedLoop cur upd f mono fu s [c]).isNext = true ∨ (condemnedLoop cur upd f mono fu s [c]).okFlag = !f.hit 1 c.ord) := by
  obtain ⟨h5, h4, -⟩ := healthy_facts hc
  unfold condemnedLoop
  rw [h4, h5]
  cases f.hit 1 c.ord
  · cases mono
    · exact ⟨rfl, Or.inl rfl⟩
    · exact ⟨rfl, Or.inr rfl⟩
  · exact ⟨rfl, Or.inr rfl⟩

theorem filter_single {α : Type} (q : α → Bool) (l1 l2 : List α) (x : α) (hx : q x = true)
    (h1 : ∀ y ∈ l1, q y = false) (h2 : ∀ y ∈ l2, q y = false) : (l1 ++ x :: l2).filter q = [x] := by
  rw [List.filter_append, List.filter_cons_of_pos hx,
    List.filter_eq_nil_iff.2 fun y hy => Bool.eq_false_iff.1 (h1 y hy),
    List.filter_eq_nil_iff.2 fun y hy => Bool.eq_false_iff.1 (h2 y hy)]
  rfl

/-! ### the desired set in the reconcile's own terms -/

theorem isCondemned_of_not_desired {r : Int} {S : List Int} {k : Int} (hk0 : 0 ≤ k) (hkD : k ∉ desired r S) :
    isCondemned (maxReplicaAndSlots r S).1 (maxReplicaAndSlots r S).2 k = true := by
  have hnin := Bool.eq_false_iff.2 fun h => hkD (mem_desired_iff_inRange.2 h)
  rw [isCondemned, hnin]
  -- not in range though non-negative: beyond the bound, or a slot in effect
  cases hE : (maxReplicaAndSlots r S).2.contains k
  · rw [inRange, hE, decide_eq_true hk0, Bool.true_and, Bool.not_false, Bool.and_true, decide_eq_false_iff_not,
      not_lt] at hnin
    rw [decide_eq_true (ge_iff_le.2 hnin)]
    rfl
  · rw [Bool.or_true]; rfl

/-- a desired ordinal that holds a pod of the snapshot is served by a pod of the snapshot -/
theorem slotOf_getD_mem {b : Int} {E : List Int} {pods : List Pod} {i : Int} (hin : inRange b E i = true)
    (hex : i ∈ pods.map Pod.ord) (d : Pod) : (slotOf b E pods i).getD d ∈ pods := by
  cases hs : slotOf b E pods i with
  | some q => exact (slotOf_some hs).1
  | none =>
    obtain ⟨q, hq, hqo⟩ := List.mem_map.1 hex
    exact absurd hqo (slotOf_none hs hin q hq)

/-- **slot_k_only**, general form: `k` is condemned, the pods are exactly one per ordinal of `desired ∪ {k}`,
    all healthy, at the update revision, identity and storage in order. Then the reconcile issues exactly one
    action, the deletion of pod `k` — under either policy and whatever the fault plan. -/
theorem slot_k_only_core (v : SetView) (cur upd : String) (pods : List Pod) (f : Faults) (r' k : Int)
    (hr : v.replicas = some r') (hkD : k ∉ desired r' v.slots)
    (hkc0 : isCondemned (maxReplicaAndSlots r' v.slots).1 (maxReplicaAndSlots r' v.slots).2 k = true) (hdel : v.deleting = false)
    (hperm : (pods.map Pod.ord).Perm (k :: desired r' v.slots))
    (hgood : ∀ p ∈ pods, p.healthy = true ∧ p.rev = upd ∧ p.idOk = true ∧ p.stOk = true) :
    ∃ pk ∈ pods, pk.ord = k ∧
      (updateStatefulSet v cur upd pods f).1.acts = [.delete k pk.id .scaleDown] ∧
      (f.hit 1 k = false → (updateStatefulSet v cur upd pods f).2 = .ok) := by
  have hnd : (pods.map Pod.ord).Nodup := by
    rw [hperm.nodup_iff, List.nodup_cons]
    exact ⟨hkD, (desired_isDesired r' v.slots).sorted.imp ne_of_lt⟩
  -- the pod at `k`; every other pod sits at a desired ordinal
  obtain ⟨pk, hpk, hpko⟩ := List.mem_map.1 (hperm.mem_iff.2 List.mem_cons_self)
  obtain ⟨l1, l2, hsplit⟩ := List.append_of_mem hpk
  have hother : ∀ q ∈ l1 ++ l2, isCondemned (maxReplicaAndSlots r' v.slots).1 (maxReplicaAndSlots r' v.slots).2 q.ord = false := by
    intro q hq
    have hqm : q ∈ pods := by
      rw [hsplit]
      rcases List.mem_append.1 hq with h | h
      · exact List.mem_append_left _ h
      · exact List.mem_append_right _ (List.mem_cons_of_mem _ h)
    rcases List.mem_cons.1 (hperm.mem_iff.1 (List.mem_map_of_mem hqm)) with hqk | h
    · rw [hsplit, List.map_append, List.map_cons] at hnd
      have : q.ord ∈ (l1 ++ l2).map Pod.ord := List.mem_map_of_mem hq
      rw [List.map_append, hqk, ← hpko] at this
      exact absurd this (List.nodup_cons.1 (List.nodup_middle.1 hnd)).1
    · exact inRange_not_condemned (mem_desired_iff_inRange.1 h)
  have hrun := L1c.updateStatefulSet_run (cur := cur) (upd := upd) (pods := pods) f hr hdel
  have hreps := L1c.prepOf_reps v cur upd r' pods
  have hcond : (L1c.prepOf v cur upd r' pods).condemned =
      condemnedOf (maxReplicaAndSlots r' v.slots).1 (maxReplicaAndSlots r' v.slots).2 pods := rfl
  generalize L1c.prepOf v cur upd r' pods = p at hrun hreps hcond
  have hcondemned : p.condemned = [pk] := by
    rw [hcond, condemnedOf, hsplit, filter_single _ l1 l2 pk (by rw [hpko]; exact hkc0)
      (fun y hy => hother y (List.mem_append_left _ hy)) (fun y hy => hother y (List.mem_append_right _ hy))]
    rfl
  have hrepsgood : ∀ ip ∈ p.reps, ip.2 ∈ pods := by
    intro ip hip
    rw [hreps] at hip
    obtain ⟨i, hi, rfl⟩ := List.mem_map.1 hip
    exact slotOf_getD_mem (mem_desired_iff_inRange.1 hi) (hperm.mem_iff.2 (List.mem_cons_of_mem _ hi)) _
  refine ⟨pk, hpk, hpko, ?_⟩
  rw [hrun]
  unfold runLoops
  simp only
  rw [replicaLoop_quiet v cur upd f (!v.parallel) p.reps
    (fun ip hip => ⟨(hgood _ (hrepsgood ip hip)).1, (hgood _ (hrepsgood ip hip)).2.2⟩)]
  simp only [hcondemned, List.reverse_cons, List.reverse_nil, List.nil_append]
  obtain ⟨hacts, hflag⟩ := condemnedLoop_single cur upd f (!v.parallel) p.fu { status := p.st0 } pk (hgood _ hpk).1
  rw [hpko] at hacts hflag
  generalize condemnedLoop cur upd f (!v.parallel) p.fu { status := p.st0 } [pk] = c at hacts hflag ⊢
  cases c with
  | done s' o =>
    simp only [Ctl.st_done, List.nil_append, Ctl.isNext_done, Bool.false_eq_true, false_or, Ctl.okFlag_done] at hacts hflag
    refine ⟨hacts, fun hf => ?_⟩
    rw [hf] at hflag
    simpa using hflag
  | next s' =>
    simp only [Ctl.st_next, List.nil_append] at hacts
    simp only
    rw [updateStage_allupd v cur upd f p.reps s' (fun ip hip => (hgood _ (hrepsgood ip hip)).2.1)]
    exact ⟨hacts, fun _ => rfl⟩

end Asts
