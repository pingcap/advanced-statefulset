import Mathlib.Tactic
import Asts.Spec.Glue2
import Asts.Proofs.SY_b_SyncThms
import Asts.Proofs.SY_b_Annotate
import Asts.Proofs.GL_Sync
import Asts.Proofs.GL2_Store

/-! # GL2 — the call log of a sync, by position

`(syncF h i plan).log = P ++ (the pod-control calls of its actions, in order) ++ Q`, where no entry of `P` (adoption, claim,
listing, resolution of the revisions) and no entry of `Q` (status write, truncation of the history) starts with
`create:pod:` or `delete:pod:`. -/
namespace Asts.GL2
open Asts Asts.SYb

def NoPodCD (e : String) : Prop := pre "create:pod:" e = false ∧ pre "delete:pod:" e = false

theorem _root_.Asts.SYb.Keyed.noPodCD {VR : List (String × String)} {e : String} (h : Keyed VR e) (hc : ("create", "pod") ∉ VR)
    (hd : ("delete", "pod") ∉ VR) : NoPodCD e :=
  ⟨h.not_pre pre_create_pod hc, h.not_pre pre_delete_pod hd⟩

theorem updatestatus_noPodCD : NoPodCD "updatestatus" := SYb.Keyed.noPodCD (VR := []) (Or.inl few_updatestatus) (by simp) (by simp)

theorem HeadShape.noPodCD {e : String} (h : HeadShape e) : NoPodCD e :=
  h.elim (fun h => h.keyed.noPodCD (by simp) (by simp)) (fun h => h.keyed.noPodCD (by simp) (by simp))

theorem RevCall.noPodCD (c : RevCall) : NoPodCD c.key := c.keyed.noPodCD (by simp) (by simp)

theorem delKey_noPodCD (r : Rev) : NoPodCD (delKey r) := (delKey_keyed r).noPodCD (by simp) (by simp)

/-- the log of an early exit holds no pod create and no pod delete -/
theorem syncHead_inl_log {h : Hashing} {i : SyncIn} {plan : List Fault} {o : SyncOut} (hh : syncHead h i plan = .inl o) :
    ∀ e ∈ o.log, NoPodCD e := by
  obtain ⟨_, _, _, h3⟩ := syncHead_inl hh
  rcases h3 with ⟨_, hext⟩ | ⟨sL, _, hext, _, hlog⟩
  · obtain ⟨m, hm, hm'⟩ := hext
    intro e he
    rw [hm, List.nil_append] at he
    exact HeadShape.noPodCD (hm' e he)
  · obtain ⟨m, hm, hm'⟩ := hext
    intro e he
    rw [hlog, pickF_log, hm, List.nil_append] at he
    rcases List.mem_append.1 he with he | he
    · exact HeadShape.noPodCD (hm' e he)
    · obtain ⟨c, _, rfl⟩ := List.mem_map.mp he
      exact RevCall.noPodCD c

/-- the log of the tail: what was there, the pod-control calls of the recorded actions, then status writes and deletes of
    revisions -/
theorem finishF_log (i : SyncIn) (plan : List Fault) (claimed : List CPod) (revs : List Rev) (cur upd : Rev) (cc : Int)
    (s : RevSt) :
    (SYa.finishF i plan claimed revs cur upd cc s).claimed = claimed ∧
    ∃ Q, (SYa.finishF i plan claimed revs cur upd cc s).log =
        s.tr.log ++ ((SYa.finishF i plan claimed revs cur upd cc s).acts.map
          (actLog i.setName plan i.pods claimed (SYa.rangeOf i).1 (SYa.rangeOf i).2)).flatten ++ Q ∧
      ∀ e ∈ Q, NoPodCD e := by
  unfold SYa.finishF
  generalize SYa.reconcileOf i plan claimed cur upd = u
  obtain ⟨st, out⟩ := u
  -- the status write and the truncation only append entries that are no pod creates and no pod deletes
  have hsw : ∀ l : List String, ∃ ups, (statusWriteF plan i.fresh.gone 5 { log := l }).1.log = l ++ ups ∧
      ∀ e ∈ ups, NoPodCD e := by
    intro l
    obtain ⟨ups, h1, h2⟩ := SYa.statusWriteF_spec plan i.fresh.gone 5 { log := l }
    exact ⟨ups, h1, fun e he => by rw [h2 e he]; exact updatestatus_noPodCD⟩
  have htr : ∀ (R : List Rev) (t : Tr), ∃ ds,
      (truncateF plan i.historyLimit (claimed.map (·.pod.rev)) revs cur upd { store := R, tr := t }).1.tr.log =
        t.log ++ ds ∧ ∀ e ∈ ds, NoPodCD e := by
    intro R t
    refine ⟨_, truncateF_log plan i.historyLimit _ revs cur upd { store := R, tr := t }, ?_⟩
    intro e he
    obtain ⟨r, _, rfl⟩ := List.mem_map.mp he
    exact delKey_noPodCD r
  obtain ⟨ups, hu1, hu2⟩ := hsw (s.tr.log ++
    (st.acts.map (actLog i.setName plan i.pods claimed (SYa.rangeOf i).1 (SYa.rangeOf i).2)).flatten)
  rcases SYa.finishCore_cases i plan claimed revs cur upd cc
      { s with tr := { log := s.tr.log ++
        (st.acts.map (actLog i.setName plan i.pods claimed (SYa.rangeOf i).1 (SYa.rangeOf i).2)).flatten } } st out with
    ⟨_, e⟩ | ⟨_, _, _, e⟩ | ⟨_, _, _, t, rfl, e⟩ | ⟨_, _, t, rfl, e⟩
  · rw [e]; exact ⟨rfl, [], (List.append_nil _).symm, nofun⟩
  · rw [e]; exact ⟨rfl, ups, hu1, hu2⟩
  · rw [e]
    obtain ⟨ds, hd1, hd2⟩ := htr s.store (statusWriteF plan i.fresh.gone 5 { log := s.tr.log ++
      (st.acts.map (actLog i.setName plan i.pods claimed (SYa.rangeOf i).1 (SYa.rangeOf i).2)).flatten }).1
    refine ⟨rfl, ups ++ ds, ?_, fun e he => (List.mem_append.1 he).elim (hu2 e) (hd2 e)⟩
    rw [hu1, List.append_assoc] at hd1
    exact hd1
  · rw [e]
    obtain ⟨ds, hd1, hd2⟩ := htr s.store { log := s.tr.log ++
      (st.acts.map (actLog i.setName plan i.pods claimed (SYa.rangeOf i).1 (SYa.rangeOf i).2)).flatten }
    exact ⟨rfl, ds, hd1, hd2⟩

theorem sync_log_decomp (h : Hashing) (i : SyncIn) (plan : List Fault) :
    ∃ P Q, (syncF h i plan).log =
        P ++ ((syncF h i plan).acts.map (actLog i.setName plan i.pods (syncF h i plan).claimed (SYa.rangeOf i).1
          (SYa.rangeOf i).2)).flatten ++ Q ∧
      (∀ e ∈ P, NoPodCD e) ∧ (∀ e ∈ Q, NoPodCD e) := by
  rw [SYb.syncF_eq]
  by_cases hrun : (i.paused || !i.selectorOk) = true
  · rw [if_pos hrun]
    exact ⟨[], [], rfl, by simp, by simp⟩
  · rw [if_neg hrun]
    cases hh : syncHead h i plan with
    | inl o =>
      simp only
      refine ⟨o.log, [], ?_, syncHead_inl_log hh, by simp⟩
      rw [(syncHead_inl hh).2.2.1]; simp
    | inr t =>
      obtain ⟨claimed, revs, cur, upd, cc, s⟩ := t
      simp only
      obtain ⟨A, sL, _, _, _, _, _, _, hlogL, _, hpick, _⟩ := syncHead_inr hh
      obtain ⟨hcl, Q, hlog, hQ⟩ := finishF_log i plan claimed revs cur upd cc s
      refine ⟨s.tr.log, Q, ?_, ?_, hQ⟩
      · rw [hcl]; exact hlog
      · have hs : s.tr.log = (pickF h plan i.template (i.collisionCount.getD 0) revs sL).1.tr.log := by rw [hpick]
        obtain ⟨m, hm, hm'⟩ := hlogL
        intro e he
        rw [hs, pickF_log, hm, List.nil_append] at he
        rcases List.mem_append.1 he with he | he
        · exact HeadShape.noPodCD (hm' e he)
        · obtain ⟨c, _, rfl⟩ := List.mem_map.mp he
          exact RevCall.noPodCD c

/-! ## splitting lists at one element -/

/-- an element that does not occur in `P` stands, in `P ++ M`, inside `M` -/
theorem append_eq_append_cons_left {α : Type _} {P M a R : List α} {g : α} (h : P ++ M = a ++ g :: R) (hg : g ∉ P) :
    ∃ x, a = P ++ x ∧ M = x ++ g :: R := by
  rcases List.append_eq_append_iff.1 h with ⟨x, e1, e2⟩ | ⟨c, e1, e2⟩
  · exact ⟨x, e1, e2⟩
  · cases c with
    | nil => exact ⟨[], by rw [e1, List.append_nil, List.append_nil], e2.symm⟩
    | cons z c => exact absurd (by rw [e1, (List.cons.inj e2).1]; simp) hg

/-- an element that does not occur in `Q` stands, in `M ++ Q`, inside `M` -/
theorem append_eq_append_cons_right {α : Type _} {M Q a R : List α} {e : α} (h : M ++ Q = a ++ e :: R) (he : e ∉ Q) :
    ∃ y, M = a ++ e :: y := by
  rcases List.append_eq_append_iff.1 h with ⟨m, _, e2⟩ | ⟨c, e1, e2⟩
  · exact absurd (by rw [e2]; simp) he
  · cases c with
    | nil => exact absurd (by rw [← List.nil_append Q, ← e2]; simp) he
    | cons z c => exact ⟨c, by rw [e1, (List.cons.inj e2).1]⟩

/-- an element `x` of the concatenation of the blocks `L t`, when every block that holds `x` is `[x]`: it is the block
    of one `t`, between the blocks before and the blocks after -/
theorem flatten_map_split {α β : Type _} {L : α → List β} {x : β} {acts : List α} {a b : List β}
    (h : (acts.map L).flatten = a ++ x :: b) (hx : ∀ t ∈ acts, x ∈ L t → L t = [x]) :
    ∃ A1 t A2, acts = A1 ++ t :: A2 ∧ L t = [x] ∧ a = (A1.map L).flatten ∧ b = (A2.map L).flatten := by
  induction acts generalizing a with
  | nil => cases a <;> cases h
  | cons t acts ih =>
    rw [List.map_cons, List.flatten_cons] at h
    have further : ∀ a', (acts.map L).flatten = a' ++ x :: b → ∃ A1 t' A2, t :: acts = A1 ++ t' :: A2 ∧ L t' = [x] ∧
        L t ++ a' = (A1.map L).flatten ∧ b = (A2.map L).flatten := by
      intro a' h'
      obtain ⟨A1, t', A2, e1, ht', e2, e3⟩ := ih h' (fun t' h' => hx t' (List.mem_cons_of_mem _ h'))
      exact ⟨t :: A1, t', A2, by rw [e1]; rfl, ht', by rw [e2]; rfl, e3⟩
    by_cases hm : x ∈ L t
    · have ht := hx t List.mem_cons_self hm
      rw [ht] at h
      cases a with
      | nil => exact ⟨[], t, acts, rfl, ht, rfl, (List.cons.inj h).2.symm⟩
      | cons y a =>
        -- `x` is the block of `t` and occurs once more, further on
        obtain ⟨A1, t', A2, e1, ht', e2, e3⟩ := further a (List.cons.inj h).2
        refine ⟨A1, t', A2, e1, ht', ?_, e3⟩
        rw [← e2, ht, (List.cons.inj h).1]; rfl
    · obtain ⟨a', rfl, h'⟩ := append_eq_append_cons_left h hm
      exact further a' h'

end Asts.GL2
