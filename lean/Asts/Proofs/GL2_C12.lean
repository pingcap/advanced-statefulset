import Mathlib.Tactic
import Asts.Proofs.GL2_Removed

/-! # GL2 — `C12.completion` at sync level: from the recorded actions to the pod-control calls of the log

`monitorSync` judges the completion rule on `podActs i log creates` — the pod-control calls it reads back from the call
log. `C12complete` looks at the actions only through "was anything created or deleted". A create / delete read back from
the log of the model is a `create:pod:` / `delete:pod:` entry, and such an entry is the pod-control call of a recorded
create / delete action (`sync_log_decomp`). -/
namespace Asts.GL2
open Asts Asts.SYb

theorem podActsGo_any (i : SyncIn) (creates : List String) (log seen : List String) (prev : Option String)
    (h : (podActsGo i creates seen prev log).any (fun a => a.isCreate || a.isDelete) = true) :
    ∃ e ∈ log, ∃ n, e.splitOn ":" = ["create", "pod", n] ∨ e.splitOn ":" = ["delete", "pod", n] := by
  induction log generalizing seen prev with
  | nil => cases h
  | cons e rest ih =>
    unfold podActsGo at h
    split at h
    · rename_i n heq
      exact ⟨e, by simp, n, Or.inl heq⟩
    · rename_i n heq
      exact ⟨e, by simp, n, Or.inr heq⟩
    · split at h
      · obtain ⟨e', he', hn⟩ := ih _ _ h
        exact ⟨e', List.mem_cons_of_mem _ he', hn⟩
      · rw [List.any_cons] at h
        simp only [OAct.isCreate, OAct.isDelete, Bool.or_self, Bool.false_or] at h
        obtain ⟨e', he', hn⟩ := ih _ _ h
        exact ⟨e', List.mem_cons_of_mem _ he', hn⟩
    · obtain ⟨e', he', hn⟩ := ih _ _ h
      exact ⟨e', List.mem_cons_of_mem _ he', hn⟩

theorem sync_podCD_entry (h : Hashing) (i : SyncIn) (plan : List Fault) {e : String} (he : e ∈ (syncF h i plan).log)
    (hp : pre "create:pod:" e = true ∨ pre "delete:pod:" e = true) :
    ∃ a ∈ (syncF h i plan).acts, isCreateA a = true ∨ ∃ o id w, a = .delete o id w := by
  obtain ⟨P, Q, hdec, hP, hQ⟩ := sync_log_decomp h i plan
  rw [hdec] at he
  rcases List.mem_append.1 he with he | he
  · rcases List.mem_append.1 he with he | he
    · exfalso
      rcases hp with hp | hp
      · have := (hP e he).1; rw [hp] at this; cases this
      · have := (hP e he).2; rw [hp] at this; cases this
    · obtain ⟨l, hl, hel⟩ := List.mem_flatten.1 he
      obtain ⟨a, ha, rfl⟩ := List.mem_map.mp hl
      rcases hp with hp | hp
      · obtain ⟨o, r, rfl, _⟩ := actLog_create hel hp
        exact ⟨_, ha, Or.inl rfl⟩
      · obtain ⟨o, id, w, rfl, _, _⟩ := actLog_delete hel hp
        exact ⟨_, ha, Or.inr ⟨o, id, w, rfl⟩⟩
  · exfalso
    rcases hp with hp | hp
    · have := (hQ e he).1; rw [hp] at this; cases this
    · have := (hQ e he).2; rw [hp] at this; cases this

/-- nothing created or deleted among the recorded actions ⇒ nothing created or deleted among the calls read back from the
    log, whatever create labels the harness recorded -/
theorem podActs_quiet (h : Hashing) (i : SyncIn) (plan : List Fault) (creates : List String)
    (hq : (observe (syncF h i plan).acts).any (fun a => a.isCreate || a.isDelete) = false) :
    (podActs i (syncF h i plan).log creates).any (fun a => a.isCreate || a.isDelete) = false := by
  by_contra hne
  have hany : (podActs i (syncF h i plan).log creates).any (fun a => a.isCreate || a.isDelete) = true := by
    cases hb : (podActs i (syncF h i plan).log creates).any (fun a => a.isCreate || a.isDelete) with
    | true => rfl
    | false => exact absurd hb hne
  obtain ⟨e, he, n, hn⟩ := podActsGo_any i creates _ _ _ hany
  have hshape := sync_log_shapes h i plan e he
  have hp : pre "create:pod:" e = true ∨ pre "delete:pod:" e = true := by
    rcases hn with hn | hn
    · obtain ⟨rfl, _⟩ := eq_of_parse hshape pre_create_pod (Or.inr rfl) (parseEntry_of_split hn)
      exact Or.inl (pre_append_self _ _)
    · obtain ⟨rfl, _⟩ := eq_of_parse hshape pre_delete_pod (Or.inr rfl) (parseEntry_of_split hn)
      exact Or.inr (pre_append_self _ _)
  obtain ⟨a, ha, hk⟩ := sync_podCD_entry h i plan he hp
  rw [List.any_eq_false] at hq
  have := hq (Action.observe a) (by unfold observe; exact List.mem_map_of_mem ha)
  rcases hk with hk | ⟨o, id, w, rfl⟩
  · cases a <;> simp [isCreateA] at hk
    simp [Action.observe, OAct.isCreate] at this
  · simp [Action.observe, OAct.isDelete] at this

/-- the completion rule reads the actions only through "was anything created or deleted" -/
theorem C12complete_of_quiet {cur upd : String} {pods : List Pod} {A B : List OAct} {st : Status}
    (hq : A.any (fun a => a.isCreate || a.isDelete) = false → B.any (fun a => a.isCreate || a.isDelete) = false)
    (h : C12complete cur upd pods A st = true) : C12complete cur upd pods B st = true := by
  unfold C12complete at h ⊢
  rw [Bool.or_eq_true, Bool.and_eq_true, Bool.not_eq_true'] at h ⊢
  exact h.imp_right fun h2 => ⟨h2.1, hq h2.2⟩

/-- **`C12.completion` (sync level)** from the completion rule on the recorded actions (`Glue.sync_C12_completion`) -/
theorem C12completionSync_of_observed (h : Hashing) (i : SyncIn) (plan : List Fault) (creates : List String)
    (hobs : ∀ st, (syncF h i plan).status = some st →
      C12complete (syncF h i plan).cur (syncF h i plan).upd ((syncF h i plan).claimed.map (·.pod))
        (observe (syncF h i plan).acts) st = true) :
    C12completionSync i (syncF h i plan) (syncF h i plan).observe creates = true := by
  unfold C12completionSync
  rw [Bool.or_eq_true]
  right
  split
  · rename_i st hst
    exact C12complete_of_quiet (podActs_quiet h i plan creates) (hobs st hst)
  · rfl

end Asts.GL2
