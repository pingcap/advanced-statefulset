import Mathlib.Tactic
import Asts.Model.Sync
import Asts.Proofs.Sync_Claim

/-! # `syncF` cut into stages

`syncF` = pause/selector check, adoption phase, claim pass, then `afterClaimF` (listing and resolution of the revisions),
then `finishF` (the reconcile), then `finishCore` (status write and history truncation). The stages are definitionally the
body of `syncF` (`syncF_eq`); `finishCore_cases` says in which four ways the last one ends. -/

namespace Asts.SYa
open Asts

/-- the output of a sync whose reconcile returned `(st, out)`: what it records at that point, and the five fields the
    status write and the history truncation still decide -/
def reached (claimed : List CPod) (cur upd : Rev) (st : St) (out : Outcome) (log : List String) (store : List Rev)
    (status : Option Status) (cc : Option Int) (outcome : Outcome) : SyncOut :=
  { log := log, status := status, cc := cc, store := store, cur := cur.name, upd := upd.name, claimed := claimed,
    acts := st.acts, actsDone := if out == .err then st.acts.length - 1 else st.acts.length, outcome := outcome }

/-- status write and history truncation, given the result `(st, out)` of the reconcile; `s` already carries the
    pod-control calls -/
def finishCore (i : SyncIn) (plan : List Fault) (claimed : List CPod) (revs : List Rev) (cur upd : Rev) (cc : Int)
    (s : RevSt) (st : St) (out : Outcome) : SyncOut :=
  match out with
  | .ok =>
    let status := completeRollingUpdate i.view st.status
    if inconsistentStatus i.stored status then
      let w := statusWriteF plan i.fresh.gone 5 s.tr
      if !w.2 then reached claimed cur upd st out w.1.log s.store none none .err else
      let t := truncateF plan i.historyLimit (claimed.map (·.pod.rev)) revs cur upd { s with tr := w.1 }
      reached claimed cur upd st out t.1.tr.log t.1.store (some status) (some cc) t.2
    else
      let t := truncateF plan i.historyLimit (claimed.map (·.pod.rev)) revs cur upd s
      reached claimed cur upd st out t.1.tr.log t.1.store none none t.2
  | o => reached claimed cur upd st out s.tr.log s.store none none o

/-- the range of the set: `GetMaxReplicaCountAndDeleteSlots` -/
def rangeOf (i : SyncIn) : Int × List Int := maxReplicaAndSlots (i.view.replicas.getD 0) i.view.slots

/-- the reconcile proper on the claimed pods -/
def reconcileOf (i : SyncIn) (plan : List Fault) (claimed : List CPod) (cur upd : Rev) : St × Outcome :=
  updateStatefulSet i.view cur.name upd.name (claimed.map (·.pod))
    (podFaults i.setName plan i.pods claimed (rangeOf i).1 (rangeOf i).2)

/-- reconcile, status write, history truncation -/
def finishF (i : SyncIn) (plan : List Fault) (claimed : List CPod) (revs : List Rev) (cur upd : Rev) (cc : Int)
    (s : RevSt) : SyncOut :=
  finishCore i plan claimed revs cur upd cc
    { s with tr := { log := s.tr.log ++ ((reconcileOf i plan claimed cur upd).1.acts.map
        (actLog i.setName plan i.pods claimed (rangeOf i).1 (rangeOf i).2)).flatten } }
    (reconcileOf i plan claimed cur upd).1 (reconcileOf i plan claimed cur upd).2

/-- everything after the claim pass; `s` already carries the log of the claim pass -/
def afterClaimF (h : Hashing) (i : SyncIn) (plan : List Fault) (s : RevSt) (failed : Bool) (claimed : List CPod) :
    SyncOut :=
  if failed then { log := s.tr.log, store := s.store, outcome := .err } else
  match listRevsF plan s with
  | (s, none) => { log := s.tr.log, store := s.store, claimed := claimed, outcome := .err }
  | (s, some listed) =>
    match getRevisionsF h plan i.template i.stored.currentRev (i.collisionCount.getD 0) (sortRevs listed) s with
    | (s, none) => { log := s.tr.log, store := s.store, claimed := claimed, outcome := .err }
    | (s, some (cur, upd, cc)) => finishF i plan claimed (sortRevs listed) cur upd cc s

theorem syncF_eq (h : Hashing) (i : SyncIn) (plan : List Fault) :
    syncF h i plan =
      if i.paused || !i.selectorOk then { store := i.store } else
      match adoptOrphanRevisionsF plan i.view.deleting i.fresh { store := i.store } with
      | (s, .ok) =>
        afterClaimF h i plan { s with tr := (claimPodsF plan i.view.deleting i.fresh i.pods s.tr).tr }
          (claimPodsF plan i.view.deleting i.fresh i.pods s.tr).failed
          (claimPodsF plan i.view.deleting i.fresh i.pods s.tr).claimed
      | (s, out) => { log := s.tr.log, store := s.store, outcome := out } := rfl

/-- **the four ends of a sync that reached its reconcile**: the reconcile failed; the status write failed; the status was
    written and the history truncated; the status needed no write and the history was truncated -/
theorem finishCore_cases (i : SyncIn) (plan : List Fault) (claimed : List CPod) (revs : List Rev) (cur upd : Rev)
    (cc : Int) (s : RevSt) (st : St) (out : Outcome) :
    (out ≠ .ok ∧ finishCore i plan claimed revs cur upd cc s st out =
      reached claimed cur upd st out s.tr.log s.store none none out) ∨
    (out = .ok ∧ inconsistentStatus i.stored (completeRollingUpdate i.view st.status) = true ∧
      (statusWriteF plan i.fresh.gone 5 s.tr).2 = false ∧
      finishCore i plan claimed revs cur upd cc s st out =
        reached claimed cur upd st .ok (statusWriteF plan i.fresh.gone 5 s.tr).1.log s.store none none .err) ∨
    (out = .ok ∧ inconsistentStatus i.stored (completeRollingUpdate i.view st.status) = true ∧
      (statusWriteF plan i.fresh.gone 5 s.tr).2 = true ∧
      ∃ t, t = truncateF plan i.historyLimit (claimed.map (·.pod.rev)) revs cur upd
          { s with tr := (statusWriteF plan i.fresh.gone 5 s.tr).1 } ∧
        finishCore i plan claimed revs cur upd cc s st out =
          reached claimed cur upd st .ok t.1.tr.log t.1.store (some (completeRollingUpdate i.view st.status)) (some cc)
            t.2) ∨
    (out = .ok ∧ inconsistentStatus i.stored (completeRollingUpdate i.view st.status) = false ∧
      ∃ t, t = truncateF plan i.historyLimit (claimed.map (·.pod.rev)) revs cur upd s ∧
        finishCore i plan claimed revs cur upd cc s st out =
          reached claimed cur upd st .ok t.1.tr.log t.1.store none none t.2) := by
  cases out with
  | err => exact Or.inl ⟨nofun, rfl⟩
  | panic m => exact Or.inl ⟨nofun, rfl⟩
  | ok =>
    refine Or.inr ?_
    unfold finishCore
    simp only
    by_cases hinc : inconsistentStatus i.stored (completeRollingUpdate i.view st.status) = true
    · rw [if_pos hinc]
      cases hw : (statusWriteF plan i.fresh.gone 5 s.tr).2 with
      | false => exact Or.inl ⟨trivial, hinc, rfl, rfl⟩
      | true => exact Or.inr (Or.inl ⟨trivial, hinc, rfl, _, rfl, rfl⟩)
    · rw [if_neg hinc]
      exact Or.inr (Or.inr ⟨trivial, by simpa using hinc, _, rfl, rfl⟩)

end Asts.SYa
