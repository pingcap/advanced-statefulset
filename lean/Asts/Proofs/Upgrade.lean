import Mathlib.Tactic
import Asts.Spec.Upgrade

/-! Lemmas for C17 (the upgrade helper): what a run can do to the stored revisions (`Reach`), that a fault-free run
    normalises every reachable state to the same final state, and that a delete of the built-in set is only ever issued
    from a safe state. -/
namespace Asts.Upgrade
open List

theorem relabel_idem (p : Params) (l : Labels) : relabel p (relabel p l) = relabel p l := by
  simp [relabel, List.filter_filter]

theorem lookup_marker_relabel (p : Params) (l : Labels) : lookup marker (relabel p l) = some p.name := by
  simp [lookup, relabel]

theorem lookup_relabel_none (p : Params) (l : Labels) (k : String) (hk : p.sel.ml.any (·.1 == k) = true) (hm : k ≠ marker) :
    lookup k (relabel p l) = none := by
  simp only [lookup, relabel, Option.map_eq_none_iff, List.find?_eq_none]
  intro kv hkv
  rcases List.mem_cons.1 hkv with rfl | hkv
  · simpa using fun h => hm h.symm
  · have := (List.mem_filter.1 hkv).2
    intro hk'
    have hk'' : kv.1 = k := by simpa using hk'
    subst hk''
    simp [hk] at this

/-! ## what runs can do to the stored revisions -/

/-- the helper panics on this revision (before any call is made for it) -/
def panics (p : Params) (r : Rev) : Bool := r.selected p && p.sel.isNil

/-- a stored revision is either what it was or the relabelled form of a selected revision -/
def Rel (p : Params) (r0 r : Rev) : Prop :=
  r = r0 ∨ (r0.selected p = true ∧ r = relabelRev p r0 (r0.labels.getD []))

/-- revisions stored after any number of (interrupted) runs, relative to the revisions stored at entry: nothing behind a
    revision the helper panics on is ever touched -/
inductive Reach (p : Params) : List Rev → List Rev → Prop
  | nil : Reach p [] []
  | stuck (r : Rev) (rest : List Rev) : panics p r = true → Reach p (r :: rest) (r :: rest)
  | cons {r0 r : Rev} {rest0 rest : List Rev} : panics p r0 = false → Rel p r0 r → Reach p rest0 rest → Reach p (r0 :: rest0) (r :: rest)

theorem reach_refl (p : Params) : ∀ l, Reach p l l
  | [] => .nil
  | r :: rest => by
    by_cases h : panics p r = true
    · exact .stuck r rest h
    · exact .cons (by simpa using h) (Or.inl rfl) (reach_refl p rest)

/-- one turn of the loop, by what the helper does with the revision: it panics on it, makes the call for it, or skips it -/
theorem revLoop_cons (p : Params) (inj : Nat → Inj) (idx : Nat) (r : Rev) (rest : List Rev) :
    revLoop p inj idx (r :: rest) =
      if panics p r then ⟨r :: rest, idx, [], some .panic⟩
      else if r.selected p then
        match inj idx with
        | .crash => ⟨r :: rest, idx, [], some .crash⟩
        | .err k applied => ⟨(if applied then relabelRev p r (r.labels.getD []) else r) :: rest, idx, [.updateRev r.name], some (.err k)⟩
        | .none =>
          ⟨relabelRev p r (r.labels.getD []) :: (revLoop p inj (idx + 1) rest).revs, (revLoop p inj (idx + 1) rest).idx,
            .updateRev r.name :: (revLoop p inj (idx + 1) rest).trace, (revLoop p inj (idx + 1) rest).out⟩
      else ⟨r :: (revLoop p inj idx rest).revs, (revLoop p inj idx rest).idx, (revLoop p inj idx rest).trace, (revLoop p inj idx rest).out⟩ := by
  rw [revLoop, revOne, panics]
  cases r.selected p
  · rfl
  · cases p.sel.isNil
    · cases inj idx <;> rfl
    · rfl

theorem reach_revLoop (p : Params) (inj : Nat → Inj) : ∀ (revs : List Rev) (idx : Nat), Reach p revs (revLoop p inj idx revs).revs
  | [], idx => .nil
  | r :: rest, idx => by
    rw [revLoop_cons]
    by_cases hp : panics p r = true
    · rw [if_pos hp]
      exact .stuck r rest hp
    · rw [if_neg hp]
      have hp' := eq_false_of_ne_true hp
      by_cases hs : r.selected p = true
      · rw [if_pos hs]
        cases inj idx with
        | none => exact .cons hp' (Or.inr ⟨hs, rfl⟩) (reach_revLoop p inj rest (idx + 1))
        | crash => exact reach_refl p _
        | err k applied =>
          refine .cons hp' ?_ (reach_refl p rest)
          cases applied
          · exact Or.inl rfl
          · exact Or.inr ⟨hs, rfl⟩
      · rw [if_neg hs]
        exact .cons hp' (Or.inl rfl) (reach_revLoop p inj rest idx)

theorem selected_nil_sel {p : Params} (r : Rev) (hn : p.sel.isNil = true) : r.selected p = true := by
  simp [Rev.selected, selMatches, hn]

theorem rel_not_panics {p : Params} {r0 r : Rev} (hp : panics p r0 = false) (h : Rel p r0 r) : panics p r = false := by
  rcases h with rfl | ⟨hs, rfl⟩
  · exact hp
  · have hn : p.sel.isNil = false := by simpa [panics, hs] using hp
    simp [panics, hn]

theorem rel_trans {p : Params} {r0 r r' : Rev} (h1 : Rel p r0 r) (h2 : Rel p r r') : Rel p r0 r' := by
  rcases h1 with rfl | ⟨hs, rfl⟩
  · exact h2
  · rcases h2 with rfl | ⟨_, rfl⟩
    · exact Or.inr ⟨hs, rfl⟩
    · refine Or.inr ⟨hs, ?_⟩
      simp [relabelRev, relabel_idem]

theorem reach_trans {p : Params} {a b : List Rev} (h1 : Reach p a b) : ∀ {c}, Reach p b c → Reach p a c := by
  induction h1 with
  | nil => intro c h2; exact h2
  | stuck r rest hp =>
    intro c h2
    cases h2 with
    | stuck _ _ _ => exact .stuck r rest hp
    | cons hp' _ _ => simp [hp] at hp'
  | cons hp hrel _ ih =>
    intro c h2
    cases h2 with
    | stuck _ _ hp2 => simp [rel_not_panics hp hrel] at hp2
    | cons _ hrel2 hrest2 => exact .cons hp (rel_trans hrel hrel2) (ih hrest2)

theorem reach_names {p : Params} {a b : List Rev} (h : Reach p a b) : b.map (·.name) = a.map (·.name) := by
  induction h with
  | nil => rfl
  | stuck _ _ _ => rfl
  | cons _ hrel _ ih =>
    rcases hrel with rfl | ⟨_, rfl⟩ <;> simp [relabelRev, ih]

/-! ## the fault-free loop -/

/-- what the fault-free loop makes of one revision it does not panic on -/
def normRev (p : Params) (r : Rev) : Rev :=
  if r.selected p then relabelRev p r (r.labels.getD []) else r

/-- the revisions after a fault-free loop, and whether the helper panicked in it -/
def normRevs (p : Params) : List Rev → List Rev × Bool
  | [] => ([], false)
  | r :: rest => if panics p r then (r :: rest, true) else (normRev p r :: (normRevs p rest).1, (normRevs p rest).2)

theorem revLoop_noInj (p : Params) : ∀ (l : List Rev) (i : Nat),
    (revLoop p noInj i l).revs = (normRevs p l).1 ∧ (revLoop p noInj i l).out = if (normRevs p l).2 then some .panic else none
  | [], i => ⟨rfl, rfl⟩
  | r :: rest, i => by
    have ih1 := revLoop_noInj p rest (i + 1)
    have ih0 := revLoop_noInj p rest i
    rw [revLoop_cons, normRevs]
    by_cases hp : panics p r = true
    · simp [hp]
    · by_cases hs : r.selected p = true
      · simp [hp, hs, noInj, normRev, ih1.1, ih1.2]
      · simp [hp, hs, normRev, ih0.1, ih0.2]

/-- a loop that completes, whatever was injected before, has made of the revisions what the fault-free loop makes of them,
    and the fault-free loop does not panic on them -/
theorem revLoop_done (p : Params) (inj : Nat → Inj) : ∀ (l : List Rev) (i : Nat), (revLoop p inj i l).out = none →
    (revLoop p inj i l).revs = (normRevs p l).1 ∧ (normRevs p l).2 = false
  | [], i => fun _ => ⟨rfl, rfl⟩
  | r :: rest, i => by
    rw [revLoop_cons, normRevs]
    by_cases hp : panics p r = true
    · simp [hp]
    · simp only [if_neg hp]
      by_cases hs : r.selected p = true
      · simp only [if_pos hs]
        cases inj i with
        | crash => simp
        | err k applied => simp
        | none =>
          intro ho
          obtain ⟨h1, h2⟩ := revLoop_done p inj rest (i + 1) ho
          exact ⟨by simp [normRev, hs, h1], h2⟩
      · simp only [if_neg hs]
        intro ho
        obtain ⟨h1, h2⟩ := revLoop_done p inj rest i ho
        exact ⟨by simp [normRev, hs, h1], h2⟩

theorem normRevs_map (p : Params) : ∀ l : List Rev, (normRevs p l).2 = false → (normRevs p l).1 = l.map (normRev p)
  | [], _ => rfl
  | r :: rest, h => by
    rw [normRevs] at h ⊢
    by_cases hp : panics p r = true
    · simp [hp] at h
    · rw [if_neg hp] at h ⊢
      rw [List.map_cons, normRevs_map p rest h]

theorem normRev_rel {p : Params} {r0 r : Rev} (h : Rel p r0 r) : normRev p r = normRev p r0 := by
  rcases h with rfl | ⟨hs, rfl⟩
  · rfl
  · simp only [normRev, hs, if_true]
    by_cases h' : (relabelRev p r0 (r0.labels.getD [])).selected p = true
    · simp [relabelRev, relabel_idem]
    · simp [h']

theorem normRevs_reach {p : Params} {a b : List Rev} (h : Reach p a b) : normRevs p b = normRevs p a := by
  induction h with
  | nil => rfl
  | stuck _ _ _ => rfl
  | cons hp hrel _ ih => simp [normRevs, hp, rel_not_panics hp hrel, normRev_rel hrel, ih]

/-! ## the Advanced StatefulSet phase -/

/-- the Advanced StatefulSet a fault-free run leaves behind -/
def normAs (p : Params) : Option ASts → ASts
  | none => ⟨0, p.spec, p.status⟩
  | some a => { a with spec := p.spec, status := p.status }

/-- what the phase after the loop may change: nothing but the built-in set's presence and the Advanced StatefulSet, and the
    latter only towards its normal form -/
def Same (p : Params) (w w' : World2) : Prop :=
  w'.revs = w.revs ∧ w'.pods = w.pods ∧ w'.claims = w.claims ∧ normAs p w'.asts = normAs p w.asts

theorem Same.refl (p : Params) (w : World2) : Same p w w := ⟨rfl, rfl, rfl, rfl⟩

theorem Same.trans {p : Params} {a b c : World2} (h1 : Same p a b) (h2 : Same p b c) : Same p a c :=
  ⟨h2.1.trans h1.1, h2.2.1.trans h1.2.1, h2.2.2.1.trans h1.2.2.1, h2.2.2.2.trans h1.2.2.2⟩

/-- the shape `asDelete`, `asStatus` and `asWrite` share: one write call `act` under an injection, whose failure ends the run
    and whose success is followed by `next` -/
def phase (i : Inj) (w : World2) (act : Act) (native : World2 × Option ErrKind) (fail : ErrKind → Outcome)
    (next : World2 → RunRes) : RunRes :=
  match call i w native with
  | .crashed => ⟨w, [], .crash⟩
  | .failed w' k => ⟨w', [act], fail k⟩
  | .done w' => ⟨(next w').w, act :: (next w').trace, (next w').out⟩

theorem asDelete_eq (inj : Nat → Inj) (idx : Nat) (w : World2) :
    asDelete inj idx w = phase (inj idx) w (.deleteSts .orphan w) (deleteNative w)
      (fun k => if k = .notFound then .ok else .err k) (fun w' => ⟨w', [], .ok⟩) := by
  unfold asDelete phase
  cases call (inj idx) w (deleteNative w) <;> rfl

theorem asStatus_eq (p : Params) (inj : Nat → Inj) (idx : Nat) (w : World2) :
    asStatus p inj idx w = phase (inj idx) w .statusAs (statusNative p w) .err (asDelete inj (idx + 1)) := by
  unfold asStatus phase
  cases call (inj idx) w (statusNative p w) <;> rfl

theorem asWrite_eq (p : Params) (inj : Nat → Inj) (idx : Nat) (w : World2) (nf : Bool) :
    asWrite p inj idx w nf = phase (inj idx) w (if nf then .createAs else .updateAs)
      (if nf then createNative p w else updateNative p w) .err (asStatus p inj (idx + 1)) := by
  unfold asWrite phase
  cases call (inj idx) w (if nf then createNative p w else updateNative p w) <;> rfl

/-- a call leaves the state it found or the one the API makes of it, and reports success only when the API does -/
theorem call_cases (i : Inj) (w : World2) (native : World2 × Option ErrKind) :
    call i w native = .crashed ∨ (∃ k, call i w native = .failed w k) ∨ (∃ k, call i w native = .failed native.1 k) ∨
      (call i w native = .done native.1 ∧ native.2 = none) := by
  obtain ⟨w', e⟩ := native
  cases i with
  | crash => exact .inl rfl
  | err k applied =>
    cases applied
    · exact .inr (.inl ⟨k, rfl⟩)
    · exact .inr (.inr (.inl ⟨k, rfl⟩))
  | none =>
    cases e with
    | none => exact .inr (.inr (.inr ⟨rfl, rfl⟩))
    | some k => exact .inr (.inr (.inl ⟨k, rfl⟩))

theorem phase_same {p : Params} {i : Inj} {w : World2} {act : Act} {native : World2 × Option ErrKind}
    {fail : ErrKind → Outcome} {next : World2 → RunRes} (hn : Same p w native.1) (hnext : ∀ w', Same p w' (next w').w) :
    Same p w (phase i w act native fail next).w := by
  unfold phase
  rcases call_cases i w native with h | ⟨k, h⟩ | ⟨k, h⟩ | ⟨h, -⟩ <;> rw [h]
  · exact Same.refl p w
  · exact Same.refl p w
  · exact hn
  · exact hn.trans (hnext _)

theorem deleteNative_same (p : Params) (w : World2) : Same p w (deleteNative w).1 := by
  unfold deleteNative
  split <;> exact Same.refl p w

theorem statusNative_same (p : Params) (w : World2) : Same p w (statusNative p w).1 := by
  unfold statusNative
  cases h : w.asts
  · exact Same.refl p w
  · exact ⟨rfl, rfl, rfl, by rw [h]; rfl⟩

theorem createNative_same (p : Params) (w : World2) : Same p w (createNative p w).1 := by
  unfold createNative
  cases h : w.asts
  · exact ⟨rfl, rfl, rfl, by rw [h]; rfl⟩
  · exact Same.refl p w

theorem updateNative_same (p : Params) (w : World2) : Same p w (updateNative p w).1 := by
  unfold updateNative
  cases h : w.asts
  · exact Same.refl p w
  · exact ⟨rfl, rfl, rfl, by rw [h]; rfl⟩

theorem asDelete_same (p : Params) (inj : Nat → Inj) (idx : Nat) (w : World2) : Same p w (asDelete inj idx w).w :=
  asDelete_eq inj idx w ▸ phase_same (deleteNative_same p w) (Same.refl p)

theorem asStatus_same (p : Params) (inj : Nat → Inj) (idx : Nat) (w : World2) : Same p w (asStatus p inj idx w).w :=
  asStatus_eq p inj idx w ▸ phase_same (statusNative_same p w) (asDelete_same p inj (idx + 1))

theorem asWrite_same (p : Params) (inj : Nat → Inj) (idx : Nat) (w : World2) (nf : Bool) : Same p w (asWrite p inj idx w nf).w := by
  rw [asWrite_eq]
  refine phase_same ?_ (asStatus_same p inj (idx + 1))
  cases nf
  · exact updateNative_same p w
  · exact createNative_same p w

theorem asGet_same (p : Params) (inj : Nat → Inj) (idx : Nat) (w : World2) : Same p w (asGet p inj idx w).w := by
  unfold asGet
  cases inj idx with
  | crash => exact Same.refl p w
  | err k applied =>
    by_cases hk : k = .notFound
    · simp only [hk, if_true]; exact asWrite_same p inj (idx + 1) w true
    · simp only [hk, if_false]; exact Same.refl p w
  | none => exact asWrite_same p inj (idx + 1) w _

/-! ## whole runs -/

/-- the stored state after any number of (interrupted) runs, relative to the state `w0` at entry -/
structure WReach (p : Params) (w0 w : World2) : Prop where
  revs : Reach p w0.revs w.revs
  pods : w.pods = w0.pods
  claims : w.claims = w0.claims
  asts : normAs p w.asts = normAs p w0.asts
  frozen : (normRevs p w0.revs).2 = true → w.asts = w0.asts ∧ w.sts = w0.sts

theorem WReach.refl (p : Params) (w : World2) : WReach p w w :=
  ⟨reach_refl p _, rfl, rfl, rfl, fun _ => ⟨rfl, rfl⟩⟩

theorem WReach.trans {p : Params} {a b c : World2} (h1 : WReach p a b) (h2 : WReach p b c) : WReach p a c where
  revs := reach_trans h1.revs h2.revs
  pods := h2.pods.trans h1.pods
  claims := h2.claims.trans h1.claims
  asts := h2.asts.trans h1.asts
  frozen := fun h => by
    have hb := h1.frozen h
    have hc := h2.frozen (by rw [normRevs_reach h1.revs]; exact h)
    exact ⟨hc.1.trans hb.1, hc.2.trans hb.2⟩

theorem run_selectorError {p : Params} (inj : Nat → Inj) (w : World2) (h : selectorError p.sel = true) :
    run p inj w = ⟨w, [], .err .other⟩ := by
  simp [run, h]

theorem revPhase_stop {p : Params} {inj : Nat → Inj} {w : World2} {o : Outcome} (h : (revLoop p inj 1 w.revs).out = some o) :
    revPhase p inj w = ⟨{ w with revs := (revLoop p inj 1 w.revs).revs }, (revLoop p inj 1 w.revs).trace, o⟩ := by
  simp [revPhase, h]

theorem revPhase_go {p : Params} {inj : Nat → Inj} {w : World2} (h : (revLoop p inj 1 w.revs).out = none) :
    revPhase p inj w =
      ⟨(asGet p inj (revLoop p inj 1 w.revs).idx { w with revs := (revLoop p inj 1 w.revs).revs }).w,
       (revLoop p inj 1 w.revs).trace ++ (asGet p inj (revLoop p inj 1 w.revs).idx { w with revs := (revLoop p inj 1 w.revs).revs }).trace,
       (asGet p inj (revLoop p inj 1 w.revs).idx { w with revs := (revLoop p inj 1 w.revs).revs }).out⟩ := by
  simp [revPhase, h]

theorem revPhase_reach (p : Params) (inj : Nat → Inj) (w : World2) : WReach p w (revPhase p inj w).w := by
  cases ho : (revLoop p inj 1 w.revs).out with
  | some o =>
    rw [revPhase_stop ho]
    exact ⟨reach_revLoop p inj _ _, rfl, rfl, rfl, fun _ => ⟨rfl, rfl⟩⟩
  | none =>
    rw [revPhase_go ho]
    have hs := asGet_same p inj (revLoop p inj 1 w.revs).idx { w with revs := (revLoop p inj 1 w.revs).revs }
    refine ⟨?_, hs.2.1, hs.2.2.1, hs.2.2.2, fun h => absurd h (by simp [(revLoop_done p inj _ _ ho).2])⟩
    show Reach p w.revs (asGet p inj _ _).w.revs
    rw [hs.1]
    exact reach_revLoop p inj _ _

theorem run_reach (p : Params) (inj : Nat → Inj) (w : World2) : WReach p w (run p inj w).w := by
  unfold run
  by_cases he : selectorError p.sel = true
  · simp only [he, if_true]; exact WReach.refl p w
  · simp only [he]
    cases inj 0 with
    | crash => exact WReach.refl p w
    | err k applied => exact WReach.refl p w
    | none => exact revPhase_reach p inj w

theorem runs_reach (p : Params) : ∀ (injs : List (Nat → Inj)) (w : World2), WReach p w (runs p w injs).1
  | [], w => WReach.refl p w
  | inj :: rest, w => by
    unfold runs
    exact (run_reach p inj w).trans (runs_reach p rest _)

/-! ## the fault-free run, and recoverability -/

theorem asGet_noInj (p : Params) (i : Nat) (w : World2) :
    (asGet p noInj i w).w = { w with sts := false, asts := some (normAs p w.asts) } ∧ (asGet p noInj i w).out = .ok := by
  obtain ⟨sts, revs, asts, pods, claims⟩ := w
  cases asts <;> cases sts <;> exact ⟨rfl, rfl⟩

/-- the state a fault-free run ends in -/
def normWorld (p : Params) (w : World2) : World2 :=
  if selectorError p.sel then w
  else if (normRevs p w.revs).2 then { w with revs := (normRevs p w.revs).1 }
  else { sts := false, revs := (normRevs p w.revs).1, asts := some (normAs p w.asts), pods := w.pods, claims := w.claims }

/-- the outcome of a fault-free run -/
def normOut (p : Params) (w : World2) : Outcome :=
  if selectorError p.sel then .err .other else if (normRevs p w.revs).2 then .panic else .ok

theorem run_noInj (p : Params) (w : World2) : (run p noInj w).w = normWorld p w ∧ (run p noInj w).out = normOut p w := by
  by_cases he : selectorError p.sel = true
  · simp [run, normWorld, normOut, he]
  · have hl := revLoop_noInj p w.revs 1
    by_cases hst : (normRevs p w.revs).2 = true
    · have ho : (revLoop p noInj 1 w.revs).out = some .panic := by rw [hl.2]; simp [hst]
      have h0 : noInj 0 = Inj.none := rfl
      simp [run, he, h0, revPhase_stop ho, normWorld, normOut, hst, hl.1]
    · have ho : (revLoop p noInj 1 w.revs).out = none := by rw [hl.2]; simp [hst]
      have h0 : noInj 0 = Inj.none := rfl
      simp [run, he, h0, revPhase_go ho, normWorld, normOut, hst, asGet_noInj, hl.1]

theorem normWorld_reach {p : Params} {w0 w : World2} (he : selectorError p.sel = false) (h : WReach p w0 w) :
    normWorld p w = normWorld p w0 ∧ normOut p w = normOut p w0 := by
  have hr := normRevs_reach h.revs
  obtain ⟨_, hpods, hclaims, hasts, hfrozen⟩ := h
  by_cases hst : (normRevs p w0.revs).2 = true
  · have hf := hfrozen hst
    cases w; cases w0
    simp only [] at hpods hclaims hf hr hst
    simp [normWorld, normOut, he, hr, hst, hpods, hclaims, hf.1, hf.2]
  · cases w; cases w0
    simp only [] at hpods hclaims hasts hr hst
    simp [normWorld, normOut, he, hr, hst, hpods, hclaims, hasts]

theorem runs_selectorError {p : Params} (h : selectorError p.sel = true) : ∀ (injs : List (Nat → Inj)) (w : World2), (runs p w injs).1 = w
  | [], w => rfl
  | inj :: rest, w => by
    unfold runs
    rw [run_selectorError inj w h]
    exact runs_selectorError h rest w

/-- any number of interrupted runs followed by a fault-free run ends exactly where a single fault-free run ends, with the
    same outcome -/
theorem recover (p : Params) (w : World2) (injs : List (Nat → Inj)) :
    (run p noInj (runs p w injs).1).w = (run p noInj w).w ∧ (run p noInj (runs p w injs).1).out = (run p noInj w).out := by
  by_cases he : selectorError p.sel = true
  · rw [runs_selectorError he]; exact ⟨rfl, rfl⟩
  · have he' : selectorError p.sel = false := by simpa using he
    have h := normWorld_reach he' (runs_reach p injs w)
    rw [(run_noInj p _).1, (run_noInj p _).2, (run_noInj p w).1, (run_noInj p w).2]
    exact h

/-! ## prefix safety -/

theorem revRelabelled_relabelRev (p : Params) (r : Rev) (l : Labels) : Spec.revRelabelled p (relabelRev p r l) = true := by
  simp only [Spec.revRelabelled, relabelRev, lookup_marker_relabel, beq_self_eq_true, Bool.true_and, List.all_eq_true]
  intro kv hkv
  by_cases hm : kv.1 = marker
  · simp [hm]
  · have hk : p.sel.ml.any (·.1 == kv.1) = true := List.any_eq_true.2 ⟨kv, hkv, by simp⟩
    simp [lookup_relabel_none p l kv.1 hk hm]

theorem revsReady_of_normRevs {p : Params} {w0 pre : World2} (h : (normRevs p w0.revs).2 = false)
    (hpre : pre.revs = (normRevs p w0.revs).1) : Spec.revsReady p w0 pre = true := by
  rw [Spec.revsReady, hpre, normRevs_map p _ h, List.all_eq_true]
  intro r0 hr0
  cases hs : r0.selected p
  · rfl
  · simp only [Bool.not_true, Bool.false_or]
    refine List.any_eq_true.2 ⟨normRev p r0, List.mem_map_of_mem hr0, ?_⟩
    rw [normRev, if_pos hs, revRelabelled_relabelRev]
    simp [relabelRev]

/-- the state-independent part of the safety of a delete issued from `w` -/
def ReadyFrom (p : Params) (w0 w : World2) : Prop := ∀ pre : World2, pre.revs = w.revs → Spec.revsReady p w0 pre = true

theorem phase_safe {p : Params} {w0 : World2} {i : Inj} {w : World2} {act : Act} {native : World2 × Option ErrKind}
    {fail : ErrKind → Outcome} {next : World2 → RunRes} (hact : Spec.actSafe p w0 act = true)
    (hnext : native.2 = none → ∀ a ∈ (next native.1).trace, Spec.actSafe p w0 a = true) :
    ∀ a ∈ (phase i w act native fail next).trace, Spec.actSafe p w0 a = true := by
  unfold phase
  rcases call_cases i w native with h | ⟨k, h⟩ | ⟨k, h⟩ | ⟨h, hn⟩ <;> rw [h]
  · exact fun _ ha => nomatch ha
  · exact List.forall_mem_singleton.2 hact
  · exact List.forall_mem_singleton.2 hact
  · exact List.forall_mem_cons.2 ⟨hact, hnext hn⟩


theorem asDelete_safe {p : Params} {w0 w : World2} (inj : Nat → Inj) (idx : Nat) (ha : Spec.asEqual p w = true) (hr : ReadyFrom p w0 w) :
    ∀ a ∈ (asDelete inj idx w).trace, Spec.actSafe p w0 a = true := by
  rw [asDelete_eq]
  refine phase_safe ?_ (fun _ _ h => nomatch h)
  show (true && Spec.asEqual p w && Spec.revsReady p w0 w && true) = true
  rw [ha, hr w rfl]
  rfl

theorem asStatus_safe {p : Params} {w0 w : World2} (inj : Nat → Inj) (idx : Nat) (ha : ∃ a, w.asts = some a ∧ a.spec = p.spec)
    (hr : ReadyFrom p w0 w) : ∀ a ∈ (asStatus p inj idx w).trace, Spec.actSafe p w0 a = true := by
  obtain ⟨a, ha, hsp⟩ := ha
  rw [asStatus_eq]
  refine phase_safe rfl fun _ => ?_
  have hn : (statusNative p w).1 = { w with asts := some { a with status := p.status } } := by rw [statusNative, ha]
  rw [hn]
  exact asDelete_safe inj (idx + 1) (by simp [Spec.asEqual, hsp]) (fun pre h => hr pre h)

theorem asWrite_safe {p : Params} {w0 w : World2} (inj : Nat → Inj) (idx : Nat) (nf : Bool) (hr : ReadyFrom p w0 w) :
    ∀ a ∈ (asWrite p inj idx w nf).trace, Spec.actSafe p w0 a = true := by
  rw [asWrite_eq]
  refine phase_safe (by cases nf <;> rfl) fun hn => ?_
  -- a successful create or update leaves an Advanced StatefulSet with the submitted spec
  have hw : ∃ a, (if nf = true then createNative p w else updateNative p w).1 = { w with asts := some a } ∧ a.spec = p.spec := by
    cases nf <;> cases ha : w.asts <;> simp only [createNative, updateNative, ha, if_true, Bool.false_eq_true, if_false] at hn ⊢
    · cases hn
    · exact ⟨_, rfl, rfl⟩
    · exact ⟨_, rfl, rfl⟩
    · cases hn
  obtain ⟨a, hw, hsp⟩ := hw
  rw [hw]
  exact asStatus_safe inj (idx + 1) ⟨a, rfl, hsp⟩ (fun pre h => hr pre h)

theorem asGet_safe {p : Params} {w0 w : World2} (inj : Nat → Inj) (idx : Nat) (hr : ReadyFrom p w0 w) :
    ∀ a ∈ (asGet p inj idx w).trace, Spec.actSafe p w0 a = true := by
  have hact : Spec.actSafe p w0 Act.getAs = true := rfl
  unfold asGet
  cases inj idx with
  | crash => simp
  | err k applied =>
    by_cases hk : k = .notFound
    · simp only [hk, if_true]
      exact List.forall_mem_cons.2 ⟨hact, asWrite_safe inj (idx + 1) true hr⟩
    · simp [hk, hact]
  | none => exact List.forall_mem_cons.2 ⟨hact, asWrite_safe inj (idx + 1) _ hr⟩

theorem revLoop_trace_safe (p : Params) (w0 : World2) (inj : Nat → Inj) : ∀ (l : List Rev) (idx : Nat),
    ∀ a ∈ (revLoop p inj idx l).trace, Spec.actSafe p w0 a = true
  | [], idx => by simp [revLoop]
  | r :: rest, idx => by
    have hact : Spec.actSafe p w0 (Act.updateRev r.name) = true := rfl
    unfold revLoop
    by_cases hs : r.selected p = true
    · simp only [hs, if_true]
      cases hone : revOne p inj idx r with
      | stop r' logged o => cases logged <;> simp [hact]
      | go r' =>
        intro x hx
        rcases List.mem_cons.1 hx with rfl | hx
        · exact hact
        · exact revLoop_trace_safe p w0 inj rest (idx + 1) x hx
    · simp only [hs]
      exact revLoop_trace_safe p w0 inj rest idx

/-- every call of a run started from a state reachable from `w0` is safe with respect to `w0` -/
theorem run_safe {p : Params} {w0 w : World2} (inj : Nat → Inj) (h : Reach p w0.revs w.revs) :
    Spec.traceSafe p w0 (run p inj w).trace = true := by
  have hlist : Spec.actSafe p w0 Act.listRevs = true := rfl
  unfold Spec.traceSafe
  rw [List.all_eq_true]
  unfold run
  by_cases he : selectorError p.sel = true
  · simp [he]
  · simp only [he]
    cases inj 0 with
    | crash => simp
    | err k applied => simpa using hlist
    | none =>
      intro x hx
      rcases List.mem_cons.1 hx with rfl | hx
      · exact hlist
      · cases ho : (revLoop p inj 1 w.revs).out with
        | some o =>
          rw [revPhase_stop ho] at hx
          exact revLoop_trace_safe p w0 inj _ _ x hx
        | none =>
          rw [revPhase_go ho] at hx
          rcases List.mem_append.1 hx with hx | hx
          · exact revLoop_trace_safe p w0 inj _ _ x hx
          · obtain ⟨h1, h2⟩ := revLoop_done p inj w.revs 1 ho
            rw [normRevs_reach h] at h1 h2
            exact asGet_safe inj _ (fun pre hpre => revsReady_of_normRevs h2 (hpre.trans h1)) x hx

theorem runs_safe {p : Params} {w0 : World2} : ∀ (injs : List (Nat → Inj)) (w : World2), Reach p w0.revs w.revs →
    Spec.safeRuns p w0 (runs p w injs).2 = true
  | [], w, _ => by simp [runs, Spec.safeRuns]
  | inj :: rest, w, h => by
    have h1 := run_safe inj h
    have h2 := runs_safe rest (run p inj w).w (reach_trans h (run_reach p inj w).revs)
    unfold Spec.safeRuns at h2 ⊢
    simp only [runs, List.all_cons, Bool.and_eq_true]
    exact ⟨h1, h2⟩

/-! ## what an uninterrupted run achieves; survival of revisions, pods and claims -/

theorem normRevs_not_stuck {p : Params} : ∀ {l : List Rev}, (∀ r ∈ l, panics p r = false) → (normRevs p l).2 = false
  | [], _ => rfl
  | r :: rest, h => by
    have hr := h r List.mem_cons_self
    simp only [normRevs, hr, Bool.false_eq_true, if_false]
    exact normRevs_not_stuck fun r' hr' => h r' (List.mem_cons_of_mem _ hr')

theorem panics_false_of {p : Params} (hsel : p.sel.isNil = false) (r : Rev) : panics p r = false := by
  simp [panics, hsel]

theorem revsKept_of_names {a b : List Rev} (h : b.map (·.name) = a.map (·.name)) :
    (a.all fun r0 => b.any (·.name == r0.name)) = true := by
  rw [List.all_eq_true]
  intro r0 hr0
  have : r0.name ∈ b.map (·.name) := by rw [h]; exact List.mem_map_of_mem hr0
  obtain ⟨r, hr, hn⟩ := List.mem_map.1 this
  exact List.any_eq_true.2 ⟨r, hr, by simp [hn]⟩

theorem run_noInj_upgraded {p : Params} {w : World2} (herr : selectorError p.sel = false) (hsel : p.sel.isNil = false) :
    (run p noInj w).out = .ok ∧ Spec.upgraded p w (run p noInj w).w = true := by
  have hst : (normRevs p w.revs).2 = false := normRevs_not_stuck fun r _ => panics_false_of hsel r
  have hnames := reach_names (reach_revLoop p noInj w.revs 1)
  rw [(revLoop_noInj p w.revs 1).1] at hnames
  rw [(run_noInj p w).1, (run_noInj p w).2]
  refine ⟨by simp [normOut, herr, hst], ?_⟩
  simp only [Spec.upgraded, normWorld, herr, hst, Bool.false_eq_true, if_false, Bool.not_false, Bool.true_and, Bool.and_eq_true]
  refine ⟨⟨⟨?_, ?_⟩, ?_⟩, ?_⟩
  · cases w.asts <;> simp [Spec.asEqual, normAs]
  · exact revsReady_of_normRevs hst rfl
  · exact revsKept_of_names hnames
  · simp [Spec.untouched]

theorem runs_append (p : Params) (inj : Nat → Inj) : ∀ (injs : List (Nat → Inj)) (w : World2),
    (runs p w (injs ++ [inj])).1 = (run p inj (runs p w injs).1).w
  | [], w => by simp [runs]
  | i :: rest, w => by simp only [List.cons_append, runs]; exact runs_append p inj rest _

end Asts.Upgrade
