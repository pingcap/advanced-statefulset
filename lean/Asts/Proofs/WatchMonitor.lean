import Mathlib.Tactic
import Asts.Proofs.Watch

/-! # The C20 monitor holds on the model of the repaired relay, for every script

`Sim m w` relates the books of the monitor (`Spec.M`) with the state of the model after the same prefix of a script, in each of
the shapes a settled state can have: relay idle at the receive, relay holding an event for the consumer (with or without an
offer of the source behind it), relay gone. On these shapes `sstep` computes by evaluation; what is left to prove is that the
monitor, fed the results, finds no fault. -/
namespace Asts.Watch
open Spec

/-- relay blocked at the receive, nothing offered, everybody still there -/
def idleW (log gs : List Ev) : W := ⟨[], false, .recvWait, false, false, false, log, gs⟩
/-- relay blocked in its send of `o`; `q` is the source's outstanding offer (at most one), `c` whether the source has ended -/
def holdW (q : List Ev) (c : Bool) (o : Ev) (log gs : List Ev) : W := ⟨q, c, .sendWait o, false, false, false, log, gs⟩
/-- relay gone, everything closed -/
def goneW (log gs : List Ev) : W := ⟨[], true, .exited, true, true, false, log, gs⟩

/-- the books of a monitor that has found no fault -/
def books (st se : Bool) (n : Nat) (sent : List Ev) (pend : Option Ev) (got : List Ev) : Spec.M :=
  ⟨st, se, n, sent, pend, got, true, true, true, true⟩

inductive Sim : Spec.M → W → Prop
  | idle {n : Nat} {sent log gs : List Ev} : sent.map expected = log →
      Sim (books false false n sent none log) (idleW log gs)
  | holding {c : Bool} {n : Nat} {sent log gs : List Ev} {o : Ev} : sent.map expected = log ++ [o] →
      Sim (books false c n sent none log) (holdW [] c o log gs)
  | offered {n : Nat} {sent log gs : List Ev} {o e : Ev} : sent.map expected = log ++ [o] →
      Sim (books false false n sent (some e) log) (holdW [e] false o log gs)
  | gone {st se : Bool} {n : Nat} {sent log gs : List Ev} :
      (st || se) = true → (st = false → sent.map expected = log) →
      Sim (books st se n sent none log) (goneW log gs)

theorem getElem?_of_map_append {f : Ev → Ev} {sent log : List Ev} {o : Ev} (h : sent.map f = log ++ [o]) :
    sent[log.length]?.map f = some o := by
  rw [← List.getElem?_map, h]
  simp

theorem length_of_map_eq {f : Ev → Ev} {sent l : List Ev} (h : sent.map f = l) : sent.length = l.length := by
  rw [← h, List.length_map]

/-! What a monitor that has found no fault does with the results that need an argument (a receive attempt, a dropped send,
the check after every action); on the others it computes. -/

theorem recv_got {st se : Bool} {n : Nat} {sent got : List Ev} {pend : Option Ev} {o : Ev}
    (h : sent[got.length]?.map expected = some o) :
    (books st se n sent pend got).recv (.got o) = books st se n sent pend (got ++ [o]) := by
  simp [books, M.recv, h]

theorem recv_blocked {n : Nat} {sent got : List Ev} {pend : Option Ev} (h : sent.length = got.length) :
    (books false false n sent pend got).recv .blocked = books false false n sent pend got := by
  simp [books, M.recv, M.inflight, h]

theorem recv_closed {st se : Bool} {n : Nat} {sent got : List Ev} {pend : Option Ev}
    (h : st = false → se = true ∧ sent.length = got.length) :
    (books st se n sent pend got).recv .closed = books st se n sent pend got := by
  cases st
  · simp [books, M.recv, M.inflight, h rfl]
  · rfl

theorem send_dropped {st se : Bool} {n : Nat} {sent got : List Ev} {pend : Option Ev} {t : EvType} {p : Payload}
    (h : (se || st || pend.isSome) = true) :
    (books st se n sent pend got).action (.send t p) .dropped = books st se (n + 1) sent pend got := by
  show M.mk _ _ _ _ _ _ _ (true && (se || st || pend.isSome)) _ _ = _
  rw [h]
  rfl

theorem idleCheck_books {st se : Bool} {n : Nat} {sent got : List Ev} {pend : Option Ev}
    (h : (st || se || pend.isNone || decide (1 ≤ sent.length - got.length)) = true) :
    (books st se n sent pend got).idleCheck = books st se n sent pend got := by
  show M.mk _ _ _ _ _ _ _ (true && (st || se || pend.isNone || decide (1 ≤ sent.length - got.length))) _ _ = _
  rw [h]
  rfl

theorem idleCheck_inflight {st se : Bool} {n : Nat} {sent got : List Ev} {pend : Option Ev}
    (h : got.length < sent.length) : (books st se n sent pend got).idleCheck = books st se n sent pend got :=
  idleCheck_books (by rw [decide_eq_true (by omega : 1 ≤ sent.length - got.length), Bool.or_true])

theorem map_expected_snoc {sent log : List Ev} (h : sent.map expected = log) (e : Ev) :
    (sent ++ [e]).map expected = log ++ [convert e] := by
  rw [List.map_append, h, convert_eq_expected, List.map_singleton]

/-- Each `show` states, for one shape and one action, the settled state `sstep` ends in and what `M.step` has made of the
    books (both found by evaluation), leaving the monitor's checks that need `hsent` to the lemmas above. -/
theorem sim_step {m : Spec.M} {w : W} (h : Sim m w) (a : SAct) :
    Sim (m.step a (sstep .fixed w m.nextId a).2) (sstep .fixed w m.nextId a).1 := by
  cases h with
  | @idle n sent log gs hsent =>
    cases a with
    | send t p =>
      show Sim (books false false (n + 1) (sent ++ [⟨t, p, n⟩]) none log)
        (holdW [] false (convert ⟨t, p, n⟩) log (gs ++ [⟨t, p, n⟩]))
      exact Sim.holding (map_expected_snoc hsent _)
    | close =>
      show Sim (books false true n sent none log) (goneW log gs)
      exact Sim.gone rfl (fun _ => hsent)
    | recv =>
      show Sim (M.idleCheck (M.recv _ .blocked)) (idleW log gs)
      rw [recv_blocked (length_of_map_eq hsent)]
      exact Sim.idle hsent
    | stop =>
      show Sim (books true false n sent none log) (goneW log gs)
      exact Sim.gone rfl (fun _ => hsent)
  | @holding c n sent log gs o hsent =>
    have hl : sent.length = log.length + 1 := by simpa using length_of_map_eq hsent
    have hhead := getElem?_of_map_append hsent
    cases a with
    | send t p =>
      cases c
      · show Sim (M.idleCheck (books false false (n + 1) sent (some ⟨t, p, n⟩) log))
          (holdW [⟨t, p, n⟩] false o log (gs ++ [⟨t, p, n⟩]))
        rw [idleCheck_inflight (by omega)]
        exact Sim.offered hsent
      · show Sim (books false true (n + 1) sent none log) (holdW [] true o log gs)
        exact Sim.holding hsent
    | close =>
      show Sim (books false true n sent none log) (sstep .fixed (holdW [] c o log gs) n .close).1
      cases c <;> exact Sim.holding hsent
    | recv =>
      cases c
      · show Sim (M.idleCheck (M.recv _ (.got o))) (idleW (log ++ [o]) gs)
        rw [recv_got hhead]
        exact Sim.idle hsent
      · show Sim (M.idleCheck (M.recv _ (.got o))) (goneW (log ++ [o]) gs)
        rw [recv_got hhead]
        exact Sim.gone rfl (fun _ => hsent)
    | stop =>
      show Sim (books true c n sent none log) (goneW log gs)
      exact Sim.gone rfl nofun
  | @offered n sent log gs o e hsent =>
    have hl : sent.length = log.length + 1 := by simpa using length_of_map_eq hsent
    cases a with
    | send t p =>
      show Sim (M.idleCheck (books false false (n + 1) sent (some e) log)) (holdW [e] false o log gs)
      rw [idleCheck_inflight (by omega)]
      exact Sim.offered hsent
    | close =>
      show Sim (books false true n sent none log) (holdW [] true o log gs)
      exact Sim.holding hsent
    | recv =>
      show Sim (M.idleCheck (M.complete (M.recv (books false false n sent (some e) log) (.got o))))
        (holdW [] false (convert e) (log ++ [o]) gs)
      rw [recv_got (getElem?_of_map_append hsent)]
      exact Sim.holding (map_expected_snoc hsent e)
    | stop =>
      show Sim (books true false n sent none log) (goneW log gs)
      exact Sim.gone rfl nofun
  | @gone st se n sent log gs hor hall =>
    have hidle : (st || se || (none : Option Ev).isNone || decide (1 ≤ sent.length - log.length)) = true := by
      rw [hor]; rfl
    cases a with
    | send t p =>
      show Sim (M.idleCheck (M.action _ (.send t p) .dropped)) (goneW log gs)
      rw [send_dropped (by rw [Bool.or_comm se, hor]; rfl), idleCheck_books hidle]
      exact Sim.gone hor hall
    | close =>
      show Sim (M.idleCheck (books st true n sent none log)) (goneW log gs)
      rw [idleCheck_books (by rw [Bool.or_true]; rfl)]
      exact Sim.gone (by simp) hall
    | recv =>
      show Sim (M.idleCheck (M.recv _ .closed)) (goneW log gs)
      rw [recv_closed (fun h => ⟨by simpa [h] using hor, length_of_map_eq (hall h)⟩), idleCheck_books hidle]
      exact Sim.gone hor hall
    | stop =>
      show Sim (books true se n sent none log) (goneW log gs)
      exact Sim.gone rfl nofun

theorem recv_nextId (m : Spec.M) (r : Res) : (m.recv r).nextId = m.nextId := by cases r <;> rfl

theorem complete_nextId (m : Spec.M) : m.complete.nextId = m.nextId := by
  unfold M.complete
  split <;> rfl

theorem action_nextId (m : Spec.M) (a : SAct) (r : Res) :
    (m.action a r).nextId = if isSend a then m.nextId + 1 else m.nextId := by
  cases a with
  | send t p => cases r <;> rfl
  | close => rfl
  | recv => exact recv_nextId m r
  | stop => rfl

theorem withdraw_nextId (m : Spec.M) (a : SAct) : (m.withdraw a).nextId = m.nextId := by cases a <;> rfl

theorem step_nextId (m : Spec.M) (a : SAct) (r : SRes) :
    (m.step a r).nextId = if isSend a then m.nextId + 1 else m.nextId := by
  show ((if r.took then (m.action a r.res).complete else m.action a r.res).withdraw a).nextId = _
  rw [withdraw_nextId, ← action_nextId m a r.res]
  split
  · exact complete_nextId _
  · rfl

theorem sstep_noPanic (v : Variant) (w : W) (id : Nat) (a : SAct) : ((sstep v w id a).2.res != .panic) = true := by
  cases a
  case send t p =>
    simp only [sstep]
    split_ifs <;> rfl
  case close => rfl
  case recv =>
    simp only [sstep, recvObs]
    split
    · rfl
    · split_ifs <;> rfl
  case stop => rfl

theorem sim_srun {m : Spec.M} {w : W} (h : Sim m w) (script : List SAct) :
    Sim (replay m script (srun .fixed w m.nextId script).2) (srun .fixed w m.nextId script).1 ∧
      noPanicRes (srun .fixed w m.nextId script).2 = true := by
  induction script generalizing m w with
  | nil => exact ⟨h, rfl⟩
  | cons a as ih =>
    obtain ⟨h1, h2⟩ := ih (sim_step h a)
    rw [step_nextId] at h1 h2
    exact ⟨h1, Bool.and_eq_true_iff.mpr ⟨sstep_noPanic .fixed w m.nextId a, h2⟩⟩

theorem sim_init : Sim {} (settle .fixed {}) := Sim.idle (sent := []) (gs := []) rfl

def Good (m : Spec.M) : Prop := m.okRelay = true ∧ m.okProgress = true ∧ m.okStop = true ∧ m.okObs = true

/-- the verdict of the monitor on a final pair related by `Sim` -/
theorem sim_final {m : Spec.M} {w : W} (h : Sim m w) :
    Good (m.recv (recvObs w)) ∧ w.panicked = false ∧
      ((m.stopped || (m.srcEnded && m.inflight == 0)) = true → recvObs w = .closed ∧ w.pc = .exited) := by
  have good {st se n sent pend got} : Good (books st se n sent pend got) := ⟨rfl, rfl, rfl, rfl⟩
  cases h with
  | idle hsent =>
    refine ⟨?_, rfl, nofun⟩
    show Good (M.recv _ .blocked)
    rw [recv_blocked (length_of_map_eq hsent)]
    exact good
  | @holding c n sent log gs o hsent =>
    have hl : sent.length = log.length + 1 := by simpa using length_of_map_eq hsent
    refine ⟨?_, rfl, by simp [books, M.inflight, hl]⟩
    show Good (M.recv _ (.got o))
    rw [recv_got (getElem?_of_map_append hsent)]
    exact good
  | @offered n sent log gs o e hsent =>
    refine ⟨?_, rfl, nofun⟩
    show Good (M.recv _ (.got o))
    rw [recv_got (getElem?_of_map_append hsent)]
    exact good
  | gone hor hall =>
    refine ⟨?_, rfl, fun _ => ⟨rfl, rfl⟩⟩
    show Good (M.recv _ .closed)
    rw [recv_closed (fun h => ⟨by simpa [h] using hor, length_of_map_eq (hall h)⟩)]
    exact good

/-! ## scripts are interleavings: every state a script visits is reachable in the transition system -/

theorem relayRun_exec {v : Variant} {w w' : W} {n : Nat} (h : RelayRun v w n w') :
    exec v w (List.replicate n .relayStep) = w' := by
  induction h with
  | done w => rfl
  | @step wa wb wc k hs _ ih =>
    have : act v wa .relayStep = wb := by simp [act, hs]
    simpa [exec, List.replicate_succ, this] using ih

theorem reachable_settle {v : Variant} {w : W} (h : Reachable v w) : Reachable v (settle v w) := by
  obtain ⟨k, hk⟩ := settle_run v w
  rw [← relayRun_exec hk]
  exact reachable_exec _ h

theorem reachable_sstep {v : Variant} {w : W} (h : Reachable v w) (id : Nat) (a : SAct) :
    Reachable v (sstep v w id a).1 := by
  cases a
  case send t p =>
    simp only [sstep]
    split_ifs
    · exact h
    · exact reachable_settle (reachable_act _ h)
    · exact reachable_settle (reachable_act _ h)
  case close => exact reachable_settle (reachable_act _ h)
  case recv => exact reachable_settle (reachable_act _ h)
  case stop => exact reachable_settle (reachable_act _ h)

theorem reachable_srun {v : Variant} {w : W} (h : Reachable v w) (id : Nat) (script : List SAct) :
    Reachable v (srun v w id script).1 := by
  induction script generalizing w id with
  | nil => exact h
  | cons a as ih => simpa [srun] using ih (reachable_sstep h id a) _

end Asts.Watch
