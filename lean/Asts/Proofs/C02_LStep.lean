import Asts.Proofs.C02_LWeights
import Asts.Proofs.L1_c_Track

/-! C02, legacy boundary mode, policy-independent: one round on a normal, settled world whose reconcile is a walk-free list
    of calls `A` (satisfying `ActFacts`, deleting no live pod in range) followed by at most one update-walk delete of a pod
    `tg` — an old pod or one created by `A` at the current revision. -/
namespace Asts.C02p
open Asts Asts.L1c

section
variable {h : Hashing} {j : SyncIn}

structure LPol (hs : NSC h j) (A : List Action) (tg : Option (Int × Pod)) : Prop where
  legacy : j.view.strat = .rolling ∧ j.view.ru = none
  ok : hs.norm.recon.2 = .ok
  acts : hs.norm.recon.1.acts = A ++ walkActs tg
  facts : ActFacts j.view hs.norm.curRev.name hs.norm.updRev.name (bOf j) (EOf j) j.pods A
  noLive : ∀ c ∈ j.pods, DelHits A c.pod.id → c.pod.fs = true ∨ inRange (bOf j) (EOf j) c.pod.ord = false
  tgt : ∀ t q, tg = some (t, q) → inRange (bOf j) (EOf j) t = true ∧ q.rev ≠ hs.norm.updRev.name ∧
      ((∃ c ∈ j.pods, c.pod = q ∧ c.pod.ord = t ∧ c.pod.fs = false) ∨
       (q.id = freshId + t.toNat ∧ Action.create t q.rev ∈ A)) ∧
      (∀ o, inRange (bOf j) (EOf j) o = true → o ≠ t →
         (∃ c ∈ j.pods, c.pod.ord = o ∧ c.pod.fs = false) ∨ ∃ rev, Action.create o rev ∈ A) ∧
      (hs.norm.curRev.name ≠ hs.norm.updRev.name → hs.norm.recon.1.status.current ≤ t)
  vac : ∀ o, inRange (bOf j) (EOf j) o = true → (∀ c ∈ j.pods, c.pod.ord ≠ o) → (∀ rev, Action.create o rev ∉ A) →
      ∃ o', inRange (bOf j) (EOf j) o' = true ∧ o' ≠ o ∧ ∀ c ∈ j.pods, c.pod.ord = o' → c.pod.fs = true

variable {hs : NSC h j} {A : List Action} {tg : Option (Int × Pod)}

/-- the pods the walk-free calls leave -/
def baseNext (j : SyncIn) (A : List Action) : List CPod := nextRawG j.setName j.pods A

theorem LPol.rawNext_none (hl : LPol hs A tg) (htg : tg = none) : rawNext hs.norm = baseNext j A := by
  unfold rawNext baseNext
  rw [hl.acts, htg]
  simp [walkActs]

theorem LPol.rawNext_some (hl : LPol hs A tg) {t : Int} {q : Pod} (htg : tg = some (t, q)) :
    rawNext hs.norm = (baseNext j A).filter (fun x => x.pod.id != q.id) := by
  unfold rawNext baseNext
  rw [hl.acts, htg]
  exact nextRawG_snoc_delete _ _ _ _ _ _

theorem LPol.sub (hl : LPol hs A tg) : (rawNext hs.norm).Sublist (baseNext j A) := by
  cases htg : tg with
  | none => rw [hl.rawNext_none htg]
  | some tq => obtain ⟨t, q⟩ := tq; rw [hl.rawNext_some htg]; exact List.filter_sublist

theorem LPol.pol (hl : LPol hs A tg) : Pol hs.norm := ⟨hl.ok, A, hl.facts, hl.sub⟩

/-- a pod the walk-free calls leave is still there unless it is the walk's target -/
theorem LPol.mem_of_base (hl : LPol hs A tg) {x : CPod} (hx : x ∈ baseNext j A)
    (hid : ∀ t q, tg = some (t, q) → x.pod.id ≠ q.id) : x ∈ rawNext hs.norm := by
  cases htg : tg with
  | none => rw [hl.rawNext_none htg]; exact hx
  | some tq =>
    obtain ⟨t, q⟩ := tq
    rw [hl.rawNext_some htg, List.mem_filter]
    exact ⟨hx, by simpa [bne] using hid t q htg⟩

/-- ids of the pods the walk-free calls leave -/
theorem base_id (hl : LPol hs A tg) {x : CPod} (hx : x ∈ baseNext j A) :
    (∃ c ∈ j.pods, ¬ DelHits A c.pod.id ∧ SameBody c x) ∨
    (∃ o rev, Action.create o rev ∈ A ∧ x = settleOne (mkPod j.setName o rev)) := by
  rcases nextRawG_mem hs.ctx hl.facts hx with ⟨c, hcm, hnd, hsame, _⟩ | ⟨o, rev, hcr, rfl⟩
  · exact Or.inl ⟨c, hcm, hnd, hsame⟩
  · exact Or.inr ⟨o, rev, hcr, rfl⟩

/-- the walk's target is gone, and nothing else sits at its ordinal -/
theorem LPol.target_gone (hl : LPol hs A tg) {t : Int} {q : Pod} (htg : tg = some (t, q)) :
    ∀ x ∈ rawNext hs.norm, x.pod.ord ≠ t := by
  intro x hx hxo
  have hctx := hs.ctx
  obtain ⟨hr, _, hkind, _, _⟩ := hl.tgt t q htg
  have hx0 : x ∈ baseNext j A := hl.sub.subset hx
  have hidne : x.pod.id ≠ q.id := by
    have := hx
    rw [hl.rawNext_some htg] at this
    simp only [List.mem_filter, bne_iff_ne, ne_eq] at this
    exact this.2
  rcases base_id hl hx0 with ⟨c, hcm, hnd, hsame⟩ | ⟨o, rev, hcr, rfl⟩
  · have hco : c.pod.ord = t := by rw [← hsame.ord]; exact hxo
    rcases hkind with ⟨cT, hcT, hq, hcTo, _⟩ | ⟨_, hcre⟩
    · have : cT = c := hctx.ord_inj hcT hcm (by rw [hcTo, hco])
      subst this
      exact hidne (by rw [hsame.id, hq])
    · obtain ⟨_, _, hcase⟩ := hl.facts.cre t q.rev hcre
      rcases hcase with hnone | ⟨c', hc', hco', _, hd⟩
      · exact hnone c hcm hco
      · have : c' = c := hctx.ord_inj hc' hcm (by rw [hco', hco])
        subst this
        exact hnd hd
  · have ho : o = t := by rw [← hxo, settleOne_ord]; rfl
    subst ho
    rcases hkind with ⟨cT, hcT, _, hcTo, hfsT⟩ | ⟨hqid, _⟩
    · obtain ⟨_, _, hcase⟩ := hl.facts.cre o rev hcr
      rcases hcase with hnone | ⟨c', hc', hco', hfs', _⟩
      · exact hnone cT hcT hcTo
      · have : c' = cT := hctx.ord_inj hc' hcT (by rw [hco', hcTo])
        subst this
        rw [hfsT] at hfs'; cases hfs'
    · apply hidne
      rw [settleOne_id, hqid]; rfl

/-- a pod the walk-free calls leave at another ordinal than the target's is still there -/
theorem LPol.mem_of_base_ord (hl : LPol hs A tg) {x : CPod} (hx : x ∈ baseNext j A)
    (hne : ∀ t q, tg = some (t, q) → x.pod.ord ≠ t) : x ∈ rawNext hs.norm := by
  have hctx := hs.ctx
  apply hl.mem_of_base hx
  intro t q htg hid
  obtain ⟨hr, _, hkind, _, _⟩ := hl.tgt t q htg
  have ht0 : 0 ≤ t := by
    unfold inRange at hr; simp only [Bool.and_eq_true, decide_eq_true_eq] at hr; exact hr.1.1
  rcases base_id hl hx with ⟨c, hcm, hnd, hsame⟩ | ⟨o, rev, hcr, rfl⟩
  · rcases hkind with ⟨cT, hcT, hq, hcTo, _⟩ | ⟨hqid, _⟩
    · have : c = cT := hctx.id_inj hcm hcT (by rw [← hsame.id, hid, hq])
      subst this
      exact hne t q htg (by rw [hsame.ord, hcTo])
    · have := hctx.id_lt hcm
      rw [← hsame.id, hid, hqid] at this
      omega
  · rcases hkind with ⟨cT, hcT, hq, _, _⟩ | ⟨hqid, _⟩
    · have := hctx.id_lt hcT
      rw [hq, ← hid, settleOne_id] at this
      simp only [mkPod] at this
      omega
    · rw [settleOne_id, hqid] at hid
      simp only [mkPod] at hid
      have hr' := (hl.facts.cre o rev hcr).1
      unfold inRange at hr'; simp only [Bool.and_eq_true, decide_eq_true_eq] at hr'
      have : o = t := by omega
      exact hne t q htg (by rw [settleOne_ord]; exact this)

end

end Asts.C02p

namespace Asts.C02p
open Asts Asts.L1c

section
variable {h : Hashing} {j : SyncIn} {hs : NSC h j} {A : List Action} {tg : Option (Int × Pod)}

/-- stated for an arbitrary result `(s, o)` and instantiated afterwards: unifying `hn.recon` with the call of
    `updateStatefulSet` directly sends the elaborator into evaluating it -/
theorem uss_status_names (v : SetView) (cur upd : String) (pods : List Pod) (s : St) (o : Outcome)
    (hres : updateStatefulSet v cur upd pods [] = (s, o)) (hok : o = .ok) :
    s.status.currentRev = cur ∧ s.status.updateRev = upd := by
  subst hok
  have hpost := updateStatefulSet_post v cur upd pods [] s hres
  exact ⟨hpost.2.1, hpost.2.2.1⟩

theorem recon_status_names (hn : NormC h j) (hok : hn.recon.2 = .ok) :
    hn.recon.1.status.currentRev = hn.curRev.name ∧ hn.recon.1.status.updateRev = hn.updRev.name := by
  have e : updateStatefulSet j.view hn.curRev.name hn.updRev.name (j.pods.map (·.pod)) [] = hn.recon := by
    unfold NormC.recon; rfl
  have key : ∀ ro : St × Outcome, updateStatefulSet j.view hn.curRev.name hn.updRev.name (j.pods.map (·.pod)) [] = ro →
      ro.2 = .ok → ro.1.status.currentRev = hn.curRev.name ∧ ro.1.status.updateRev = hn.updRev.name := by
    intro ro hro hok'
    obtain ⟨s, o⟩ := ro
    exact uss_status_names _ _ _ _ s o hro hok'
  exact key hn.recon e hok

theorem updName_next (hl : LPol hs A tg) : updName (nextW h j) = hs.norm.updRev.name := by
  unfold updName
  rw [nextW_last hs hl.pol]; rfl

theorem curNameOf_of_upd {i : SyncIn} (hc : i.stored.currentRev = updName i) : curNameOf i = updName i := by
  unfold curNameOf
  cases hf : (listedRevs i).find? (·.name == i.stored.currentRev) with
  | none => rfl
  | some x =>
    have := List.find?_some hf
    simp only [beq_iff_eq] at this
    simp [this, hc]

theorem curNameOf_eq (hn : NormC h j) : curNameOf j = hn.curRev.name := by
  unfold curNameOf NormC.curRev
  cases hf : (listedRevs j).find? (·.name == j.stored.currentRev) with
  | none => simp [hn.updName]
  | some x => simp

/-- **the vacancy the update walk leaves is refilled at the update revision** -/
theorem next_good_rev (hl : LPol hs A tg) {t : Int} {q : Pod} (htg : tg = some (t, q)) :
    newPodRev (nextW h j).view (curNameOf (nextW h j)) hs.norm.updRev.name t = hs.norm.updRev.name := by
  have hn := hs.norm
  have hp := hl.pol
  obtain ⟨hcurN, hupdN⟩ := recon_status_names hn hl.ok
  have hcons := storedNext_cons hn
  obtain ⟨_, _, e2, _, _, e5, _⟩ := inconsistent_false hcons
  have hstored := nextW_stored hs hp
  have hview := nextW_view hs hp
  have hupd' := updName_next hl
  -- when the stored current revision is the update revision, the resolved one is too
  have hcaseA : (nextW h j).stored.currentRev = hn.updRev.name →
      newPodRev (nextW h j).view (curNameOf (nextW h j)) hn.updRev.name t = hn.updRev.name := by
    intro hc
    have : curNameOf (nextW h j) = hn.updRev.name := by
      rw [← hupd']; exact curNameOf_of_upd (by rw [hupd']; exact hc)
    rw [this]
    unfold newPodRev
    split_ifs <;> rfl
  rcases cru_cases j.view hn.recon.1.status with hsame | hfired
  · by_cases hne : hn.curRev.name = hn.updRev.name
    · apply hcaseA
      rw [hstored, ← e5, hsame, hcurN, hne]
    · have hb := (hl.tgt t q htg).2.2.2.2 hne
      have hcr : (nextW h j).view.stCurrentReplicas = hn.recon.1.status.current := by
        rw [hview]
        show (storedNext hn).current = _
        rw [← e2, hsame]
      unfold newPodRev
      have hru : (nextW h j).view.ru = none := by rw [hview]; exact hl.legacy.2
      rw [hcr, hru]
      have : ¬ (t < hn.recon.1.status.current) := by omega
      simp [this]
  · apply hcaseA
    rw [hstored, ← e5, hfired, hupdN]

end

end Asts.C02p

namespace Asts.C02p
open Asts Asts.L1c

section
variable {h : Hashing} {j : SyncIn} {hs : NSC h j} {A : List Action} {tg : Option (Int × Pod)}

/-- after the walk took a pod down, its ordinal is the only one without a live pod, and it weighs 1 -/
theorem good_after (hl : LPol hs A tg) {t : Int} {q : Pod} (htg : tg = some (t, q)) :
    wLOf (nextW h j).view (curNameOf (nextW h j)) hs.norm.updRev.name (rawNext hs.norm)
      (desired (replicasOf j.view) j.view.slots) t = 1 := by
  have hn := hs.norm
  have hctx := hs.ctx
  obtain ⟨_, _, _, hall, _⟩ := hl.tgt t q htg
  apply wLOf_none_good (hl.target_gone htg) _ (next_good_rev hl htg)
  rw [onlyNeedy_iff]
  intro o' ho' hne
  have hr' := (mem_desired_iff hn o').1 ho'
  rcases hall o' hr' hne with ⟨c, hcm, hco, hfs⟩ | ⟨rev, hcr⟩
  · have hnd : ¬ DelHits A c.pod.id := by
      intro hd
      rcases hl.noLive c hcm hd with h1 | h1
      · rw [hfs] at h1; cases h1
      · rw [hco, hr'] at h1; cases h1
    obtain ⟨x, hx, hsame, _, _⟩ := nextRawG_survivor (setName := j.setName) (acts := A) hctx hcm hnd
    refine ⟨x, hl.mem_of_base_ord hx ?_, by rw [hsame.ord]; exact hco, ?_⟩
    · intro t' q' htg'
      rw [htg] at htg'
      simp only [Option.some.injEq, Prod.mk.injEq] at htg'
      rw [hsame.ord, hco, ← htg'.1]; exact hne
    · exact hsame.fs.trans hfs
  · have hx := nextRawG_new hctx hl.facts hcr
    refine ⟨_, hl.mem_of_base_ord hx ?_, by rw [settleOne_ord]; rfl, ?_⟩
    · intro t' q' htg'
      rw [htg] at htg'
      simp only [Option.some.injEq, Prod.mk.injEq] at htg'
      rw [settleOne_ord, ← htg'.1]; exact hne
    · rw [settleOne_mkPod]; simp [Pod.fs, Pod.failed, Pod.succeeded]

theorem lstep_weight (hl : LPol hs A tg) {o : Int} (ho : inRange (bOf j) (EOf j) o = true) :
    wLOf (nextW h j).view (curNameOf (nextW h j)) hs.norm.updRev.name (rawNext hs.norm)
        (desired (replicasOf j.view) j.view.slots) o ≤
      wLOf j.view hs.norm.curRev.name hs.norm.updRev.name j.pods (desired (replicasOf j.view) j.view.slots) o ∧
    (((∃ rev, Action.create o rev ∈ A) ∨ (∃ q, tg = some (o, q)) ∨
      (∃ c ∈ j.pods, c.pod.ord = o ∧ c.pod.fs = false ∧ c.pod.idOk = false ∧ Action.update o ∈ A)) →
      wLOf (nextW h j).view (curNameOf (nextW h j)) hs.norm.updRev.name (rawNext hs.norm)
        (desired (replicasOf j.view) j.view.slots) o <
      wLOf j.view hs.norm.curRev.name hs.norm.updRev.name j.pods (desired (replicasOf j.view) j.view.slots) o) := by
  have hn := hs.norm
  have hctx := hs.ctx
  have hndN := rawNext_nodup hs hl.pol
  have hD := mem_desired_iff hn
  -- what a target at `o` looks like
  have htgo : ∀ q, tg = some (o, q) →
      (∃ c ∈ j.pods, c.pod = q ∧ c.pod.ord = o ∧ c.pod.fs = false ∧ q.rev ≠ hn.updRev.name) ∨
      (Action.create o q.rev ∈ A ∧ q.rev ≠ hn.updRev.name) := by
    intro q hq
    obtain ⟨_, hrev, hkind, _, _⟩ := hl.tgt o q hq
    rcases hkind with ⟨c, hcm, h1, h2, h3⟩ | ⟨_, hcre⟩
    · exact Or.inl ⟨c, hcm, h1, h2, h3, hrev⟩
    · exact Or.inr ⟨hcre, hrev⟩
  by_cases hcre : ∃ rev, Action.create o rev ∈ A
  · obtain ⟨rev, hcr⟩ := hcre
    obtain ⟨_, hrev, hcase⟩ := hl.facts.cre o rev hcr
    -- the old weight is at least 1, and 4 or 5 unless a new pod comes at the update revision
    have hold : 1 ≤ wLOf j.view hn.curRev.name hn.updRev.name j.pods (desired (replicasOf j.view) j.view.slots) o ∧
        (newPodRev j.view hn.curRev.name hn.updRev.name o ≠ hn.updRev.name →
          4 ≤ wLOf j.view hn.curRev.name hn.updRev.name j.pods (desired (replicasOf j.view) j.view.slots) o) := by
      rcases hcase with hnone | ⟨c, hcm, hco, hfs, _⟩
      · exact ⟨wLOf_none_pos hnone, fun hne => by rw [wLOf_none_bad hnone (Or.inr hne)]⟩
      · subst hco
        rw [wLOf_some hn.ords hcm, wLPod_fs hfs]
        exact ⟨by omega, fun _ => by omega⟩
    by_cases htg : ∃ q, tg = some (o, q)
    · obtain ⟨q, hq⟩ := htg
      rw [good_after hl hq]
      have hne : newPodRev j.view hn.curRev.name hn.updRev.name o ≠ hn.updRev.name := by
        rcases htgo q hq with ⟨c, hcm, _, hco, hfs, _⟩ | ⟨hcre', hrev'⟩
        · exfalso
          rcases hcase with hnone | ⟨c', hc', hco', hfs', _⟩
          · exact hnone c hcm hco
          · rw [hctx.ord_inj hc' hcm (by rw [hco', hco]), hfs] at hfs'; cases hfs'
        · rw [← (hl.facts.cre o q.rev hcre').2.1]; exact hrev'
      have := hold.2 hne
      exact ⟨by omega, fun _ => by omega⟩
    · have hx := nextRawG_new hctx hl.facts hcr
      have hxN := hl.mem_of_base_ord hx (by
        intro t q htq hxo
        apply htg
        rw [settleOne_ord] at hxo
        exact ⟨q, by rw [htq]; simp only [mkPod] at hxo; rw [hxo]⟩)
      have hw := wLOf_some (v := (nextW h j).view) (cur := curNameOf (nextW h j)) (upd := hn.updRev.name)
        (D := desired (replicasOf j.view) j.view.slots) hndN hxN
      have hxo : (settleOne (mkPod j.setName o rev)).pod.ord = o := by rw [settleOne_ord]; rfl
      rw [hxo] at hw
      have hwx : wLPod hn.updRev.name (settleOne (mkPod j.setName o rev)) = if (rev != hn.updRev.name) = true then 3 else 0 := by
        rw [settleOne_mkPod, wLPod_live (by simp [Pod.fs, Pod.failed, Pod.succeeded])]
        simp [mkPod]
      rw [hw, hwx]
      by_cases hru : rev = hn.updRev.name
      · simp only [hru, bne_self_eq_false, Bool.false_eq_true, if_false]
        exact ⟨by omega, fun _ => by omega⟩
      · have hne : newPodRev j.view hn.curRev.name hn.updRev.name o ≠ hn.updRev.name := by rw [← hrev]; exact hru
        have := hold.2 hne
        have h3 : (if (rev != hn.updRev.name) = true then 3 else 0) ≤ 3 := by split_ifs <;> omega
        exact ⟨by omega, fun _ => by omega⟩
  · have hnocre : ∀ rev, Action.create o rev ∉ A := fun rev hh => hcre ⟨rev, hh⟩
    by_cases hex : ∃ c ∈ j.pods, c.pod.ord = o
    · obtain ⟨c, hcm, rfl⟩ := hex
      rw [wLOf_some hn.ords hcm]
      by_cases hfs : c.pod.fs = true
      · -- a Failed/Succeeded pod that is not replaced in this round stays
        have hnd : ¬ DelHits A c.pod.id := fun hd => by
          obtain ⟨rev, hh⟩ := hl.facts.delFs c hcm hd hfs ho
          exact hnocre rev hh
        obtain ⟨x, hx, hsame, _, _⟩ := nextRawG_survivor (setName := j.setName) (acts := A) hctx hcm hnd
        have hnotg : ∀ t q, tg = some (t, q) → x.pod.ord ≠ t := by
          intro t q htq hxo
          have hto : t = c.pod.ord := by rw [← hxo, hsame.ord]
          subst hto
          rcases htgo q htq with ⟨c', hc', _, hco', hfs', _⟩ | ⟨hcre', _⟩
          · rw [hctx.ord_inj hc' hcm hco', hfs] at hfs'; cases hfs'
          · exact hnocre _ hcre'
        have hxN := hl.mem_of_base_ord hx hnotg
        have hw := wLOf_some (v := (nextW h j).view) (cur := curNameOf (nextW h j)) (upd := hn.updRev.name)
          (D := desired (replicasOf j.view) j.view.slots) hndN hxN
        rw [hsame.ord] at hw
        have hfsx : x.pod.fs = true := hsame.fs.trans hfs
        rw [hw, wLPod_fs hfsx, wLPod_fs hfs]
        refine ⟨le_refl _, ?_⟩
        rintro (⟨rev, hh⟩ | ⟨q, hq⟩ | ⟨c', hc', hco', hfs', _⟩)
        · exact absurd hh (hnocre rev)
        · exact absurd (hsame.ord) (hnotg _ q hq)
        · rw [hctx.ord_inj hc' hcm hco', hfs] at hfs'; cases hfs'
      · have hfs' : c.pod.fs = false := by simpa using hfs
        have hnd : ¬ DelHits A c.pod.id := fun hd => by
          rcases hl.noLive c hcm hd with h1 | h1
          · rw [hfs'] at h1; cases h1
          · rw [ho] at h1; cases h1
        obtain ⟨x, hx, hsame, _, hupd⟩ := nextRawG_survivor (setName := j.setName) (acts := A) hctx hcm hnd
        rw [wLPod_live hfs']
        by_cases htg : ∃ q, tg = some (c.pod.ord, q)
        · obtain ⟨q, hq⟩ := htg
          rw [good_after hl hq]
          have hrev : c.pod.rev ≠ hn.updRev.name := by
            rcases htgo q hq with ⟨c', hc', hcp, hco', _, hrv⟩ | ⟨hcre', _⟩
            · rw [← hctx.ord_inj hc' hcm hco', hcp]; exact hrv
            · exact absurd hcre' (hnocre _)
          have : (if (c.pod.rev != hn.updRev.name) = true then 3 else 0) = 3 := by simp [hrev]
          rw [this]
          exact ⟨by omega, fun _ => by omega⟩
        · have hxN := hl.mem_of_base_ord hx (by
            intro t q htq hxo
            apply htg
            exact ⟨q, by rw [htq, ← hxo, hsame.ord]⟩)
          have hw := wLOf_some (v := (nextW h j).view) (cur := curNameOf (nextW h j)) (upd := hn.updRev.name)
            (D := desired (replicasOf j.view) j.view.slots) hndN hxN
          rw [hsame.ord] at hw
          have hfsx : x.pod.fs = false := hsame.fs.trans hfs'
          rw [hw, wLPod_live hfsx, hsame.rev]
          have hidle : (if x.pod.idOk = true then 0 else 1) ≤ (if c.pod.idOk = true then 0 else 1) := by
            by_cases hid : c.pod.idOk = true
            · rw [hsame.idOk hid, hid]
            · split_ifs <;> omega
          refine ⟨by omega, ?_⟩
          rintro (⟨rev, hh⟩ | ⟨q, hq⟩ | ⟨c', hc', hco', _, hid', hu⟩)
          · exact absurd hh (hnocre rev)
          · exact absurd ⟨q, hq⟩ htg
          · have hcc : c' = c := hctx.ord_inj hc' hcm hco'
            subst hcc
            have hxid := hupd c'.pod.ord hu (hn.pods c' hcm).2.2.2.1
            rw [hxid, hid']
            simp
    · have hnone : ∀ c ∈ j.pods, c.pod.ord ≠ o := fun c hcm hco => hex ⟨c, hcm, hco⟩
      -- an unfilled vacancy: another desired ordinal needs a pod too
      obtain ⟨o', hr', hne', hall'⟩ := hl.vac o ho hnone hnocre
      have hbad : onlyNeedy j.pods (desired (replicasOf j.view) j.view.slots) o = false := by
        rw [Bool.eq_false_iff, ne_eq, onlyNeedy_iff]
        intro hon
        obtain ⟨c, hcm, hco, hfs⟩ := hon o' ((hD o').2 hr') hne'
        rw [hall' c hcm hco] at hfs; cases hfs
      rw [wLOf_none_bad hnone (Or.inl hbad)]
      have hnoneN : ∀ x ∈ rawNext hn, x.pod.ord ≠ o := by
        intro x hx
        exact nextRawG_at_none hctx hl.facts hnocre (fun c hcm hco => absurd hco (hnone c hcm)) x (hl.sub.subset hx)
      refine ⟨wLOf_none_le hnoneN, ?_⟩
      rintro (⟨rev, hh⟩ | ⟨q, hq⟩ | ⟨c', hc', hco', _⟩)
      · exact absurd hh (hnocre rev)
      · rcases htgo q hq with ⟨c, hcm, _, hco, _⟩ | ⟨hcre', _⟩
        · exact absurd hco (hnone c hcm)
        · exact absurd hcre' (hnocre _)
      · exact absurd hco' (hnone c' hc')

end

end Asts.C02p

namespace Asts.C02p
open Asts Asts.L1c

section
variable {h : Hashing} {j : SyncIn} {hs : NSC h j} {A : List Action} {tg : Option (Int × Pod)}

theorem muL_eq (hn : NormC h j) :
    muL j = muLOf j.view hn.curRev.name hn.updRev.name (desired (replicasOf j.view) j.view.slots) j.pods := by
  unfold muL
  rw [curNameOf_eq hn, hn.updName]

theorem muL_next (hl : LPol hs A tg) :
    muL (nextW h j) = muLOf (nextW h j).view (curNameOf (nextW h j)) hs.norm.updRev.name
      (desired (replicasOf j.view) j.view.slots) (rawNext hs.norm) := by
  have hp := hl.pol
  have hview := nextW_view hs hp
  have hD : desired (replicasOf (nextW h j).view) (nextW h j).view.slots = desired (replicasOf j.view) j.view.slots := by
    rw [hview]; rfl
  unfold muL
  rw [hD, updName_next hl, muLOf_keyPerm (nextW_pods hs hp) (rawNext_nodup hs hp)]

/-- **the legacy measure, one round**: never up; down whenever an `LEvent` happens -/
theorem muL_step (hl : LPol hs A tg) :
    muL (nextW h j) ≤ muL j ∧ (LEvent j A tg → muL (nextW h j) < muL j) := by
  have hn := hs.norm
  have hD := mem_desired_iff hn
  rw [muL_next hl, muL_eq hn]
  unfold muLOf
  have hw := fun o (ho : o ∈ desired (replicasOf j.view) j.view.slots) => lstep_weight hl ((hD o).1 ho)
  obtain ⟨hcle0, hclt0⟩ := step_condemnedG hs.ctx hl.facts _ hD
  have hsubc := (hl.sub.filter (fun c => !(desired (replicasOf j.view) j.view.slots).contains c.pod.ord)).length_le
  obtain ⟨hle, hlt⟩ := sum_add_step (fun o ho => (hw o ho).1) (le_trans hsubc hcle0)
  refine ⟨hle, fun hev => hlt ?_⟩
  rcases hev with ⟨o, rev, hcr⟩ | ⟨c, hcm, hd⟩ | ⟨c, hcm, hr, hfs, hid, hu⟩ | htg
  · have ho := (hD o).2 (hl.facts.cre o rev hcr).1
    exact Or.inl ⟨o, ho, (hw o ho).2 (Or.inl ⟨rev, hcr⟩)⟩
  · by_cases hr : inRange (bOf j) (EOf j) c.pod.ord = true
    · -- a deleted pod in range is Failed/Succeeded, and is replaced
      have hfs : c.pod.fs = true := (hl.noLive c hcm hd).resolve_right (by rw [hr]; simp)
      obtain ⟨rev, hcr⟩ := hl.facts.delFs c hcm hd hfs hr
      exact Or.inl ⟨_, (hD _).2 hr, (hw _ ((hD _).2 hr)).2 (Or.inl ⟨rev, hcr⟩)⟩
    · exact Or.inr (lt_of_le_of_lt hsubc (hclt0 ⟨c, hcm, fun hh => hr ((hD _).1 hh), hd⟩))
  · exact Or.inl ⟨_, (hD _).2 hr, (hw _ ((hD _).2 hr)).2 (Or.inr (Or.inr ⟨c, hcm, rfl, hfs, hid, hu⟩))⟩
  · cases htgc : tg with
    | none => rw [htgc] at htg; cases htg
    | some tq =>
      have ho := (hD tq.1).2 (hl.tgt tq.1 tq.2 htgc).1
      exact Or.inl ⟨tq.1, ho, (hw _ ho).2 (Or.inr (Or.inl ⟨tq.2, htgc⟩))⟩

end

end Asts.C02p
