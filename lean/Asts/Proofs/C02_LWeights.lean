import Asts.Proofs.C02_LStatus

/-! C02, legacy boundary mode: the legacy weights, insensitive to order and ids. -/
namespace Asts.C02p
open Asts Asts.L1c

theorem onlyNeedy_iff (l : List CPod) (D : List Int) (o : Int) :
    onlyNeedy l D o = true ↔ ∀ o' ∈ D, o' ≠ o → ∃ c ∈ l, c.pod.ord = o' ∧ c.pod.fs = false := by
  unfold onlyNeedy
  simp only [List.all_eq_true, Bool.or_eq_true, beq_iff_eq, List.any_eq_true, Bool.and_eq_true, Bool.not_eq_true']
  constructor
  · intro h o' ho' hne
    rcases h o' ho' with h1 | ⟨c, hc, h2, h3⟩
    · exact absurd h1 hne
    · exact ⟨c, hc, h2, h3⟩
  · intro h o' ho'
    by_cases hne : o' = o
    · exact Or.inl hne
    · obtain ⟨c, hc, h2, h3⟩ := h o' ho' hne
      exact Or.inr ⟨c, hc, h2, h3⟩

theorem wLOf_some {v : SetView} {cur upd : String} {l : List CPod} {D : List Int} (hnd : (l.map (·.pod.ord)).Nodup)
    {c : CPod} (hc : c ∈ l) : wLOf v cur upd l D c.pod.ord = wLPod upd c := by
  unfold wLOf; rw [find_ord_some hnd hc]

theorem wLOf_none {v : SetView} {cur upd : String} {l : List CPod} {D : List Int} {o : Int} (h : ∀ c ∈ l, c.pod.ord ≠ o) :
    wLOf v cur upd l D o = if onlyNeedy l D o && newPodRev v cur upd o == upd then 1 else 4 := by
  unfold wLOf; rw [find_ord_none h]

theorem wLOf_none_le {v : SetView} {cur upd : String} {l : List CPod} {D : List Int} {o : Int} (h : ∀ c ∈ l, c.pod.ord ≠ o) :
    wLOf v cur upd l D o ≤ 4 := by
  rw [wLOf_none h]; split_ifs <;> omega

theorem wLOf_none_pos {v : SetView} {cur upd : String} {l : List CPod} {D : List Int} {o : Int} (h : ∀ c ∈ l, c.pod.ord ≠ o) :
    1 ≤ wLOf v cur upd l D o := by
  rw [wLOf_none h]; split_ifs <;> omega

theorem wLOf_none_good {v : SetView} {cur upd : String} {l : List CPod} {D : List Int} {o : Int} (h : ∀ c ∈ l, c.pod.ord ≠ o)
    (h1 : onlyNeedy l D o = true) (h2 : newPodRev v cur upd o = upd) : wLOf v cur upd l D o = 1 := by
  rw [wLOf_none h, h1, h2]; simp

theorem wLOf_none_bad {v : SetView} {cur upd : String} {l : List CPod} {D : List Int} {o : Int} (h : ∀ c ∈ l, c.pod.ord ≠ o)
    (h1 : onlyNeedy l D o = false ∨ newPodRev v cur upd o ≠ upd) : wLOf v cur upd l D o = 4 := by
  rw [wLOf_none h]
  rcases h1 with h1 | h1
  · rw [h1]; simp
  · have : (newPodRev v cur upd o == upd) = false := by simpa using h1
    rw [this]; simp

theorem onlyNeedy_keyPerm {A B : List CPod} (hk : KeyPerm A B) (D : List Int) (o : Int) : onlyNeedy A D o = onlyNeedy B D o := by
  rw [Bool.eq_iff_iff, onlyNeedy_iff, onlyNeedy_iff]
  constructor
  · intro h o' ho' hne
    obtain ⟨c, hc, h1, h2⟩ := h o' ho' hne
    obtain ⟨c', hc', hkc⟩ := hk.mem hc
    exact ⟨c', hc', (key_transfer (·.pod.ord) (fun _ => rfl) hkc).trans h1, (key_transfer (·.pod.fs) (fun _ => rfl) hkc).trans h2⟩
  · intro h o' ho' hne
    obtain ⟨c, hc, h1, h2⟩ := h o' ho' hne
    obtain ⟨c', hc', hkc⟩ := hk.symm.mem hc
    exact ⟨c', hc', (key_transfer (·.pod.ord) (fun _ => rfl) hkc).trans h1, (key_transfer (·.pod.fs) (fun _ => rfl) hkc).trans h2⟩

theorem wLOf_keyPerm {v : SetView} {cur upd : String} {A B : List CPod} (hk : KeyPerm A B)
    (hnd : (B.map (·.pod.ord)).Nodup) (D : List Int) (o : Int) : wLOf v cur upd A D o = wLOf v cur upd B D o := by
  have hndA : (A.map (·.pod.ord)).Nodup := (hk.ords.nodup_iff).2 hnd
  by_cases hex : ∃ b ∈ B, b.pod.ord = o
  · obtain ⟨b, hb, rfl⟩ := hex
    obtain ⟨a, ha, hka⟩ := hk.symm.mem hb
    have hao : a.pod.ord = b.pod.ord := key_transfer (·.pod.ord) (fun _ => rfl) hka
    rw [wLOf_some hnd hb, ← hao, wLOf_some hndA ha]
    exact key_transfer (wLPod upd) (fun _ => rfl) hka
  · have hB : ∀ b ∈ B, b.pod.ord ≠ o := fun b hb hbo => hex ⟨b, hb, hbo⟩
    have hA : ∀ a ∈ A, a.pod.ord ≠ o := by
      intro a ha hao
      obtain ⟨b, hb, hkb⟩ := hk.mem ha
      exact hB b hb ((key_transfer (·.pod.ord) (fun _ => rfl) hkb).trans hao)
    rw [wLOf_none hA, wLOf_none hB, onlyNeedy_keyPerm hk]

theorem muLOf_keyPerm {v : SetView} {cur upd : String} {D : List Int} {A B : List CPod} (hk : KeyPerm A B)
    (hnd : (B.map (·.pod.ord)).Nodup) : muLOf v cur upd D A = muLOf v cur upd D B :=
  sum_add_keyPerm (fun o _ => wLOf_keyPerm hk hnd D o) hk

theorem wLPod_live {upd : String} {c : CPod} (hfs : c.pod.fs = false) :
    wLPod upd c = (if c.pod.rev != upd then 3 else 0) + (if c.pod.idOk then 0 else 1) := by
  unfold wLPod
  have : (c.pod.failed || c.pod.succeeded) = false := hfs
  simp [this]

theorem wLPod_fs {upd : String} {c : CPod} (hfs : c.pod.fs = true) : wLPod upd c = 5 := by
  unfold wLPod
  have : (c.pod.failed || c.pod.succeeded) = true := hfs
  simp [this]

end Asts.C02p
