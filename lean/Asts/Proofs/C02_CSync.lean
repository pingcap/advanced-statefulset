import Asts.Proofs.C02_CClaim
import Asts.Proofs.C02_BSim

/-! C02, worlds with pod objects that are not members of the set: the premise `PreM`, and the sync under the empty fault
    plan up to the reconcile (`sync_preM`). The reconcile sees the members only; the other pod objects are released (if the
    set controlled them) or ignored. -/
namespace Asts.C02p
open Asts Asts.L1c

/-- the world with the members of the set only (pod ids as they are) -/
def mOf (x : SyncIn) : SyncIn := { x with pods := x.pods.filter (·.member) }

/-- a world before its normalising rounds, pod objects that are no members of the set allowed -/
structure PreM (x : SyncIn) : Prop where
  spec : SpecOk x
  mem : ∀ c ∈ x.pods, c.member = true → (c.owner = .self ∨ c.owner = .none) ∧ c.selMatch = true ∧
    c.name = canonicalName x.setName c.pod.ord ∧ 0 ≤ c.pod.ord ∧ c.pod.stOk = true ∧ c.pod.created = true
  ords : ((x.pods.filter (·.member)).map (·.pod.ord)).Nodup
  podNames : (x.pods.map (·.name)).Nodup
  inertNames : ∀ c ∈ x.pods, c.member = false → ∀ o ∈ desired (replicasOf x.view) x.view.slots,
    c.name ≠ canonicalName x.setName o
  inertColon : ∀ c ∈ x.pods, c.member = false → c.owner = .self → ∀ ch ∈ c.name.toList, (ch == ':') = false
  ids : IdOk x.pods
  small : x.pods.length ≤ freshId
  smallR : (replicasOf x.view).toNat ≤ freshId
  gone : x.fresh.gone = false
  uid : x.fresh.uidOk = true
  fdel : x.fresh.deleting = false
  term : ∀ c ∈ x.pods, c.pod.terminating = false
  colon : ∀ ch ∈ x.setName.toList, (ch == ':') = false
  names : (x.store.map (·.name)).Nodup

theorem mem_mOf {x : SyncIn} {c : CPod} : c ∈ (mOf x).pods ↔ c ∈ x.pods ∧ c.member = true := by
  show c ∈ x.pods.filter (·.member) ↔ _
  rw [List.mem_filter]

/-- in the members-only world every pod object is a member, owned or an orphan: the premise of the lemmas on `prepW` -/
theorem PreM.preC {x : SyncIn} (hp : PreM x) : PreC (mOf x) := by
  refine ⟨hp.spec.of_eq rfl rfl rfl rfl rfl rfl, ?_, hp.ords,
    le_trans (List.length_filter_le _ _) hp.small, hp.smallR, hp.gone, hp.uid, hp.fdel⟩
  intro c hc
  obtain ⟨hcx, hm⟩ := mem_mOf.1 hc
  obtain ⟨a1, a2, a3, a4, a6, a7⟩ := hp.mem c hcx hm
  exact ⟨a1, hm, a2, a3, a4, a6, a7⟩

theorem PreM.claimM {x : SyncIn} (hp : PreM x) : ∀ c ∈ x.pods, ClaimM c := by
  intro c hc hm
  obtain ⟨a1, a2, _⟩ := hp.mem c hc hm
  exact ⟨a1, a2, hm, hp.term c hc⟩

theorem PreM.flipColon {x : SyncIn} (hp : PreM x) :
    ∀ c ∈ x.pods, needsFlip c = true → ∀ ch ∈ c.name.toList, (ch == ':') = false := by
  intro c hc hf
  by_cases hm : c.member = true
  · obtain ⟨_, _, a3, a4, _⟩ := hp.mem c hc hm
    rw [a3]
    exact canon_noColon _ _ a4 hp.colon
  · have hm' : c.member = false := by simpa using hm
    unfold needsFlip at hf
    rw [hm'] at hf
    simp only [Bool.false_eq_true, if_false, beq_iff_eq] at hf
    exact hp.inertColon c hc hm' hf


/-- **the sync up to the reconcile**: adoption of revisions, claim of the members, release of the non-members the set
    controlled, resolution of the update revision -/
theorem sync_preM {h : Hashing} {x : SyncIn} (hp : PreM x) {G : List Rev} {upd : Rev} {cc : Int}
    (hpick : PickOut h x.template (x.collisionCount.getD 0) (adoptS x.store) G upd cc) :
    ∃ lg1 lg2, (∀ e ∈ lg1, NoPatch e) ∧ (∀ e ∈ lg2, NoPatch e) ∧
      syncF h x [] =
        SYa.finishF x [] (x.pods.filter (·.member)) (sortRevs (listRevisions (adoptS x.store)))
          (((sortRevs (listRevisions (adoptS x.store))).find? (·.name == x.stored.currentRev)).getD upd) upd cc
          { store := G, tr := { log := lg1 ++ claimLogM false x.pods ++ lg2 } } := by
  obtain ⟨lgA, hlgA, hadopt⟩ := adopt_nil x.fresh hp.gone hp.uid hp.fdel x.store []
  obtain ⟨m, hclaim⟩ := claim_nilM x.fresh hp.gone hp.uid hp.fdel x.pods hp.claimM ([] ++ lgA)
  obtain ⟨lgP, hlgP, hrun⟩ := hpick.run x.stored.currentRev ([] ++ lgA ++ claimLogM false x.pods ++ ["list:revs", "list:revs"])
  refine ⟨lgA, ["list:revs", "list:revs"] ++ lgP, hlgA, ?_, ?_⟩
  · intro e he
    rw [List.mem_append] at he
    rcases he with he | he
    · simp only [List.mem_cons, List.not_mem_nil, or_false, or_self] at he
      rw [he]; exact noPatch_of_few SYa.few_list_revs
    · exact hlgP e he
  · rw [SYa.syncF_eq]
    simp only [hp.spec.paused, hp.spec.sel, Bool.not_true, Bool.or_self, Bool.false_eq_true, if_false, hp.spec.del]
    have e0 : ({ store := x.store } : RevSt) = { store := x.store, tr := { log := [] } } := rfl
    rw [e0, hadopt]
    simp only
    rw [hclaim]
    unfold SYa.afterClaimF
    simp only [Bool.false_eq_true, if_false]
    rw [listRevsF_nil]
    simp only
    rw [hrun]
    simp [List.append_assoc]

end Asts.C02p
