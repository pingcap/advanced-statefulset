import Asts.Proofs.C02_GMeasure

/-! C02, policy-independent: one round on a normal, settled world, given that the reconcile ends `.ok` and its calls satisfy
    `ActFacts`: the next settled world is normal and settled, its pods are the raw next pods up to order and ids, and the
    measure behaves as in `mu_stepG`. -/
namespace Asts.C02p
open Asts Asts.L1c

/-- normal and settled (any policy) -/
structure NSC (h : Hashing) (j : SyncIn) : Prop where
  norm : NormC h j
  ids : IdOk j.pods
  settled : ∀ c ∈ j.pods, c.pod.terminating = false ∧ (c.pod.fs = true ∨ c.pod.runningAndReady = true)
  room : (j.pods.filter (fun c => !(desired (replicasOf j.view) j.view.slots).contains c.pod.ord)).length +
           (replicasOf j.view).toNat ≤ freshId

/-- what `NormC` asks of a pod object does not look at what `key` forgets -/
theorem normPod_key (s : String) {y x : CPod} (hk : key y = key x) :
    (y.owner = .self ∧ y.member = true ∧ y.selMatch = true ∧ y.name = canonicalName s y.pod.ord ∧
      0 ≤ y.pod.ord ∧ y.pod.stOk = true ∧ y.pod.created = true) ↔
    (x.owner = .self ∧ x.member = true ∧ x.selMatch = true ∧ x.name = canonicalName s x.pod.ord ∧
      0 ≤ x.pod.ord ∧ x.pod.stOk = true ∧ x.pod.created = true) :=
  Iff.of_eq (key_transfer (fun c : CPod => c.owner = .self ∧ c.member = true ∧ c.selMatch = true ∧
    c.name = canonicalName s c.pod.ord ∧ 0 ≤ c.pod.ord ∧ c.pod.stOk = true ∧ c.pod.created = true) (fun _ => rfl) hk)

theorem NSC.ctx {h : Hashing} {j : SyncIn} (hs : NSC h j) : PodsCtx j.setName j.pods := by
  refine ⟨?_, hs.norm.ords, hs.ids, hs.norm.small, hs.settled⟩
  intro c hc
  exact hs.norm.pods c hc

/-- the next settled world -/
def nextW (h : Hashing) (j : SyncIn) : SyncIn := settle (applySync j [] (syncF h j []))

theorem settle_round (h : Hashing) (i : SyncIn) : settle (round h i []).1 = nextW h (settle i) := rfl

def bOf (j : SyncIn) : Int := (maxReplicaAndSlots (replicasOf j.view) j.view.slots).1
def EOf (j : SyncIn) : List Int := (maxReplicaAndSlots (replicasOf j.view) j.view.slots).2

theorem bOf_nonneg {h : Hashing} {j : SyncIn} (hn : NormC h j) : 0 ≤ bOf j := (maxReplica_facts _ _ hn.spec.r0).1
theorem EOf_nonneg {h : Hashing} {j : SyncIn} (hn : NormC h j) : ∀ e ∈ EOf j, 0 ≤ e := (maxReplica_facts _ _ hn.spec.r0).2
theorem mem_desired_iff {h : Hashing} {j : SyncIn} (hn : NormC h j) (o : Int) :
    o ∈ desired (replicasOf j.view) j.view.slots ↔ inRange (bOf j) (EOf j) o = true := by
  rw [desired_eq_idxOf]; exact mem_idxOf

/-- what a policy has to provide for one world: the reconcile ends `.ok`, and the pods its calls leave are among those
    that a list of calls satisfying `ActFacts` leaves (the calls themselves, or the calls without a final update-walk delete
    that takes down a pod created in the same reconcile — the legacy boundary mode) -/
structure Pol {h : Hashing} {j : SyncIn} (hn : NormC h j) : Prop where
  ok : hn.recon.2 = .ok
  sub : ∃ A, ActFacts j.view hn.curRev.name hn.updRev.name (bOf j) (EOf j) j.pods A ∧
    (nextRawG j.setName j.pods hn.recon.1.acts).Sublist (nextRawG j.setName j.pods A)

theorem Pol.of_facts {h : Hashing} {j : SyncIn} {hn : NormC h j} (hok : hn.recon.2 = .ok)
    (hf : ActFacts j.view hn.curRev.name hn.updRev.name (bOf j) (EOf j) j.pods hn.recon.1.acts) : Pol hn :=
  ⟨hok, _, hf, List.Sublist.refl _⟩

noncomputable def rawNext {h : Hashing} {j : SyncIn} (hn : NormC h j) : List CPod :=
  nextRawG j.setName j.pods hn.recon.1.acts

/-- the status the sync of a normal world leaves in the API -/
noncomputable def storedNext {h : Hashing} {j : SyncIn} (hn : NormC h j) : Status :=
  if inconsistentStatus j.stored (completeRollingUpdate j.view hn.recon.1.status)
  then completeRollingUpdate j.view hn.recon.1.status else j.stored

section
variable {h : Hashing} {j : SyncIn}

theorem nextW_eq (hs : NSC h j) (hp : Pol hs.norm) :
    nextW h j = settle { j with
      store := j.store.filter hs.norm.keep,
      stored := storedNext hs.norm,
      collisionCount := (if inconsistentStatus j.stored (completeRollingUpdate j.view hs.norm.recon.1.status)
                   then some (j.collisionCount.getD 0) else j.collisionCount),
      view := { j.view with stCurrentReplicas := (storedNext hs.norm).current },
      pods := reindex (sortPods (applyActs j.setName j.pods j.pods hs.norm.recon.1.acts)) } := by
  unfold nextW
  rw [(applySync_normC h j hs.norm hp.ok).1]
  rfl

theorem nextW_pods (hs : NSC h j) (hp : Pol hs.norm) : KeyPerm (nextW h j).pods (rawNext hs.norm) := by
  rw [nextW_eq hs hp]
  exact settle_keyPerm _ _ rfl

theorem nextW_store (hs : NSC h j) (hp : Pol hs.norm) : (nextW h j).store = j.store.filter hs.norm.keep := by
  rw [nextW_eq hs hp]; rfl

/-- `hn.keep` is a test on the name, so it commutes with listing (`listRevisions_filter`); stated with `hn.keep` on both
    sides because unifying `fun r => p r.name` against it by unfolding `listRevisions` is slow -/
theorem listRevisions_keep (hn : NormC h j) :
    listRevisions (j.store.filter hn.keep) = (listRevisions j.store).filter hn.keep :=
  listRevisions_filter (fun n => !(hn.victims.map Rev.name).contains n) j.store

theorem listedRevs_keep (hn : NormC h j) :
    listedRevs { j with store := j.store.filter hn.keep } = (listedRevs j).filter hn.keep :=
  listedRevs_filter (fun n => !(hn.victims.map Rev.name).contains n) j

theorem noOrphanRev_keep (hn : NormC h j) : (listRevisions (j.store.filter hn.keep)).any (·.owner == .none) = false := by
  have h0 := hn.noOrphanRev
  rw [listRevisions_keep]
  rw [Bool.eq_false_iff, ne_eq, List.any_eq_true] at h0 ⊢
  rintro ⟨x, hx, hxo⟩
  exact h0 ⟨x, List.mem_of_mem_filter hx, hxo⟩

theorem victims_sub_hist {lim : Int} {podRevs : List String} {revs : List Rev} {cur upd : Rev} {r : Rev}
    (hr : r ∈ victimsOf lim podRevs revs cur upd) : r ∈ histOf podRevs revs cur upd := by
  unfold victimsOf at hr
  split_ifs at hr
  · cases hr
  · exact List.mem_of_mem_take hr

/-- a revision whose name is in use is never a victim of the truncation -/
theorem keep_of_live (hn : NormC h j) {x : Rev}
    (hx : x.name ∈ hn.curRev.name :: hn.updRev.name :: j.pods.map (·.pod.rev)) : hn.keep x = true := by
  unfold NormC.keep
  rw [Bool.not_eq_true', Bool.eq_false_iff, ne_eq, List.contains_iff_mem, List.mem_map]
  rintro ⟨r, hr, hrn⟩
  have := (List.mem_filter.1 (victims_sub_hist hr)).2
  simp only [Bool.and_eq_true, Bool.not_eq_true'] at this
  have hnot : (hn.curRev.name :: hn.updRev.name :: j.pods.map (·.pod.rev)).contains r.name = false := this.1
  rw [Bool.eq_false_iff, ne_eq, List.contains_iff_mem, hrn] at hnot
  exact hnot hx

theorem keep_updRev (hn : NormC h j) : hn.keep hn.updRev = true :=
  keep_of_live hn (List.mem_cons_of_mem _ List.mem_cons_self)

theorem nextW_listed (hs : NSC h j) (hp : Pol hs.norm) :
    listedRevs (nextW h j) = (listedRevs j).filter hs.norm.keep := by
  unfold listedRevs
  rw [nextW_store hs hp]
  exact listedRevs_keep hs.norm

theorem last_keep (hn : NormC h j) : ((listedRevs j).filter hn.keep).getLast? = some hn.updRev :=
  getLast?_filter_of_last hn.updRev_spec.1 (keep_updRev hn)

theorem nextW_last (hs : NSC h j) (hp : Pol hs.norm) : (listedRevs (nextW h j)).getLast? = some hs.norm.updRev := by
  rw [nextW_listed hs hp]
  exact last_keep hs.norm

theorem equalRev_number (l : Rev) (f : Rev) (n : Int) : equalRev l { f with number := n } = equalRev l f := rfl

/-- `equalRev` compares data and hash only: of the world, the fresh revision's template and collision count matter, not its
    number (which is where the listing enters) -/
theorem equalRev_freshRev {i i' : SyncIn} (ht : i'.template = i.template)
    (hc : i'.collisionCount.getD 0 = i.collisionCount.getD 0) (l : Rev) (revs revs' : List Rev) :
    equalRev l (freshRev h i' revs') = equalRev l (freshRev h i revs) := by
  unfold freshRev equalRev
  rw [ht, hc]
theorem nextW_stored (hs : NSC h j) (hp : Pol hs.norm) : (nextW h j).stored = storedNext hs.norm := by rw [nextW_eq hs hp]; rfl
theorem nextW_template (hs : NSC h j) (hp : Pol hs.norm) : (nextW h j).template = j.template := by rw [nextW_eq hs hp]; rfl
theorem nextW_limit (hs : NSC h j) (hp : Pol hs.norm) : (nextW h j).historyLimit = j.historyLimit := by rw [nextW_eq hs hp]; rfl
theorem nextW_setName (hs : NSC h j) (hp : Pol hs.norm) : (nextW h j).setName = j.setName := by rw [nextW_eq hs hp]; rfl
theorem nextW_view (hs : NSC h j) (hp : Pol hs.norm) :
    (nextW h j).view = { j.view with stCurrentReplicas := (storedNext hs.norm).current } := by rw [nextW_eq hs hp]; rfl
theorem nextW_cc (hs : NSC h j) (hp : Pol hs.norm) : (nextW h j).collisionCount.getD 0 = j.collisionCount.getD 0 := by
  rw [nextW_eq hs hp]
  show (if _ then some (j.collisionCount.getD 0) else j.collisionCount).getD 0 = _
  split_ifs <;> rfl

/-- what is known of a pod of the raw next list, in the shape `NormC` wants it -/
theorem rawNext_pod (hs : NSC h j) (hp : Pol hs.norm) {y : CPod} (hy : y ∈ rawNext hs.norm) :
    y.owner = .self ∧ y.member = true ∧ y.selMatch = true ∧ y.name = canonicalName j.setName y.pod.ord ∧
    0 ≤ y.pod.ord ∧ y.pod.stOk = true ∧ y.pod.created = true ∧
    (inRange (bOf j) (EOf j) y.pod.ord = true ∨ ∃ c ∈ j.pods, c.pod.ord = y.pod.ord) ∧
    (y.pod.fs = true → ∃ c ∈ j.pods, c.pod.ord = y.pod.ord ∧ c.pod.fs = true) := by
  have hn := hs.norm
  obtain ⟨A, hA, hsub⟩ := hp.sub
  have hy' : y ∈ nextRawG j.setName j.pods A := hsub.subset hy
  rcases nextRawG_mem hs.ctx hA hy' with ⟨c, hcm, _, hsame, hown, _, _⟩ | ⟨o, rev, hcr, rfl⟩
  · obtain ⟨a1, a2, a3, a4, a5, a7, a8⟩ := hn.pods c hcm
    refine ⟨hown, by rw [hsame.mem]; exact a2, by rw [hsame.sel]; exact a3, by rw [hsame.name, hsame.ord]; exact a4,
      by rw [hsame.ord]; exact a5, by rw [hsame.stOk]; exact a7, ?_,
      Or.inr ⟨c, hcm, hsame.ord.symm⟩, ?_⟩
    · unfold Pod.created at a8 ⊢; rw [hsame.phase]; exact a8
    · intro hfs
      exact ⟨c, hcm, hsame.ord.symm, hsame.fs.symm.trans hfs⟩
  · rw [settleOne_mkPod]
    have hr0 := (hA.cre o rev hcr).1
    have hr := hr0
    unfold inRange at hr
    simp only [Bool.and_eq_true, decide_eq_true_eq] at hr
    refine ⟨rfl, rfl, rfl, rfl, hr.1.1, rfl, by simp [Pod.created], Or.inl hr0, ?_⟩
    intro hfs
    simp [Pod.fs, Pod.failed, Pod.succeeded] at hfs

theorem length_le_of_nodup_ords {l : List CPod} {D : List Int} (hnd : (l.map (·.pod.ord)).Nodup)
    (hsub : ∀ x ∈ l, x.pod.ord ∈ D) : l.length ≤ D.length := by
  have : (l.map (·.pod.ord)).Subperm D := List.subperm_of_subset hnd (by
    intro o ho
    rw [List.mem_map] at ho
    obtain ⟨x, hx, rfl⟩ := ho
    exact hsub x hx)
  simpa using this.length_le

theorem length_split_le {l : List CPod} {D : List Int} (hnd : (l.map (·.pod.ord)).Nodup) :
    l.length ≤ D.length + (l.filter (fun c => !D.contains c.pod.ord)).length := by
  have h1 : l.length = (l.filter (fun c => D.contains c.pod.ord)).length + (l.filter (fun c => !D.contains c.pod.ord)).length := by
    have := List.length_eq_length_filter_add (l := l) (fun c => D.contains c.pod.ord)
    simpa using this
  have h2 : (l.filter (fun c => D.contains c.pod.ord)).length ≤ D.length :=
    length_le_of_nodup_ords ((List.Sublist.map _ List.filter_sublist).nodup hnd)
      (fun x hx => by simpa using (List.mem_filter.1 hx).2)
  omega

theorem rawNext_nodup (hs : NSC h j) (hp : Pol hs.norm) : ((rawNext hs.norm).map (·.pod.ord)).Nodup := by
  obtain ⟨A, hA, hsub⟩ := hp.sub
  exact (hsub.map _).nodup (nextRawG_ords_nodup hs.ctx hA)

/-- the measure of the next settled world, read off the raw next pods (`muOf` does not see order and ids: `muOf_keyPerm`) -/
theorem muPods_next (hs : NSC h j) (hp : Pol hs.norm) :
    muPods (nextW h j) = muOf j.view hs.norm.updRev.name (desired (replicasOf j.view) j.view.slots) (rawNext hs.norm) := by
  have hn := hs.norm
  have hview := nextW_view hs hp
  have hD : desired (replicasOf (nextW h j).view) (nextW h j).view.slots = desired (replicasOf j.view) j.view.slots := by
    rw [hview]; rfl
  have hupd : updName (nextW h j) = hn.updRev.name := by
    unfold updName
    rw [nextW_last hs hp]; rfl
  rw [muPods_eq, hD, hupd, muOf_keyPerm (nextW_pods hs hp) (rawNext_nodup hs hp), hview]
  rfl

/-- **the measure, one round**: never up; down whenever an `Event` happens -/
theorem mu_stepC (hs : NSC h j) (hp : Pol hs.norm) (hpart : PartOk j.view)
    (hf : ActFacts j.view hs.norm.curRev.name hs.norm.updRev.name (bOf j) (EOf j) j.pods hs.norm.recon.1.acts) :
    muPods (nextW h j) ≤ muPods j ∧
    (Event (bOf j) (EOf j) j.pods hs.norm.recon.1.acts → muPods (nextW h j) < muPods j) := by
  have hn := hs.norm
  rw [muPods_next hs hp, muPods_eq j, hn.updName]
  exact mu_stepG hs.ctx hf hpart _ (mem_desired_iff hn)

/-- **a round keeps a normal, settled world normal and settled** -/
theorem nextW_ns (hs : NSC h j) (hp : Pol hs.norm) : NSC h (nextW h j) := by
  have hn := hs.norm
  have hkp := nextW_pods hs hp
  have hraw_nd := rawNext_nodup hs hp
  have hpods : ∀ x ∈ (nextW h j).pods, ∃ y ∈ rawNext hn, key y = key x := fun x hx => hkp.mem hx
  have hview := nextW_view hs hp
  have hrep : replicasOf (nextW h j).view = replicasOf j.view := by rw [hview]; rfl
  have hslots : (nextW h j).view.slots = j.view.slots := by rw [hview]
  have hnd' : ((nextW h j).pods.map (·.pod.ord)).Nodup := (hkp.ords.nodup_iff).2 hraw_nd
  have hroom : ((nextW h j).pods.filter (fun c => !(desired (replicasOf j.view) j.view.slots).contains c.pod.ord)).length ≤
      (j.pods.filter (fun c => !(desired (replicasOf j.view) j.view.slots).contains c.pod.ord)).length := by
    rw [(hkp.filter (fun c => !(desired (replicasOf j.view) j.view.slots).contains c.pod.ord) (fun _ => rfl)).length]
    obtain ⟨A, hA, hsub⟩ := hp.sub
    exact le_trans (hsub.filter _).length_le (step_condemnedG hs.ctx hA _ (mem_desired_iff hn)).1
  have hsmall : (nextW h j).pods.length ≤ freshId := by
    have h1 := length_split_le (D := desired (replicasOf j.view) j.view.slots) hnd'
    rw [(desired_isDesired _ _).len] at h1
    have := hs.room
    omega
  refine ⟨⟨?_, ?_, ?_, ?_, ?_, hsmall, ?_, ?_⟩, idOk_of_idPos (settle_idPos _) hsmall, settle_settled _, ?_⟩
  · rw [nextW_eq hs hp]
    exact hn.spec.of_eq rfl rfl rfl rfl rfl rfl
  · intro x hx
    obtain ⟨y, hy, hk⟩ := hpods x hx
    obtain ⟨a1, a2, a3, a4, a5, a7, a8, -⟩ := rawNext_pod hs hp hy
    rw [nextW_setName hs hp]
    exact (normPod_key j.setName hk).1 ⟨a1, a2, a3, a4, a5, a7, a8⟩
  · exact hnd'
  · refine ⟨hn.updRev, nextW_last hs hp, ?_⟩
    rw [equalRev_freshRev (nextW_template hs hp) (nextW_cc hs hp) hn.updRev (listedRevs j)]
    exact hn.updRev_spec.2
  · rw [nextW_store hs hp]
    exact noOrphanRev_keep hn
  · rw [hrep]; exact hn.smallR
  · rfl
  · rw [hrep, hslots]
    have := hs.room
    omega

end

end Asts.C02p
