import Asts.Proofs.SY_b_Revs
import Asts.Proofs.Sync_Claim

/-! `renumberF`, `createRevLoopF`, `getRevisionsF` (`getStatefulSetRevisions`): structured twins of their call logs and
    the structural facts behind C08 (store half). -/
namespace Asts.SYb
open Asts

/-- the API calls `getStatefulSetRevisions` can make on ControllerRevisions -/
inductive RevCall
  | create (n : String)
  | update (n : String)
  | get (n : String)
  deriving DecidableEq, Repr

/-- rendering as a log entry -/
def RevCall.key : RevCall → String
  | .create n => s!"create:rev:{n}"
  | .update n => s!"update:rev:{n}"
  | .get n => s!"get:rev:{n}"

def RevCall.isCreate : RevCall → Bool | .create _ => true | _ => false
def RevCall.isUpdate : RevCall → Bool | .update _ => true | _ => false

theorem call_err (t : Tr) (plan : List Fault) (k : String) :
    (t.call plan k).2 = (plan.find? (fun f => f.key == k && f.occ == (t.log.filter (· == k)).length)).map (·.kind) := rfl

/-- what a successful `updateControllerRevision` does to the store -/
def setNumber (name : String) (n : Int) (r : Rev) : Rev := if r.name == name then { r with number := n } else r

theorem renumberF_zero (plan : List Fault) (name : String) (n : Int) (s : RevSt) :
    renumberF plan name n 0 s = (s, false) := rfl

theorem renumberF_succ (plan : List Fault) (name : String) (n : Int) (fuel : Nat) (s : RevSt) :
    renumberF plan name n (fuel + 1) s =
      match (s.tr.call plan (RevCall.update name).key).2 with
      | none => ({ store := s.store.map (setNumber name n), tr := (s.tr.call plan (RevCall.update name).key).1 }, true)
      | some k =>
        if k == .conflict && fuel != 0 then
          renumberF plan name n fuel
            { store := s.store, tr := ((s.tr.call plan (RevCall.update name).key).1.call plan (RevCall.get name).key).1 }
        else ({ store := s.store, tr := ((s.tr.call plan (RevCall.update name).key).1.call plan (RevCall.get name).key).1 }, false) := by
  rw [renumberF]
  rfl

/-- structured twin: the calls of `renumberF` -/
def renumberCalls (plan : List Fault) (name : String) : Nat → Tr → List RevCall
  | 0, _ => []
  | fuel + 1, t =>
    match (t.call plan (RevCall.update name).key).2 with
    | none => [.update name]
    | some k =>
      if k == .conflict && fuel != 0 then
        .update name :: .get name ::
          renumberCalls plan name fuel ((t.call plan (RevCall.update name).key).1.call plan (RevCall.get name).key).1
      else [.update name, .get name]

theorem renumberF_spec (plan : List Fault) (name : String) (n : Int) (fuel : Nat) (s : RevSt) :
    (renumberF plan name n fuel s).1.tr.log = s.tr.log ++ (renumberCalls plan name fuel s.tr).map RevCall.key ∧
    (renumberF plan name n fuel s).1.store =
      (if (renumberF plan name n fuel s).2 then s.store.map (setNumber name n) else s.store) ∧
    (∀ c ∈ renumberCalls plan name fuel s.tr, c = .update name ∨ c = .get name) := by
  induction fuel generalizing s with
  | zero => exact ⟨(List.append_nil _).symm, rfl, fun _ hc => by cases hc⟩
  | succ fuel ih =>
    rw [renumberF_succ]
    simp only [renumberCalls]
    cases he : (s.tr.call plan (RevCall.update name).key).2 with
    | none => simp
    | some k =>
      simp only
      by_cases hc : (k == .conflict && fuel != 0) = true
      · simp only [hc, ↓reduceIte]
        obtain ⟨h1, h2, h3⟩ := ih { store := s.store, tr := ((s.tr.call plan (RevCall.update name).key).1.call plan (RevCall.get name).key).1 }
        refine ⟨?_, h2, ?_⟩
        · rw [h1]; simp
        · intro c hc'
          simp only [List.mem_cons] at hc'
          rcases hc' with rfl | rfl | hc'
          · exact Or.inl rfl
          · exact Or.inr rfl
          · exact h3 c hc'
      · simp only [hc]
        simp

/-- the revision `createControllerRevision` tries to create at collision count `cc` -/
def candidate (h : Hashing) (fresh : Rev) (cc : Int) : Rev :=
  { fresh with name := h.nameOf fresh.data cc, hashNum := h.hashNumOf fresh.data cc }

/-- state after the Create call and after the Create + Get calls for the name probed at `cc` -/
def afterCreate (h : Hashing) (plan : List Fault) (fresh : Rev) (cc : Int) (s : RevSt) : RevSt :=
  { store := s.store, tr := (s.tr.call plan (RevCall.create (h.nameOf fresh.data cc)).key).1 }
def afterGet (h : Hashing) (plan : List Fault) (fresh : Rev) (cc : Int) (s : RevSt) : RevSt :=
  { store := s.store, tr := ((afterCreate h plan fresh cc s).tr.call plan (RevCall.get (h.nameOf fresh.data cc)).key).1 }

/-- outcome of the Create call at `cc`: injected fault first, else AlreadyExists iff the name is taken -/
def createKind (h : Hashing) (plan : List Fault) (fresh : Rev) (cc : Int) (s : RevSt) : Option ErrKind :=
  match (s.tr.call plan (RevCall.create (h.nameOf fresh.data cc)).key).2 with
  | some k => some k
  | none => if (s.store.find? (·.name == h.nameOf fresh.data cc)).isSome then some .alreadyExists else none

theorem createRevLoopF_zero (h : Hashing) (plan : List Fault) (fresh : Rev) (cc : Int) (s : RevSt) :
    createRevLoopF h plan fresh 0 cc s = (s, none) := rfl

theorem createRevLoopF_succ (h : Hashing) (plan : List Fault) (fresh : Rev) (fuel : Nat) (cc : Int) (s : RevSt) :
    createRevLoopF h plan fresh (fuel + 1) cc s =
      match createKind h plan fresh cc s with
      | none => ({ store := insertByName (candidate h fresh cc) s.store, tr := (afterCreate h plan fresh cc s).tr },
                 some (candidate h fresh cc, cc))
      | some .alreadyExists =>
        match ((afterCreate h plan fresh cc s).tr.call plan (RevCall.get (h.nameOf fresh.data cc)).key).2,
              s.store.find? (·.name == h.nameOf fresh.data cc) with
        | none, some ex =>
          if ex.data == fresh.data then (afterGet h plan fresh cc s, some (ex, cc))
          else createRevLoopF h plan fresh fuel (cc + 1) (afterGet h plan fresh cc s)
        | _, _ => (afterGet h plan fresh cc s, none)
      | some _ => (afterCreate h plan fresh cc s, none) := by
  rw [createRevLoopF]
  rfl

/-- structured twin: the calls of `createRevLoopF` -/
def createCalls (h : Hashing) (plan : List Fault) (fresh : Rev) : Nat → Int → RevSt → List RevCall
  | 0, _, _ => []
  | fuel + 1, cc, s =>
    match createKind h plan fresh cc s with
    | none => [.create (h.nameOf fresh.data cc)]
    | some .alreadyExists =>
      match ((afterCreate h plan fresh cc s).tr.call plan (RevCall.get (h.nameOf fresh.data cc)).key).2,
            s.store.find? (·.name == h.nameOf fresh.data cc) with
      | none, some ex =>
        if ex.data == fresh.data then [.create (h.nameOf fresh.data cc), .get (h.nameOf fresh.data cc)]
        else .create (h.nameOf fresh.data cc) :: .get (h.nameOf fresh.data cc) ::
               createCalls h plan fresh fuel (cc + 1) (afterGet h plan fresh cc s)
      | _, _ => [.create (h.nameOf fresh.data cc), .get (h.nameOf fresh.data cc)]
    | some _ => [.create (h.nameOf fresh.data cc)]

theorem afterCreate_log (h : Hashing) (plan : List Fault) (fresh : Rev) (cc : Int) (s : RevSt) :
    (afterCreate h plan fresh cc s).tr.log = s.tr.log ++ [(RevCall.create (h.nameOf fresh.data cc)).key] := rfl
theorem afterGet_log (h : Hashing) (plan : List Fault) (fresh : Rev) (cc : Int) (s : RevSt) :
    (afterGet h plan fresh cc s).tr.log =
      s.tr.log ++ [(RevCall.create (h.nameOf fresh.data cc)).key, (RevCall.get (h.nameOf fresh.data cc)).key] := by
  simp [afterGet, afterCreate]

/-- The loop, structurally. The store changes at most by the insertion of one new revision under a name that was
    absent; a returned revision is stored, records `fresh.data`, and is named `h.nameOf fresh.data cc'` for the returned
    collision count `cc' ≥ cc`; the calls are Creates and Gets of probed names only. -/
theorem createRevLoopF_spec (h : Hashing) (plan : List Fault) (fresh : Rev) (fuel : Nat) (cc : Int) (s : RevSt) :
    let res := createRevLoopF h plan fresh fuel cc s
    res.1.tr.log = s.tr.log ++ (createCalls h plan fresh fuel cc s).map RevCall.key ∧
    (res.1.store = s.store ∨
      ∃ cc', cc ≤ cc' ∧ res.2 = some (candidate h fresh cc', cc') ∧ (∀ x ∈ s.store, x.name ≠ h.nameOf fresh.data cc') ∧
             res.1.store = insertByName (candidate h fresh cc') s.store) ∧
    (∀ r cc', res.2 = some (r, cc') →
        r ∈ res.1.store ∧ r.data = fresh.data ∧ r.name = h.nameOf fresh.data cc' ∧ cc ≤ cc' ∧
        (r ∈ s.store ∨ r = candidate h fresh cc')) ∧
    (∀ c ∈ createCalls h plan fresh fuel cc s, ∃ j, cc ≤ j ∧ (c = .create (h.nameOf fresh.data j) ∨ c = .get (h.nameOf fresh.data j))) := by
  induction fuel generalizing cc s with
  | zero =>
    intro res
    refine ⟨(List.append_nil _).symm, Or.inl rfl, ?_, ?_⟩
    · intro r cc' he; cases he
    · intro c hc; cases hc
  | succ fuel ih =>
    intro res
    have hres : res = createRevLoopF h plan fresh (fuel + 1) cc s := rfl
    rw [createRevLoopF_succ] at hres
    simp only [createCalls]
    have hcg : ∀ c ∈ [RevCall.create (h.nameOf fresh.data cc), RevCall.get (h.nameOf fresh.data cc)],
        ∃ j, cc ≤ j ∧ (c = .create (h.nameOf fresh.data j) ∨ c = .get (h.nameOf fresh.data j)) := by
      intro c hc
      rcases List.mem_pair.mp hc with rfl | rfl
      · exact ⟨cc, le_refl _, Or.inl rfl⟩
      · exact ⟨cc, le_refl _, Or.inr rfl⟩
    cases hk : createKind h plan fresh cc s with
    | none =>
      rw [hk] at hres
      simp only at hres
      have habs : ∀ x ∈ s.store, x.name ≠ h.nameOf fresh.data cc := by
        intro x hx hxe
        unfold createKind at hk
        split at hk
        · simp at hk
        · split at hk
          · simp at hk
          · rename_i hnone
            simp only [Option.isSome_iff_ne_none, ne_eq, not_not] at hnone
            rw [List.find?_eq_none] at hnone
            exact hnone x hx (by simpa using hxe)
      rw [hres]
      refine ⟨by simp [afterCreate], Or.inr ⟨cc, le_refl _, rfl, habs, rfl⟩, ?_, ?_⟩
      · intro r cc' he
        simp only [Option.some.injEq, Prod.mk.injEq] at he
        obtain ⟨rfl, rfl⟩ := he
        exact ⟨mem_insertByName.mpr (Or.inl rfl), rfl, rfl, le_refl _, Or.inr rfl⟩
      · intro c hc
        simp only [List.mem_singleton] at hc
        exact ⟨cc, le_refl _, Or.inl hc⟩
    | some k =>
      rw [hk] at hres
      by_cases hae : k = .alreadyExists
      · subst hae
        simp only at hres ⊢
        cases hg : ((afterCreate h plan fresh cc s).tr.call plan (RevCall.get (h.nameOf fresh.data cc)).key).2 with
        | some e =>
          rw [hg] at hres
          simp only at hres
          rw [hres]
          exact ⟨by rw [afterGet_log]; rfl, Or.inl rfl, by simp, hcg⟩
        | none =>
          rw [hg] at hres
          cases hf : s.store.find? (·.name == h.nameOf fresh.data cc) with
          | none =>
            rw [hf] at hres
            simp only at hres
            rw [hres]
            exact ⟨by rw [afterGet_log]; rfl, Or.inl rfl, by simp, hcg⟩
          | some ex =>
            rw [hf] at hres
            simp only at hres ⊢
            have hexm : ex ∈ s.store := List.mem_of_find?_eq_some hf
            have hexn : ex.name = h.nameOf fresh.data cc := by
              have := List.find?_some hf; simpa using this
            by_cases hd : (ex.data == fresh.data) = true
            · rw [if_pos hd] at hres
              rw [if_pos hd, hres]
              refine ⟨by rw [afterGet_log]; rfl, Or.inl rfl, ?_, hcg⟩
              intro r cc' he
              simp only [Option.some.injEq, Prod.mk.injEq] at he
              obtain ⟨rfl, rfl⟩ := he
              exact ⟨hexm, eq_of_beq hd, hexn, le_refl _, Or.inl hexm⟩
            · rw [if_neg hd] at hres
              rw [if_neg hd, hres]
              obtain ⟨h1, h2, h3, h4⟩ := ih (cc + 1) (afterGet h plan fresh cc s)
              refine ⟨?_, ?_, ?_, ?_⟩
              · rw [h1, afterGet_log]; simp
              · rcases h2 with h2 | ⟨cc', hc1, hc2, hc3, hc4⟩
                · exact Or.inl h2
                · exact Or.inr ⟨cc', by omega, hc2, hc3, hc4⟩
              · intro r cc' he
                obtain ⟨a, b, c, d, e⟩ := h3 r cc' he
                exact ⟨a, b, c, by omega, e⟩
              · intro c hc
                rcases List.mem_cons.mp hc with rfl | hc
                · exact hcg _ List.mem_cons_self
                · rcases List.mem_cons.mp hc with rfl | hc
                  · exact hcg _ (List.mem_cons_of_mem _ List.mem_cons_self)
                  · obtain ⟨j, hj, hj'⟩ := h4 c hc
                    exact ⟨j, by omega, hj'⟩
      · cases k <;> first
          | exact absurd rfl hae
          | (rw [hres]
             exact ⟨by rw [afterCreate_log]; rfl, Or.inl rfl, by simp,
               fun c hc => ⟨cc, le_refl _, Or.inl (List.mem_singleton.mp hc)⟩⟩)

/-- the revision `getStatefulSetRevisions` builds from the set's current template (`newRevision`) -/
def freshOf (h : Hashing) (template : String) (cc0 : Int) (revs : List Rev) : Rev :=
  { name := h.nameOf template cc0, number := nextRevision revs, ctime := 0, data := template,
    hashNum := h.hashNumOf template cc0, owner := .self, selMatch := true, marker := false }

/-- the listed revisions equal to the fresh one (`FindEqualRevisions`) -/
def equalsOf (h : Hashing) (template : String) (cc0 : Int) (revs : List Rev) : List Rev :=
  revs.filter (fun r => equalRev r (freshOf h template cc0 revs))

/-- resolution of the update revision: reuse the newest, reuse an older one (renumbered), or create -/
def pickF (h : Hashing) (plan : List Fault) (template : String) (cc0 : Int) (revs : List Rev) (s : RevSt) :
    RevSt × Option (Rev × Int) :=
  match (equalsOf h template cc0 revs).getLast?, revs.getLast? with
  | some e, some l =>
    if equalRev l e then (s, some (l, cc0))
    else if e.number == (freshOf h template cc0 revs).number then (s, some (e, cc0))
    else
      ((renumberF plan e.name (freshOf h template cc0 revs).number 4 s).1,
       if (renumberF plan e.name (freshOf h template cc0 revs).number 4 s).2
       then some ({ e with number := (freshOf h template cc0 revs).number }, cc0) else none)
  | _, _ => createRevLoopF h plan (freshOf h template cc0 revs) (s.store.length + 8) cc0 s

def postPick (cur : String) (revs : List Rev) (pick : RevSt × Option (Rev × Int)) : RevSt × Option (Rev × Rev × Int) :=
  match pick with
  | (s, none) => (s, none)
  | (s, some (upd, cc)) => (s, some ((revs.find? (·.name == cur)).getD upd, upd, cc))

theorem postPick_eq (cur : String) (revs : List Rev) (pick : RevSt × Option (Rev × Int)) :
    postPick cur revs pick = (pick.1, pick.2.map (fun p => ((revs.find? (·.name == cur)).getD p.1, p.1, p.2))) := by
  obtain ⟨s, o⟩ := pick
  cases o with
  | none => rfl
  | some p => obtain ⟨u, c⟩ := p; rfl

theorem getRevisionsF_eq (h : Hashing) (plan : List Fault) (template cur : String) (cc0 : Int) (revs : List Rev) (s : RevSt) :
    getRevisionsF h plan template cur cc0 revs s =
      ((pickF h plan template cc0 revs s).1,
       (pickF h plan template cc0 revs s).2.map
         (fun p => ((revs.find? (·.name == cur)).getD p.1, p.1, p.2))) := by
  rw [← postPick_eq]
  rfl

/-- structured twin: the calls of `getRevisionsF` -/
def pickCalls (h : Hashing) (plan : List Fault) (template : String) (cc0 : Int) (revs : List Rev) (s : RevSt) : List RevCall :=
  match (equalsOf h template cc0 revs).getLast?, revs.getLast? with
  | some e, some l =>
    if equalRev l e then []
    else if e.number == (freshOf h template cc0 revs).number then []
    else renumberCalls plan e.name 4 s.tr
  | _, _ => createCalls h plan (freshOf h template cc0 revs) (s.store.length + 8) cc0 s

theorem mem_equalsOf {h : Hashing} {template : String} {cc0 : Int} {revs : List Rev} {e : Rev}
    (he : e ∈ equalsOf h template cc0 revs) : e ∈ revs ∧ equalRev e (freshOf h template cc0 revs) = true ∧ e.data = template := by
  unfold equalsOf at he
  rw [List.mem_filter] at he
  exact ⟨he.1, he.2, equalRev_data he.2⟩

theorem setNumber_self (e : Rev) (n : Int) : setNumber e.name n e = { e with number := n } := by
  simp [setNumber]

theorem setNumber_name (name : String) (n : Int) (r : Rev) : (setNumber name n r).name = r.name := by
  unfold setNumber; split <;> rfl

theorem setNumber_data (name : String) (n : Int) (r : Rev) : (setNumber name n r).data = r.data := by
  unfold setNumber; split <;> rfl

theorem setNumber_owner (name : String) (n : Int) (r : Rev) : (setNumber name n r).owner = r.owner := by
  unfold setNumber; split <;> rfl

theorem equalsOf_getLast?_some_revs {h : Hashing} {template : String} {cc0 : Int} {revs : List Rev} {e : Rev}
    (he : (equalsOf h template cc0 revs).getLast? = some e) : ∃ l, revs.getLast? = some l := by
  have := (mem_equalsOf (List.mem_of_getLast? he)).1
  cases hr : revs.getLast? with
  | none => rw [List.getLast?_eq_none_iff] at hr; subst hr; simp at this
  | some l => exact ⟨l, rfl⟩

theorem pickF_of_some {h : Hashing} {plan : List Fault} {template : String} {cc0 : Int} {revs : List Rev} {s : RevSt}
    {e l : Rev} (he : (equalsOf h template cc0 revs).getLast? = some e) (hl : revs.getLast? = some l) :
    pickF h plan template cc0 revs s =
      if equalRev l e then (s, some (l, cc0))
      else if e.number == (freshOf h template cc0 revs).number then (s, some (e, cc0))
      else
        ((renumberF plan e.name (freshOf h template cc0 revs).number 4 s).1,
         if (renumberF plan e.name (freshOf h template cc0 revs).number 4 s).2
         then some ({ e with number := (freshOf h template cc0 revs).number }, cc0) else none) := by
  unfold pickF; rw [he, hl]

theorem pickCalls_of_some {h : Hashing} {plan : List Fault} {template : String} {cc0 : Int} {revs : List Rev} {s : RevSt}
    {e l : Rev} (he : (equalsOf h template cc0 revs).getLast? = some e) (hl : revs.getLast? = some l) :
    pickCalls h plan template cc0 revs s =
      if equalRev l e then []
      else if e.number == (freshOf h template cc0 revs).number then []
      else renumberCalls plan e.name 4 s.tr := by
  unfold pickCalls; rw [he, hl]

theorem pickF_of_none {h : Hashing} {plan : List Fault} {template : String} {cc0 : Int} {revs : List Rev} {s : RevSt}
    (he : equalsOf h template cc0 revs = []) :
    pickF h plan template cc0 revs s = createRevLoopF h plan (freshOf h template cc0 revs) (s.store.length + 8) cc0 s ∧
    pickCalls h plan template cc0 revs s = createCalls h plan (freshOf h template cc0 revs) (s.store.length + 8) cc0 s := by
  unfold pickF pickCalls; rw [he]; exact ⟨rfl, rfl⟩

/-- The ways `pickF` resolves the update revision. Nothing listed equals the fresh revision: the create loop runs. Else,
    `e` being the last equal revision and `l` the newest listed one: `l` as it is; `e` as it is; or `e` renumbered. -/
theorem pickF_cases (h : Hashing) (plan : List Fault) (template : String) (cc0 : Int) (revs : List Rev) (s : RevSt) :
    (equalsOf h template cc0 revs = [] ∧
      pickF h plan template cc0 revs s = createRevLoopF h plan (freshOf h template cc0 revs) (s.store.length + 8) cc0 s ∧
      pickCalls h plan template cc0 revs s = createCalls h plan (freshOf h template cc0 revs) (s.store.length + 8) cc0 s) ∨
    ∃ e l, (equalsOf h template cc0 revs).getLast? = some e ∧ revs.getLast? = some l ∧
      ((equalRev l e = true ∧ pickF h plan template cc0 revs s = (s, some (l, cc0)) ∧
          pickCalls h plan template cc0 revs s = []) ∨
       (equalRev l e = false ∧ e.number = (freshOf h template cc0 revs).number ∧
          pickF h plan template cc0 revs s = (s, some (e, cc0)) ∧ pickCalls h plan template cc0 revs s = []) ∨
       (equalRev l e = false ∧ e.number ≠ (freshOf h template cc0 revs).number ∧
          pickF h plan template cc0 revs s =
            ((renumberF plan e.name (freshOf h template cc0 revs).number 4 s).1,
             if (renumberF plan e.name (freshOf h template cc0 revs).number 4 s).2
             then some ({ e with number := (freshOf h template cc0 revs).number }, cc0) else none) ∧
          pickCalls h plan template cc0 revs s = renumberCalls plan e.name 4 s.tr)) := by
  cases he : (equalsOf h template cc0 revs).getLast? with
  | none =>
    have hnil := List.getLast?_eq_none_iff.mp he
    exact Or.inl ⟨hnil, pickF_of_none hnil⟩
  | some e =>
    obtain ⟨l, hl⟩ := equalsOf_getLast?_some_revs he
    refine Or.inr ⟨e, l, rfl, hl, ?_⟩
    rw [pickF_of_some he hl, pickCalls_of_some he hl]
    cases heq : equalRev l e
    · by_cases hnum : (e.number == (freshOf h template cc0 revs).number) = true
      · exact Or.inr (Or.inl ⟨rfl, eq_of_beq hnum, by rw [if_neg (by simp), if_pos hnum], by rw [if_neg (by simp), if_pos hnum]⟩)
      · exact Or.inr (Or.inr ⟨rfl, fun hn => hnum (hn ▸ beq_self_eq_true _),
          by rw [if_neg (by simp), if_neg hnum], by rw [if_neg (by simp), if_neg hnum]⟩)
    · exact Or.inl ⟨rfl, by rw [if_pos rfl], by rw [if_pos rfl]⟩

theorem pickF_log (h : Hashing) (plan : List Fault) (template : String) (cc0 : Int) (revs : List Rev) (s : RevSt) :
    (pickF h plan template cc0 revs s).1.tr.log = s.tr.log ++ (pickCalls h plan template cc0 revs s).map RevCall.key := by
  rcases pickF_cases h plan template cc0 revs s with
    ⟨_, hp, hc⟩ | ⟨e, l, _, _, ⟨_, hp, hc⟩ | ⟨_, _, hp, hc⟩ | ⟨_, _, hp, hc⟩⟩ <;> rw [hp, hc]
  · exact (createRevLoopF_spec h plan _ _ cc0 s).1
  · simp
  · simp
  · exact (renumberF_spec plan _ _ 4 s).1

/-- **update revision mirrors the template**: whatever `pickF` returns records the template and is stored afterwards
    (given that every listed revision is stored, as it is for `revs = sortRevs (listRevisions s.store)`) -/
theorem pickF_sound (h : Hashing) (plan : List Fault) (template : String) (cc0 : Int) (revs : List Rev) (s : RevSt)
    (hsub : ∀ r ∈ revs, r ∈ s.store) {upd : Rev} {cc : Int}
    (hres : (pickF h plan template cc0 revs s).2 = some (upd, cc)) :
    upd.data = template ∧ upd ∈ (pickF h plan template cc0 revs s).1.store ∧ cc0 ≤ cc := by
  rcases pickF_cases h plan template cc0 revs s with
    ⟨_, hp, _⟩ | ⟨e, l, he, hl, ⟨heq, hp, _⟩ | ⟨_, _, hp, _⟩ | ⟨_, _, hp, _⟩⟩ <;> rw [hp] at hres ⊢
  · obtain ⟨a, b, _, d, _⟩ := (createRevLoopF_spec h plan (freshOf h template cc0 revs) (s.store.length + 8) cc0 s).2.2.1 upd cc hres
    exact ⟨b, a, d⟩
  · obtain ⟨rfl, rfl⟩ : l = upd ∧ cc0 = cc := by simpa using hres
    exact ⟨(equalRev_data heq).trans (mem_equalsOf (List.mem_of_getLast? he)).2.2, hsub _ (List.mem_of_getLast? hl), le_refl _⟩
  · obtain ⟨rfl, rfl⟩ : e = upd ∧ cc0 = cc := by simpa using hres
    exact ⟨(mem_equalsOf (List.mem_of_getLast? he)).2.2, hsub _ (mem_equalsOf (List.mem_of_getLast? he)).1, le_refl _⟩
  · have hst := (renumberF_spec plan e.name (freshOf h template cc0 revs).number 4 s).2.1
    cases hok : (renumberF plan e.name (freshOf h template cc0 revs).number 4 s).2
    · rw [hok] at hres; simp at hres
    · rw [hok] at hres hst
      obtain ⟨rfl, rfl⟩ : { e with number := (freshOf h template cc0 revs).number } = upd ∧ cc0 = cc := by simpa using hres
      refine ⟨(mem_equalsOf (List.mem_of_getLast? he)).2.2, ?_, le_refl _⟩
      simp only
      rw [hst, if_pos rfl, ← setNumber_self]
      exact List.mem_map_of_mem (hsub _ (mem_equalsOf (List.mem_of_getLast? he)).1)

/-- **unchanged template**: the newest listed revision equals the fresh one ⇒ it is the update revision, no call is made
    (so no Create, no Update) and the store is untouched -/
theorem pickF_unchanged (h : Hashing) (plan : List Fault) (template : String) (cc0 : Int) (revs : List Rev) (s : RevSt)
    {l : Rev} (hl : revs.getLast? = some l) (heq : equalRev l (freshOf h template cc0 revs) = true) :
    pickF h plan template cc0 revs s = (s, some (l, cc0)) ∧ pickCalls h plan template cc0 revs s = [] := by
  have he : (equalsOf h template cc0 revs).getLast? = some l := getLast?_filter_of_last hl heq
  rw [pickF_of_some he hl, pickCalls_of_some he hl, equalRev_refl]
  exact ⟨rfl, rfl⟩

/-- **revert**: some listed revision equals the fresh one ⇒ nothing is created; every call is an Update or a Get of the
    last equal revision `e`. If the listing is sorted and the resolution succeeds, the collision count is unchanged and
    either the newest revision is used as it is (it records the same data as `e`), or `e` is used, renumbered to
    `nextRevision revs` — above every listed number — and stored so. -/
theorem pickF_revert (h : Hashing) (plan : List Fault) (template : String) (cc0 : Int) (revs : List Rev) (s : RevSt)
    (hne : equalsOf h template cc0 revs ≠ []) :
    ∃ e l, (equalsOf h template cc0 revs).getLast? = some e ∧ revs.getLast? = some l ∧
      (∀ c ∈ pickCalls h plan template cc0 revs s, c = .update e.name ∨ c = .get e.name) ∧
      (SortedRevs revs → ∀ upd cc, (pickF h plan template cc0 revs s).2 = some (upd, cc) →
        cc = cc0 ∧
        ((upd = l ∧ equalRev l e = true ∧ (pickF h plan template cc0 revs s).1.store = s.store ∧
            pickCalls h plan template cc0 revs s = []) ∨
         (upd = { e with number := nextRevision revs } ∧ equalRev l e = false ∧
            (pickF h plan template cc0 revs s).1.store = s.store.map (setNumber e.name (nextRevision revs)) ∧
            ∀ r ∈ revs, r.number < upd.number))) := by
  rcases pickF_cases h plan template cc0 revs s with ⟨hnil, _, _⟩ | ⟨e, l, he, hl, hcase⟩
  · exact absurd hnil hne
  · have hem := mem_equalsOf (List.mem_of_getLast? he)
    refine ⟨e, l, he, hl, ?_, ?_⟩
    · rcases hcase with ⟨_, _, hc⟩ | ⟨_, _, _, hc⟩ | ⟨_, _, _, hc⟩ <;> rw [hc]
      · simp
      · simp
      · exact (renumberF_spec plan e.name 0 4 s).2.2
    · intro hs upd cc hres
      have hlt := nextRevision_gt hs
      rcases hcase with ⟨heq, hp, hc⟩ | ⟨_, hnum, _, _⟩ | ⟨heq, _, hp, _⟩
      · rw [hp] at hres ⊢
        obtain ⟨rfl, rfl⟩ : l = upd ∧ cc0 = cc := by simpa using hres
        exact ⟨rfl, Or.inl ⟨rfl, heq, rfl, hc⟩⟩
      · exact absurd hnum (ne_of_lt (hlt e hem.1))
      · rw [hp] at hres ⊢
        have hst := (renumberF_spec plan e.name (freshOf h template cc0 revs).number 4 s).2.1
        cases hok : (renumberF plan e.name (freshOf h template cc0 revs).number 4 s).2
        · rw [hok] at hres; simp at hres
        · rw [hok] at hres hst
          obtain ⟨rfl, rfl⟩ : { e with number := (freshOf h template cc0 revs).number } = upd ∧ cc0 = cc := by simpa using hres
          rw [if_pos rfl] at hst
          exact ⟨rfl, Or.inr ⟨rfl, heq, hst, fun r hr => hlt r hr⟩⟩

theorem pickCalls_no_create {h : Hashing} {plan : List Fault} {template : String} {cc0 : Int} {revs : List Rev} {s : RevSt}
    (hne : equalsOf h template cc0 revs ≠ []) {c : RevCall} (hc : c ∈ pickCalls h plan template cc0 revs s) :
    c.isCreate = false := by
  obtain ⟨e, l, _, _, hc', _⟩ := pickF_revert h plan template cc0 revs s hne
  rcases hc' c hc with rfl | rfl <;> rfl

/-- every Create of the resolution probes the name derived from the template at a collision count not below `cc0` -/
theorem pickCalls_create {h : Hashing} {plan : List Fault} {template : String} {cc0 : Int} {revs : List Rev} {s : RevSt}
    {c : RevCall} (hc : c ∈ pickCalls h plan template cc0 revs s) (hcr : c.isCreate = true) :
    ∃ j, cc0 ≤ j ∧ c = .create (h.nameOf template j) := by
  by_cases hne : equalsOf h template cc0 revs = []
  · rw [(pickF_of_none (s := s) (plan := plan) hne).2] at hc
    obtain ⟨j, hj, rfl | rfl⟩ := (createRevLoopF_spec h plan _ _ _ s).2.2.2 c hc
    · exact ⟨j, hj, rfl⟩
    · exact absurd hcr (by simp [RevCall.isCreate])
  · rw [pickCalls_no_create hne hc] at hcr
    exact absurd hcr (by simp)

/-- **a collision never overwrites**: `pickF` leaves the store alone, or changes the number of one revision, or inserts
    one revision under a name that was absent — in every case each revision that was stored is still stored under its
    name with its data, owner, labels untouched -/
theorem pickF_store (h : Hashing) (plan : List Fault) (template : String) (cc0 : Int) (revs : List Rev) (s : RevSt) :
    (pickF h plan template cc0 revs s).1.store = s.store ∨
    (∃ e n, (pickF h plan template cc0 revs s).1.store = s.store.map (setNumber e n)) ∨
    (∃ cc, cc0 ≤ cc ∧ (∀ x ∈ s.store, x.name ≠ h.nameOf template cc) ∧
       (pickF h plan template cc0 revs s).1.store = insertByName (candidate h (freshOf h template cc0 revs) cc) s.store ∧
       (pickF h plan template cc0 revs s).2 = some (candidate h (freshOf h template cc0 revs) cc, cc)) := by
  rcases pickF_cases h plan template cc0 revs s with
    ⟨_, hp, _⟩ | ⟨e, l, _, _, ⟨_, hp, _⟩ | ⟨_, _, hp, _⟩ | ⟨_, _, hp, _⟩⟩ <;> rw [hp]
  · rcases (createRevLoopF_spec h plan (freshOf h template cc0 revs) (s.store.length + 8) cc0 s).2.1 with h1 | ⟨cc, h1, h2, h3, h4⟩
    · exact Or.inl h1
    · exact Or.inr (Or.inr ⟨cc, h1, h3, h4, h2⟩)
  · exact Or.inl rfl
  · exact Or.inl rfl
  · have hst := (renumberF_spec plan e.name (freshOf h template cc0 revs).number 4 s).2.1
    cases hok : (renumberF plan e.name (freshOf h template cc0 revs).number 4 s).2 <;> rw [hok] at hst
    · exact Or.inl hst
    · exact Or.inr (Or.inl ⟨_, _, hst⟩)

theorem pickF_preserves (h : Hashing) (plan : List Fault) (template : String) (cc0 : Int) (revs : List Rev) (s : RevSt)
    {x : Rev} (hx : x ∈ s.store) :
    ∃ y ∈ (pickF h plan template cc0 revs s).1.store,
      y.name = x.name ∧ y.data = x.data ∧ y.owner = x.owner ∧ y.selMatch = x.selMatch ∧ y.marker = x.marker ∧
      y.hashNum = x.hashNum ∧ y.ctime = x.ctime := by
  rcases pickF_store h plan template cc0 revs s with h1 | ⟨e, n, h1⟩ | ⟨cc, _, _, h1, _⟩
  · rw [h1]; exact ⟨x, hx, rfl, rfl, rfl, rfl, rfl, rfl, rfl⟩
  · rw [h1]
    refine ⟨setNumber e n x, List.mem_map_of_mem hx, ?_⟩
    unfold setNumber; split <;> exact ⟨rfl, rfl, rfl, rfl, rfl, rfl, rfl⟩
  · rw [h1]; exact ⟨x, mem_insertByName.mpr (Or.inr hx), rfl, rfl, rfl, rfl, rfl, rfl, rfl⟩

theorem pickF_names_nodup (h : Hashing) (plan : List Fault) (template : String) (cc0 : Int) (revs : List Rev) (s : RevSt)
    (hn : (s.store.map (·.name)).Nodup) : ((pickF h plan template cc0 revs s).1.store.map (·.name)).Nodup := by
  rcases pickF_store h plan template cc0 revs s with h1 | ⟨e, n, h1⟩ | ⟨cc, _, h0, h1, _⟩
  · rw [h1]; exact hn
  · rw [h1, List.map_map]
    have : ((fun x : Rev => x.name) ∘ setNumber e n) = (fun x : Rev => x.name) := by
      funext x; exact setNumber_name e n x
    rw [this]; exact hn
  · rw [h1]
    have := ((insertByName_perm (candidate h (freshOf h template cc0 revs) cc) s.store).map (·.name)).nodup_iff
    rw [this, List.map_cons, List.nodup_cons]
    refine ⟨?_, hn⟩
    intro hmem
    obtain ⟨x, hx, hxe⟩ := List.mem_map.mp hmem
    exact h0 x hx hxe

/-! ### collisions and fuel -/

theorem createRevLoopF_fuel_aux (h : Hashing) (plan : List Fault) (fresh : Rev) (cc0 : Int) (n : Nat)
    (hinj : ∀ a b : Nat, a ≤ n → b ≤ n → h.nameOf fresh.data (cc0 + a) = h.nameOf fresh.data (cc0 + b) → a = b)
    (fuel : Nat) : ∀ (k : Nat) (s : RevSt), s.store.length = n →
      (∀ j < k, h.nameOf fresh.data (cc0 + j) ∈ s.store.map (·.name)) → n + 1 ≤ fuel + k →
      createRevLoopF h plan fresh fuel (cc0 + k) s = createRevLoopF h plan fresh (fuel + 1) (cc0 + k) s := by
  induction fuel with
  | zero =>
    intro k s hlen hk hf
    exfalso
    -- n + 1 distinct names, all stored, in a store of n revisions
    have hnd : ((List.range (n + 1)).map (fun j : Nat => h.nameOf fresh.data (cc0 + j))).Nodup := by
      apply List.Nodup.map_on
      · intro a ha b hb hab
        rw [List.mem_range] at ha hb
        exact hinj a b (by omega) (by omega) hab
      · exact List.nodup_range
    have hsub : (List.range (n + 1)).map (fun j : Nat => h.nameOf fresh.data (cc0 + j)) ⊆ s.store.map (·.name) := by
      intro x hx
      obtain ⟨j, hj, rfl⟩ := List.mem_map.mp hx
      rw [List.mem_range] at hj
      exact hk j (by omega)
    have := (List.Nodup.subperm hnd hsub).length_le
    simp at this
    omega
  | succ fuel ih =>
    intro k s hlen hk hf
    rw [createRevLoopF_succ, createRevLoopF_succ (fuel := fuel + 1)]
    cases hkind : createKind h plan fresh (cc0 + k) s with
    | none => rfl
    | some kind =>
      cases kind <;> try rfl
      simp only
      cases hg : ((afterCreate h plan fresh (cc0 + k) s).tr.call plan (RevCall.get (h.nameOf fresh.data (cc0 + k))).key).2 with
      | some e => rfl
      | none =>
        cases hfind : s.store.find? (·.name == h.nameOf fresh.data (cc0 + k)) with
        | none => rfl
        | some ex =>
          simp only
          by_cases hd : (ex.data == fresh.data) = true
          · rw [if_pos hd, if_pos hd]
          · rw [if_neg hd, if_neg hd]
            have hexm : ex ∈ s.store := List.mem_of_find?_eq_some hfind
            have hexn : ex.name = h.nameOf fresh.data (cc0 + k) := by
              have := List.find?_some hfind; simpa using this
            have := ih (k + 1) (afterGet h plan fresh (cc0 + k) s) hlen (by
              intro j hj
              rcases Nat.lt_succ_iff_lt_or_eq.mp hj with hj | rfl
              · exact hk j hj
              · exact List.mem_map.mpr ⟨ex, hexm, hexn⟩) (by omega)
            have hcast : cc0 + (k : Int) + 1 = cc0 + ((k + 1 : Nat) : Int) := by push_cast; ring
            rw [hcast]
            exact this

/-- **the fuel is never exhausted**: if the hash-derived name is injective in the collision count on the
    `|store| + 1` values from `cc0` on, every fuel ≥ `|store| + 1` gives the same result (state, log, answer) — the
    unbounded loop of the Go code behaves like the fuelled model. Without this assumption the Go loop could spin
    for ever on names that all exist with other data, which is why it is stated. -/
theorem createRevLoopF_fuel (h : Hashing) (plan : List Fault) (fresh : Rev) (cc0 : Int) (s : RevSt)
    (hinj : ∀ a b : Nat, a ≤ s.store.length → b ≤ s.store.length →
      h.nameOf fresh.data (cc0 + a) = h.nameOf fresh.data (cc0 + b) → a = b)
    (fuel : Nat) (hf : s.store.length + 1 ≤ fuel) :
    createRevLoopF h plan fresh fuel cc0 s = createRevLoopF h plan fresh (s.store.length + 1) cc0 s := by
  obtain ⟨extra, rfl⟩ : ∃ extra, fuel = s.store.length + 1 + extra := ⟨fuel - (s.store.length + 1), by omega⟩
  induction extra with
  | zero => rfl
  | succ m ih =>
    have := createRevLoopF_fuel_aux h plan fresh cc0 s.store.length hinj (s.store.length + 1 + m) 0 s rfl
      (by intro j hj; omega) (by omega)
    simp only [Nat.cast_zero, add_zero] at this
    rw [← ih (by omega), show s.store.length + 1 + (m + 1) = s.store.length + 1 + m + 1 by omega, ← this]

/-- where a revision of the store after `pickF` comes from: an old one (only its number may differ), or the returned one -/
theorem pickF_back (h : Hashing) (plan : List Fault) (template : String) (cc0 : Int) (revs : List Rev) (s : RevSt)
    {y : Rev} (hy : y ∈ (pickF h plan template cc0 revs s).1.store) :
    (∃ x ∈ s.store, y.name = x.name ∧ y.owner = x.owner ∧ y.selMatch = x.selMatch ∧ y.marker = x.marker ∧ y.data = x.data) ∨
    (∃ cc, (pickF h plan template cc0 revs s).2 = some (y, cc)) := by
  rcases pickF_store h plan template cc0 revs s with h1 | ⟨e, n, h1⟩ | ⟨cc, _, _, h1, h2⟩
  · rw [h1] at hy; exact Or.inl ⟨y, hy, rfl, rfl, rfl, rfl, rfl⟩
  · rw [h1] at hy
    obtain ⟨x, hx, rfl⟩ := List.mem_map.mp hy
    refine Or.inl ⟨x, hx, ?_⟩
    unfold setNumber; split <;> exact ⟨rfl, rfl, rfl, rfl, rfl⟩
  · rw [h1, mem_insertByName] at hy
    rcases hy with rfl | hy
    · exact Or.inr ⟨cc, h2⟩
    · exact Or.inl ⟨y, hy, rfl, rfl, rfl, rfl, rfl⟩

end Asts.SYb
