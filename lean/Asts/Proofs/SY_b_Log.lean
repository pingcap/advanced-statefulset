import Asts.Proofs.SY_b_Truncate
import Asts.Proofs.SY_b_GetRevs
import Asts.Proofs.LogEntries
import Asts.Proofs.Sync_Phases

/-! The string call log, phase by phase: every entry a phase appends has one of finitely many literal shapes
    (`verb:resource:` followed by a name). `pre` tests a prefix on the characters of the rendered entry (`String.toList`),
    whatever the name contains; on entries of known shape the test comes down to comparing verb and resource. -/
namespace Asts.SYb
open Asts

/-- the log `l1` extends `l0` by entries that all satisfy `S` -/
def Ext (S : String → Prop) (l0 l1 : List String) : Prop := ∃ mid, l1 = l0 ++ mid ∧ ∀ e ∈ mid, S e

theorem Ext.refl (S : String → Prop) (l : List String) : Ext S l l := ⟨[], by simp, by simp⟩

theorem Ext.trans {S : String → Prop} {a b c : List String} (h1 : Ext S a b) (h2 : Ext S b c) : Ext S a c := by
  obtain ⟨m1, rfl, h1⟩ := h1
  obtain ⟨m2, rfl, h2⟩ := h2
  refine ⟨m1 ++ m2, by simp, ?_⟩
  intro e he
  rcases List.mem_append.mp he with he | he
  · exact h1 e he
  · exact h2 e he

theorem Ext.mono {S T : String → Prop} (hst : ∀ e, S e → T e) {a b : List String} (h : Ext S a b) : Ext T a b := by
  obtain ⟨m, rfl, h⟩ := h
  exact ⟨m, rfl, fun e he => hst e (h e he)⟩

theorem Ext.one {S : String → Prop} (l : List String) {k : String} (hk : S k) : Ext S l (l ++ [k]) :=
  ⟨[k], rfl, by simpa using hk⟩

theorem Ext.of_append {S : String → Prop} {l m : List String} (h : Ext S l (l ++ m)) : ∀ e ∈ m, S e := by
  obtain ⟨mid, hm, hall⟩ := h
  rw [List.append_cancel_left hm]; exact hall

theorem Ext.call {S : String → Prop} (t : Tr) (plan : List Fault) {k : String} (hk : S k) : Ext S t.log (t.call plan k).1.log :=
  Ext.one t.log hk

/-- entries of the adoption stage -/
def AdoptShape (e : String) : Prop := e = "list:revs" ∨ e = "get:set" ∨ ∃ n : String, e = s!"update:rev:{n}" ∨ e = s!"patch:rev:{n}"
/-- entries of `ClaimPods` -/
def ClaimShape (e : String) : Prop := e = "get:set" ∨ ∃ n : String, e = s!"patch:pod:{n}"
/-- entries of the reconcile proper and of the status write -/
def TailShape (e : String) : Prop :=
  e = "updatestatus" ∨ ∃ n : String, e = s!"create:pod:{n}" ∨ e = s!"delete:pod:{n}" ∨ e = s!"update:pod:{n}"

theorem AdoptShape.keyed {e : String} (h : AdoptShape e) : Keyed [("update", "rev"), ("patch", "rev")] e := by
  rcases h with rfl | rfl | ⟨n, rfl | rfl⟩
  · exact Or.inl few_list_revs
  · exact Or.inl few_get_set
  · exact Or.inr ⟨_, _, _, n, pre_update_rev, by simp, rfl⟩
  · exact Or.inr ⟨_, _, _, n, pre_patch_rev, by simp, rfl⟩

theorem ClaimShape.keyed {e : String} (h : ClaimShape e) : Keyed [("patch", "pod")] e := by
  rcases h with rfl | ⟨n, rfl⟩
  · exact Or.inl few_get_set
  · exact Or.inr ⟨_, _, _, n, pre_patch_pod, by simp, rfl⟩

theorem TailShape.keyed {e : String} (h : TailShape e) : Keyed [("create", "pod"), ("delete", "pod"), ("update", "pod")] e := by
  rcases h with rfl | ⟨n, rfl | rfl | rfl⟩
  · exact Or.inl few_updatestatus
  · exact Or.inr ⟨_, _, _, n, pre_create_pod, by simp, rfl⟩
  · exact Or.inr ⟨_, _, _, n, pre_delete_pod, by simp, rfl⟩
  · exact Or.inr ⟨_, _, _, n, pre_update_pod, by simp, rfl⟩

theorem RevCall.keyed (c : RevCall) : Keyed [("create", "rev"), ("update", "rev"), ("get", "rev")] c.key := by
  cases c with
  | create n => exact Or.inr ⟨_, _, _, n, pre_create_rev, by simp, rfl⟩
  | update n => exact Or.inr ⟨_, _, _, n, pre_update_rev, by simp, rfl⟩
  | get n => exact Or.inr ⟨_, _, _, n, pre_get_rev, by simp, rfl⟩

theorem delKey_keyed (r : Rev) : Keyed [("delete", "rev")] (delKey r) :=
  Or.inr ⟨_, _, _, r.name, pre_delete_rev, by simp, rfl⟩

theorem TailShape.not_del {e : String} (h : TailShape e) : pre "delete:rev:" e = false :=
  h.keyed.not_pre pre_delete_rev (by simp)
theorem TailShape.not_create {e : String} (h : TailShape e) : pre "create:rev:" e = false :=
  h.keyed.not_pre pre_create_rev (by simp)
theorem listrevs_not_del : pre "delete:rev:" "list:revs" = false := pre_delete_rev.pre_few few_list_revs
theorem listrevs_not_create : pre "create:rev:" "list:revs" = false := pre_create_rev.pre_few few_list_revs

theorem RevCall.not_del (c : RevCall) : pre "delete:rev:" c.key = false := c.keyed.not_pre pre_delete_rev (by simp)
theorem RevCall.pre_create (c : RevCall) : pre "create:rev:" c.key = c.isCreate := by
  cases c with
  | create n => exact pre_append_self _ n
  | update n => exact pre_create_rev.pre_ne pre_update_rev (Or.inl (by simp)) n
  | get n => exact pre_create_rev.pre_ne pre_get_rev (Or.inl (by simp)) n
theorem delKey_pre_del (r : Rev) : pre "delete:rev:" (delKey r) = true := pre_append_self _ r.name
theorem delKey_not_create (r : Rev) : pre "create:rev:" (delKey r) = false := (delKey_keyed r).not_pre pre_create_rev (by simp)

theorem filter_pre_del_calls (cs : List RevCall) : (cs.map RevCall.key).filter (pre "delete:rev:") = [] := by
  rw [List.filter_eq_nil_iff]
  intro e he
  obtain ⟨c, _, rfl⟩ := List.mem_map.mp he
  rw [RevCall.not_del]; simp

theorem filter_pre_create_calls (cs : List RevCall) :
    (cs.map RevCall.key).filter (pre "create:rev:") = (cs.filter RevCall.isCreate).map RevCall.key := by
  induction cs with
  | nil => rfl
  | cons c cs ih =>
    rw [List.map_cons, List.filter_cons, List.filter_cons, RevCall.pre_create]
    cases c.isCreate <;> simp [ih]

theorem filter_pre_del_dels (ds : List Rev) : (ds.map delKey).filter (pre "delete:rev:") = ds.map delKey := by
  rw [List.filter_eq_self]
  intro e he
  obtain ⟨r, _, rfl⟩ := List.mem_map.mp he
  exact delKey_pre_del r

theorem filter_pre_create_dels (ds : List Rev) : (ds.map delKey).filter (pre "create:rev:") = [] := by
  rw [List.filter_eq_nil_iff]
  intro e he
  obtain ⟨r, _, rfl⟩ := List.mem_map.mp he
  rw [delKey_not_create]; simp

theorem listRevsF_log (plan : List Fault) (s : RevSt) : Ext (· = "list:revs") s.tr.log (listRevsF plan s).1.tr.log :=
  (SYa.listRevsF_spec plan s).2.1

theorem labelStep_ext (plan : List Fault) (b : RevSt) (r : Rev) : Ext AdoptShape b.tr.log (SYa.labelStep plan b r).1.tr.log := by
  have hk : AdoptShape s!"update:rev:{r.name}" := Or.inr (Or.inr ⟨r.name, Or.inl rfl⟩)
  unfold SYa.labelStep
  dsimp only
  split
  · split
    · exact Ext.call _ plan hk
    · exact Ext.call _ plan hk
  · exact Ext.refl _ _

theorem patchStep_ext (plan : List Fault) (b : RevSt) (r : Rev) : Ext AdoptShape b.tr.log (SYa.patchStep plan b r).1.tr.log := by
  have hk : AdoptShape s!"patch:rev:{r.name}" := Or.inr (Or.inr ⟨r.name, Or.inr rfl⟩)
  unfold SYa.patchStep
  dsimp only
  split
  · exact Ext.refl _ _
  · split
    · exact Ext.call _ plan hk
    · exact Ext.call _ plan hk

/-- the adoption stage logs List, Update (label sync), one uncached Get of the set, and adoption Patches only -/
theorem adopt_log (plan : List Fault) (del : Bool) (fresh : Fresh) (s : RevSt) :
    Ext AdoptShape s.tr.log (adoptOrphanRevisionsF plan del fresh s).1.tr.log :=
  SYa.adoptF_inv (fun b => Ext AdoptShape s.tr.log b.tr.log) plan del fresh s (Ext.refl _ _)
    ((listRevsF_log plan s).mono (fun _ he => Or.inl he)) (fun b r hb => hb.trans (labelStep_ext plan b r))
    (fun b hb => hb.trans (Ext.call b.tr plan (Or.inr (Or.inl rfl)))) (fun _ _ _ _ b r hb => hb.trans (patchStep_ext plan b r))

theorem claim_log (plan : List Fault) (del : Bool) (fresh : Fresh) (pods : List CPod) (tr : Tr) :
    Ext ClaimShape tr.log (claimPodsF plan del fresh pods tr).tr.log := by
  obtain ⟨ext, hlog, hext⟩ := SYa.claimPodsF_appends plan del fresh pods tr
  exact ⟨ext, hlog, fun e he => (hext e he).imp id fun ⟨c, _, hc, _⟩ => ⟨c.name, hc⟩⟩

theorem statusWriteF_ext (plan : List Fault) (gone : Bool) (fuel : Nat) (t : Tr) :
    Ext TailShape t.log (statusWriteF plan gone fuel t).1.log := by
  obtain ⟨mid, hlog, hmid⟩ := SYa.statusWriteF_spec plan gone fuel t
  exact ⟨mid, hlog, fun e he => Or.inl (hmid e he)⟩

theorem actLog_shape (setName : String) (plan : List Fault) (pods claimed : List CPod) (b : Int) (E : List Int)
    (a : Action) : ∀ e ∈ actLog setName plan pods claimed b E a, TailShape e := by
  intro e he
  cases a with
  | create o r => simp only [actLog, List.mem_singleton] at he; exact Or.inr ⟨_, Or.inl he⟩
  | delete o id w => simp only [actLog, List.mem_singleton] at he; exact Or.inr ⟨_, Or.inr (Or.inl he)⟩
  | update o =>
    simp only [actLog] at he
    have := List.eq_of_mem_replicate he
    exact Or.inr ⟨_, Or.inr (Or.inr this)⟩

theorem acts_ext (setName : String) (plan : List Fault) (pods claimed : List CPod) (b : Int) (E : List Int)
    (acts : List Action) (l : List String) :
    Ext TailShape l (l ++ (acts.map (actLog setName plan pods claimed b E)).flatten) := by
  refine ⟨_, rfl, ?_⟩
  intro e he
  rw [List.mem_flatten] at he
  obtain ⟨l', hl', he'⟩ := he
  obtain ⟨a, _, rfl⟩ := List.mem_map.mp hl'
  exact actLog_shape _ _ _ _ _ _ a e he'

end Asts.SYb
