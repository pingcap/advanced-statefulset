import Asts.Model.Events
import Asts.Spec.Events
import Mathlib.Tactic

/-! Lemmas for C16 (no lost wake-ups): the handlers of `Model/Events` against the table of `Spec/Events`. -/
namespace Asts.Events
open Asts.Events.Spec

/-! ### owner resolution -/

theorem ctrlRef_eq (p : Pod) : ctrlRef p = controllerOf p := by
  simp [ctrlRef, controllerOf, List.head?_filter]

/-- With at most one set per namespace/name in the cache, `resolveControllerRef` finds exactly the set the reference
    designates (same namespace, kind, name, uid). -/
theorem resolve_designates (sets : List SetObj) (ns : String) (r : OwnerRef) (hc : cacheOk sets = true) :
    (resolveControllerRef sets ns r).map SetObj.key = designates sets ns r := by
  unfold resolveControllerRef designates
  by_cases hk : r.kind = "StatefulSet"
  · simp only [hk, bne_self_eq_false, Bool.false_eq_true, if_false, true_and]
    induction sets with
    | nil => simp [getSet]
    | cons s rest ih =>
      simp only [cacheOk, Bool.and_eq_true, Bool.not_eq_true', List.any_eq_false] at hc
      obtain ⟨hno, hrest⟩ := hc
      have ih := ih hrest
      by_cases hm : (s.ns == ns && s.name == r.name) = true
      · have hget : getSet (s :: rest) ns r.name = some s := by simp [getSet, hm]
        simp only [Bool.and_eq_true, beq_iff_eq] at hm
        have hnone : rest.any (fun t => t.ns == ns && t.name == r.name && t.uid == r.uid) = false := by
          rw [List.any_eq_false]
          intro t ht
          have := hno t ht
          simp only [Bool.and_eq_true, beq_iff_eq, not_and] at this ⊢
          intro ⟨h1, h2⟩ _
          exact this (h1.trans hm.1.symm) (h2.trans hm.2.symm)
        rw [hget]
        by_cases hu : s.uid = r.uid
        · simp [hu, hm.1, hm.2, SetObj.key]
        · simp [hu, hm.1, hm.2, hnone]
      · have hget : getSet (s :: rest) ns r.name = getSet rest ns r.name := by
          simp only [Bool.not_eq_true] at hm
          simp [getSet, hm]
        have hany : (s :: rest).any (fun t => t.ns == ns && t.name == r.name && t.uid == r.uid)
            = rest.any (fun t => t.ns == ns && t.name == r.name && t.uid == r.uid) := by
          simp only [Bool.not_eq_true] at hm
          simp [List.any_cons, hm]
        rw [hget, hany]; exact ih
  · rw [if_pos (bne_iff_ne.2 hk), if_neg fun h => hk h.1]
    rfl

theorem enqueueResolved_eq (sets : List SetObj) (ns : String) (r : OwnerRef) (hc : cacheOk sets = true) :
    enqueueResolved sets ns r = (designates sets ns r).toList := by
  rw [← resolve_designates sets ns r hc]
  unfold enqueueResolved
  cases resolveControllerRef sets ns r <;> simp

theorem deletePod_eq (sets : List SetObj) (p : Pod) (hc : cacheOk sets = true) :
    deletePod sets p = (ownerKey sets p).toList := by
  unfold deletePod ownerKey
  rw [ctrlRef_eq]
  cases h : controllerOf p with
  | none => simp
  | some r => simp [enqueueResolved_eq sets p.ns r hc]

/-! ### the lister expansion (intended behaviour) -/

/-- what the loop of the intended `GetPodStatefulSets` keeps -/
def keep (ns : String) (labels : List Label) (s : SetObj) : Bool :=
  s.ns == ns &&
  match convert s.sel with
  | none => false
  | some sel => !(sel.empty || !sel.matches labels)

theorem podSetsLoop_fixed (ns : String) (labels : List Label) (sets : List SetObj) :
    podSetsLoop .fixed ns labels sets = some (sets.filter (keep ns labels)) := by
  induction sets with
  | nil => simp [podSetsLoop]
  | cons s rest ih =>
    unfold podSetsLoop
    rw [ih, List.filter_cons]
    by_cases hns : s.ns = ns
    · have h1 : (s.ns != ns) = false := by simp [hns]
      simp only [h1, Bool.false_eq_true, if_false]
      cases hcv : convert s.sel with
      | none => simp [keep, hcv]
      | some sel =>
        by_cases hm : (sel.empty || !sel.matches labels) = true
        · simp [keep, hcv, hm]
        · simp only [Bool.not_eq_true] at hm
          simp [keep, hcv, hm, hns]
    · have h1 : (s.ns != ns) = true := by simp [hns]
      have h2 : keep ns labels s = false := by simp [keep, hns]
      simp [h1, h2]

theorem keep_eq_selects (p : Pod) (s : SetObj) : keep p.ns (labelsOf p) s = selects s p := by
  unfold keep selects
  cases s.sel with
  | nil => simp [convert, Selector.empty, Selector.matches]
  | bad => simp [convert]
  | labels l => simp [convert, Selector.empty, Selector.matches]

/-- no set selects a pod without labels (the empty selector selects nothing) -/
theorem selects_of_no_labels (s : SetObj) {p : Pod} (h : labelsOf p = []) : selects s p = false := by
  unfold selects
  rw [h]
  cases s.sel with
  | nil => simp
  | bad => simp
  | labels l => cases l <;> simp

/-- the intended `getStatefulSetsForPod` returns exactly the cached sets that select the pod -/
theorem enqueueMatching_fixed (sets : List SetObj) (p : Pod) :
    enqueueMatching .fixed sets p = matching sets p := by
  unfold enqueueMatching getStatefulSetsForPod getPodStatefulSets matching
  simp only [podSetsLoop_fixed]
  have hk : keep p.ns (p.labels.getD []) = fun s => selects s p := by
    funext s; exact keep_eq_selects p s
  rw [hk]
  by_cases hl : (p.labels.getD []).length = 0
  · simp [hl, selects_of_no_labels _ (List.length_eq_zero_iff.mp hl : labelsOf p = [])]
  · simp only [hl, beq_iff_eq, if_false]
    cases hf : sets.filter (fun s => selects s p) with
    | nil => simp
    | cons a as => simp [SetObj.key]

/-! ### set-of-keys comparison -/

theorem subset_iff (a b : List Key) : subset a b = true ↔ ∀ k ∈ a, k ∈ b := by
  simp only [subset, List.all_eq_true, List.contains_iff_mem]

theorem sameSet_iff (a b : List Key) : sameSet a b = true ↔ ∀ k, k ∈ a ↔ k ∈ b := by
  simp only [sameSet, Bool.and_eq_true, subset_iff]
  constructor
  · intro ⟨h1, h2⟩ k; exact ⟨h1 k, h2 k⟩
  · intro h; exact ⟨fun k hk => (h k).1 hk, fun k hk => (h k).2 hk⟩

theorem sameSet_refl (a : List Key) : sameSet a a = true := by simp [sameSet_iff]

theorem sameSet_of_eq {a b : List Key} (h : a = b) : sameSet a b = true := h ▸ sameSet_refl a

/-! ### the handlers in the vocabulary of the specification -/

/-- `reflect.DeepEqual` tells a nil label map from an empty one, the property does not; where the two disagree the pod has
    no labels (and then nothing selects it) -/
theorem labelsOf_nil_of_changed {old cur : Pod} (hl : cur.labels ≠ old.labels) (h : labelsOf old = labelsOf cur) :
    labelsOf cur = [] := by
  unfold labelsOf at h ⊢
  cases h1 : cur.labels with
  | none => rfl
  | some l1 =>
    cases h2 : old.labels with
    | none => simpa [h1, h2] using h.symm
    | some l2 =>
      rw [h1, h2] at h hl
      exact absurd (congrArg some h.symm) hl

theorem matching_nil_of_no_labels (sets : List SetObj) (p : Pod) (h : labelsOf p = []) : matching sets p = [] := by
  simp [matching, selects_of_no_labels _ h]

theorem designates_congr (sets : List SetObj) (ns : String) (r₁ r₂ : OwnerRef)
    (h : (r₁.kind, r₁.name, r₁.uid) = (r₂.kind, r₂.name, r₂.uid)) : designates sets ns r₁ = designates sets ns r₂ := by
  obtain ⟨h1, h2, h3⟩ : r₁.kind = r₂.kind ∧ r₁.name = r₂.name ∧ r₁.uid = r₂.uid := by simpa using h
  unfold designates
  rw [h1, h2, h3]

/-- the lister is consulted only for a pod without controlling owner -/
theorem addPod_eq (L : Lister) (sets : List SetObj) (p : Pod) (hc : cacheOk sets = true) :
    addPod L sets p =
      if p.terminating then (ownerKey sets p).toList
      else if (ctrlRef p).isSome then (ownerKey sets p).toList else enqueueMatching L sets p := by
  unfold addPod
  rw [deletePod_eq sets p hc]
  by_cases ht : p.terminating = true
  · simp [ht]
  · simp only [ht, Bool.false_eq_true, if_false]
    unfold ownerKey
    rw [ctrlRef_eq]
    cases h : controllerOf p with
    | none => simp
    | some r => simp [enqueueResolved_eq sets p.ns r hc]

theorem updateOld_eq (sets : List SetObj) (old cur : Pod) (hc : cacheOk sets = true) :
    updateOld sets old cur = if controllerOf cur = controllerOf old then [] else (ownerKey sets old).toList := by
  unfold updateOld ownerKey
  rw [ctrlRef_eq]
  by_cases h : controllerOf cur = controllerOf old
  · simp [h]
  · simp only [h, if_false]
    cases ho : controllerOf old with
    | none => simp
    | some r => simp [enqueueResolved_eq sets old.ns r hc]

theorem updateCur_eq (L : Lister) (sets : List SetObj) (old cur : Pod) (hc : cacheOk sets = true) :
    updateCur L sets old cur =
      if (controllerOf cur).isSome then (ownerKey sets cur).toList
      else if cur.labels ≠ old.labels ∨ controllerOf cur ≠ controllerOf old then enqueueMatching L sets cur else [] := by
  unfold updateCur ownerKey
  rw [ctrlRef_eq]
  cases h : controllerOf cur with
  | none => simp
  | some r => simp [enqueueResolved_eq sets cur.ns r hc]

theorem updatePod_of_ne (L : Lister) (sets : List SetObj) {old cur : Pod} (hrv : old.rv ≠ cur.rv) :
    updatePod L sets old cur = updateOld sets old cur ++ updateCur L sets old cur :=
  if_neg fun h => hrv (beq_iff_eq.1 h).symm

theorem ownerId_eq_of_controllerOf_eq {old cur : Pod} (h : controllerOf cur = controllerOf old) : ownerId old = ownerId cur := by
  simp [ownerId, ctrlRef_eq, h]

theorem labelsOf_eq_of_labels_eq {old cur : Pod} (h : cur.labels = old.labels) : labelsOf old = labelsOf cur := by
  simp [labelsOf, h]

theorem ownerKey_congr (sets : List SetObj) {old cur : Pod} (hns : old.ns = cur.ns) (hid : ownerId old = ownerId cur) :
    ownerKey sets old = ownerKey sets cur := by
  unfold ownerKey
  unfold ownerId at hid
  cases ho : ctrlRef old with
  | none =>
    cases hcu : ctrlRef cur with
    | none => rfl
    | some r => simp [ho, hcu] at hid
  | some r₁ =>
    cases hcu : ctrlRef cur with
    | none => simp [ho, hcu] at hid
    | some r₂ =>
      simp only [ho, hcu, Option.map_some, Option.some.injEq] at hid
      simp only [Option.bind_some, hns]
      exact designates_congr sets cur.ns r₁ r₂ hid

/-- **The table.** For every cache with at most one set per key and every event, the keys the (intended) handlers add to
    the queue are, as a set, exactly the keys the specification expects. -/
theorem handle_exact (sets : List SetObj) (ev : Event) (hc : cacheOk sets = true) (hev : eventOk ev = true) :
    exact sets ev (handle .fixed sets ev) = true := by
  unfold exact
  cases ev with
  | add p => exact sameSet_of_eq (by simp [handle, expected, addPod_eq .fixed sets p hc, enqueueMatching_fixed])
  | delete p | tombstone p => exact sameSet_of_eq (deletePod_eq sets p hc)
  | tombstoneOther | deleteOther | setAdd _ | setUpdate _ | setDelete _ | setTombstone _ => exact sameSet_refl _
  | update old cur =>
    have hns : old.ns = cur.ns := by simpa [eventOk] using hev
    simp only [handle, updatePod, expected]
    by_cases hrv : old.rv = cur.rv
    · simp [hrv, sameSet_refl]
    · have hrv' : ¬ cur.rv = old.rv := fun h => hrv h.symm
      simp only [beq_iff_eq, hrv, hrv', if_false]
      rw [updateOld_eq sets old cur hc, updateCur_eq .fixed sets old cur hc, enqueueMatching_fixed, ctrlRef_eq]
      by_cases hco : controllerOf cur = controllerOf old
      · -- same reference
        have hid := ownerId_eq_of_controllerOf_eq hco
        by_cases hsome : (controllerOf old).isSome = true
        · exact sameSet_of_eq (by simp [hco, hid, hsome])
        · by_cases hl : cur.labels = old.labels
          · have hl' := labelsOf_eq_of_labels_eq hl
            exact sameSet_of_eq (by simp [hco, hid, hsome, hl, hl', orphanNews])
          · by_cases hl' : labelsOf old = labelsOf cur
            · have hnil := labelsOf_nil_of_changed hl hl'
              exact sameSet_of_eq (by simp [hco, hid, hsome, hl, hl', orphanNews, matching_nil_of_no_labels sets cur hnil])
            · exact sameSet_of_eq (by simp [hco, hid, hsome, hl, hl', orphanNews])
      · by_cases hid : ownerId old = ownerId cur
        · -- the reference changed in a field that does not identify the owner: the same set, added twice
          have hk := ownerKey_congr sets hns hid
          have hsome : (controllerOf cur).isSome = true := by
            unfold ownerId at hid
            rw [ctrlRef_eq, ctrlRef_eq] at hid
            cases h1 : controllerOf cur with
            | some r => rfl
            | none =>
              cases h2 : controllerOf old with
              | none => exact absurd (h1.trans h2.symm) hco
              | some r => simp [h1, h2] at hid
          rw [sameSet_iff]
          intro k
          simp [hco, hid, hsome, hk]
        · exact sameSet_of_eq (by simp [hco, hid, orphanNews])

/-! ### the clauses against the table: each clause demands one part of `expected`, and the parts make up the whole -/

/-- the keys `ownerWoken` demands -/
def ownerPart (sets : List SetObj) (ev : Event) : List Key :=
  match podOf ev with
  | none => []
  | some p => if isResync ev then [] else (ownerKey sets p).toList

/-- the keys `oldOwnerWoken` demands -/
def oldOwnerPart (sets : List SetObj) : Event → List Key
  | .update old cur => if old.rv == cur.rv || decide (ownerId old = ownerId cur) then [] else (ownerKey sets old).toList
  | _ => []

/-- the keys `orphanWoken` demands -/
def orphanPart (sets : List SetObj) (ev : Event) : List Key :=
  match podOf ev with
  | none => []
  | some p => if isResync ev || !isArrival ev || (ctrlRef p).isSome || !orphanNews ev then [] else matching sets p

/-- the keys `setWoken` demands -/
def setPart : Event → List Key
  | .setAdd k | .setUpdate k | .setDelete k | .setTombstone k => [k]
  | _ => []

theorem wokenIf_eq (o : Option Key) (keys : List Key) : wokenIf o keys = subset o.toList keys := by
  cases o <;> simp [wokenIf, subset]

theorem ownerWoken_eq (sets : List SetObj) (ev : Event) (keys : List Key) :
    ownerWoken sets ev keys = subset (ownerPart sets ev) keys := by
  unfold ownerWoken ownerPart
  cases podOf ev with
  | none => rfl
  | some p => cases isResync ev <;> simp [wokenIf_eq, subset]

theorem oldOwnerWoken_eq (sets : List SetObj) (ev : Event) (keys : List Key) :
    oldOwnerWoken sets ev keys = subset (oldOwnerPart sets ev) keys := by
  cases ev with
  | update old cur =>
    simp only [oldOwnerWoken, oldOwnerPart, wokenIf_eq]
    generalize (old.rv == cur.rv || decide (ownerId old = ownerId cur)) = b
    cases b <;> simp [subset]
  | _ => rfl

theorem orphanWoken_eq (sets : List SetObj) (ev : Event) (keys : List Key) :
    orphanWoken sets ev keys = subset (orphanPart sets ev) keys := by
  unfold orphanWoken orphanPart
  cases podOf ev with
  | none => rfl
  | some p =>
    simp only
    generalize (isResync ev || !isArrival ev || (ctrlRef p).isSome || !orphanNews ev) = b
    cases b <;> simp [subset]

theorem setWoken_eq (ev : Event) (keys : List Key) : setWoken ev keys = subset (setPart ev) keys := by
  cases ev with
  | setAdd k | setUpdate k | setDelete k | setTombstone k => exact (Bool.and_true _).symm
  | _ => rfl

theorem ctrlRef_isSome_of_ownerKey {sets : List SetObj} {p : Pod} {k : Key} (h : ownerKey sets p = some k) :
    (ctrlRef p).isSome = true := by
  unfold ownerKey at h
  cases hc : ctrlRef p with
  | none => simp [hc] at h
  | some r => rfl

theorem ownerKey_none_of_orphan {sets : List SetObj} {p : Pod} (h : ctrlRef p = none) : ownerKey sets p = none := by
  simp [ownerKey, h]

/-- the table is the union of what the four clauses demand -/
theorem mem_expected (sets : List SetObj) (ev : Event) (k : Key) :
    k ∈ expected sets ev ↔ k ∈ oldOwnerPart sets ev ∨ k ∈ ownerPart sets ev ∨ k ∈ orphanPart sets ev ∨ k ∈ setPart ev := by
  cases ev with
  | add p =>
    simp only [expected, ownerPart, oldOwnerPart, orphanPart, setPart, podOf, isResync, isArrival, orphanNews]
    by_cases ht : p.terminating = true
    · simp [ht]
    · by_cases hs : (ctrlRef p).isSome = true
      · simp [ht, hs]
      · simp [ht, hs, ownerKey_none_of_orphan (Option.not_isSome_iff_eq_none.1 hs)]
  | update old cur =>
    simp only [expected, ownerPart, oldOwnerPart, orphanPart, setPart, podOf, isResync, isArrival]
    by_cases hrv : old.rv = cur.rv
    · simp [hrv]
    · by_cases hs : (ctrlRef cur).isSome = true
      · by_cases hid : ownerId old = ownerId cur
        · simp [hrv, hs, hid]
        · simp [hrv, hs, hid]
      · -- an unowned pod has no owner's key: `ownerWoken` demands nothing
        have hk := ownerKey_none_of_orphan (sets := sets) (Option.not_isSome_iff_eq_none.1 hs)
        by_cases hid : ownerId old = ownerId cur
        · cases orphanNews (.update old cur) <;> simp [hrv, hs, hid, hk]
        · cases orphanNews (.update old cur) <;> simp [hrv, hs, hid, hk]
  | delete p | tombstone p => simp [expected, ownerPart, oldOwnerPart, orphanPart, setPart, podOf, isResync, isArrival]
  | tombstoneOther | deleteOther | setAdd _ | setUpdate _ | setDelete _ | setTombstone _ =>
    simp [expected, ownerPart, oldOwnerPart, orphanPart, setPart, podOf]

/-- the five monitor clauses say exactly what the table says, for any observed key set -/
theorem exact_iff_clauses (sets : List SetObj) (ev : Event) (keys : List Key) :
    exact sets ev keys = true ↔
      (ownerWoken sets ev keys = true ∧ oldOwnerWoken sets ev keys = true ∧ orphanWoken sets ev keys = true ∧
       setWoken ev keys = true ∧ nothingElse sets ev keys = true) := by
  simp only [exact, sameSet, nothingElse, ownerWoken_eq, oldOwnerWoken_eq, orphanWoken_eq, setWoken_eq, Bool.and_eq_true, subset_iff]
  constructor
  · rintro ⟨h1, h2⟩
    exact ⟨fun k hk => h2 k ((mem_expected sets ev k).2 (.inr (.inl hk))), fun k hk => h2 k ((mem_expected sets ev k).2 (.inl hk)),
      fun k hk => h2 k ((mem_expected sets ev k).2 (.inr (.inr (.inl hk)))),
      fun k hk => h2 k ((mem_expected sets ev k).2 (.inr (.inr (.inr hk)))), h1⟩
  · rintro ⟨h1, h2, h3, h4, h5⟩
    refine ⟨h5, fun k hk => ?_⟩
    rcases (mem_expected sets ev k).1 hk with hk | hk | hk | hk
    exacts [h2 k hk, h1 k hk, h3 k hk, h4 k hk]

/-! ### the lister on the pinned tree loses wake-ups (a witness) -/

def witnessSets : List SetObj :=
  [{ ns := "n1", name := "a", uid := "u1", sel := .labels [("k", "x")] },
   { ns := "n1", name := "b", uid := "u2", sel := .labels [("k", "x")] },
   { ns := "n1", name := "c", uid := "u3", sel := .bad }]

def witnessPod : Pod := { ns := "n1", labels := some [("k", "x")], owners := [], rv := "2", terminating := false }

theorem witness_ok : cacheOk witnessSets = true ∧ eventOk (.add witnessPod) = true := by decide

/-- with the lister of the pinned tree the two sets that select the orphan are not woken -/
theorem witness_pinned : handle .pinned witnessSets (.add witnessPod) = [] := by decide

theorem witness_fixed : handle .fixed witnessSets (.add witnessPod) = [("n1", "a"), ("n1", "b")] := by decide

theorem witness_expected : matching witnessSets witnessPod = [("n1", "a"), ("n1", "b")] := by decide

/-! ### the worker -/

/-- the requeue counter as the rate limiter keeps it: +1 on a failure, 0 on a success -/
def cnt (n : Nat) (failed : Bool) : Nat := if failed then n + 1 else 0

theorem foldl_cnt_eq_trailing (results : List Bool) : results.foldl cnt 0 = trailingFailures results := by
  induction results using List.reverseRecOn with
  | nil => rfl
  | append_singleton l r ih =>
    rw [List.foldl_append, List.foldl_cons, List.foldl_nil, ih]
    unfold trailingFailures
    rw [List.reverse_append]
    cases r <;> simp [cnt]

theorem run_fails (shapeOf : Key → Shape) (k : Key) (ops : List Op) :
    ∀ st : WState, (run shapeOf st ops).1.fails k = (reconciled shapeOf k st ops).foldl cnt (st.fails k) := by
  induction ops with
  | nil => intro st; rfl
  | cons op ops ih =>
    intro st
    simp only [run, reconciled]
    rw [ih]
    cases op with
    | event k' => simp [step]
    | process sc =>
      cases hq : st.queue with
      | nil => simp [step, hq]
      | cons k' rest =>
        simp only [step, hq, processKey]
        by_cases hk : k' = k
        · subst hk
          by_cases hf : syncFails (shapeOf k') sc = true
          · simp [hf, bump, cnt]
          · simp [hf, reset, cnt]
        · have hk' : ¬ k = k' := fun h => hk h.symm
          by_cases hf : syncFails (shapeOf k') sc = true
          · simp [hf, hk, hk', bump]
          · simp [hf, hk, hk', reset]

theorem syncFails_eq_reconcileFails (shapeOf : Key → Shape) (k : Key) (sc : Scripted) :
    syncFails (shapeOf k) sc = reconcileFails shapeOf k sc := by
  unfold syncFails reconcileFails
  cases shapeOf k <;> cases sc <;> rfl

theorem step_ok (shapeOf : Key → Shape) (st : WState) (op : Op) :
    stepOk shapeOf st.fails op (step shapeOf st op).2 = true ∧
    nextPrev st.fails (step shapeOf st op).2 = (step shapeOf st op).1.fails := by
  cases op with
  | event k =>
    refine ⟨?_, rfl⟩
    simp only [step, stepOk, qAdd, List.contains_iff_mem, decide_eq_true_eq]
    by_cases h : k ∈ st.queue
    · simp only [h, if_true]
      exact List.length_pos_of_mem h
    · simp [h]
  | process sc =>
    cases hq : st.queue with
    | nil => simp [step, hq, stepOk, nextPrev]
    | cons k rest =>
      simp only [step, hq, processKey]
      by_cases hf : syncFails (shapeOf k) sc = true
      · have hr : reconcileFails shapeOf k sc = true := by rw [← syncFails_eq_reconcileFails]; exact hf
        simp only [hf, if_true]
        constructor
        · simp [stepOk, hr, bump]
        · funext k'; simp [nextPrev, bump]
      · have hr : reconcileFails shapeOf k sc = false := by
          rw [← syncFails_eq_reconcileFails]; simpa using hf
        simp only [hf]
        constructor
        · simp [stepOk, hr]
        · funext k'; simp [nextPrev, reset]

/-- the worker monitor is true on the model, for every script and every starting state -/
theorem run_workerOk (shapeOf : Key → Shape) (ops : List Op) :
    ∀ st : WState, workerOk shapeOf st.fails ops (run shapeOf st ops).2 = true := by
  induction ops with
  | nil => intro st; rfl
  | cons op ops ih =>
    intro st
    simp only [run, workerOk]
    obtain ⟨h1, h2⟩ := step_ok shapeOf st op
    rw [h1, h2]
    exact ih _

end Asts.Events
