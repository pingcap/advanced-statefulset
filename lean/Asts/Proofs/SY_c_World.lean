import Asts.Proofs.SY_c_Sync

/-! # C09 (iv): without faults the only errors are world reasons

With the empty plan no call fails by injection. What can still make a phase fail is listed here phase by phase:
the uncached read of the set says it is gone / has another uid / is being deleted while an adoption needs it; every name
the hashing offers is taken by a revision recording other data; a pod name is held by an object the set cannot use, or a
renamed pod is updated under a name nobody holds; the set is gone when its status is written. Listing, label-sync,
adoption patches, renumbering, the refreshing reads and history truncation never fail. -/
namespace Asts.SYc

theorem foldOk_all_true {α β} (f : β → α → β × Bool) (hf : ∀ b x, (f b x).2 = true) :
    ∀ (xs : List α) (init : β), (foldOk xs init f).2 = true
  | [], _ => rfl
  | x :: xs, init => by
    rw [foldOk_cons, if_pos (hf init x)]
    exact foldOk_all_true f hf xs _

/-! ### adoption of orphan revisions -/

theorem labelStep_nil (s : RevSt) (r : Rev) : (SYa.labelStep [] s r).2 = true := by
  rw [labelStep_eq]
  split_ifs
  · exact callStep_nil _ _ s
  · rfl

theorem patchStep_nil (s : RevSt) (r : Rev) : (SYa.patchStep [] s r).2 = true := by
  rw [patchStep_eq]
  split_ifs
  · rfl
  · exact callStep_nil _ _ s

/-- fault-free, what follows the listing depends on the uncached read of the set alone -/
theorem adoptTail_nil (fresh : Fresh) (revs : List Rev) (s : RevSt) :
    (adoptTail [] fresh revs s).2 = if freshOk fresh then .ok else .err := by
  unfold adoptTail freshOk
  simp only [foldOk_all_true _ labelStep_nil, foldOk_all_true _ patchStep_nil, planAt_nil, Option.isSome_none,
    Bool.not_true, Bool.false_eq_true, if_false, Bool.false_or, if_true]
  cases fresh.gone <;> cases fresh.uidOk <;> cases fresh.deleting <;> rfl

/-- fault-free, the adoption phase fails only when an orphan revision is listed, the set is not (in the cache) being
    deleted, and the uncached read finds it gone / with another uid / being deleted; it never panics -/
theorem adopt_nil (del : Bool) (fresh : Fresh) (s : RevSt) :
    (adoptOrphanRevisionsF [] del fresh s).2 = .ok ∨
    ((adoptOrphanRevisionsF [] del fresh s).2 = .err ∧ del = false ∧
      (listRevisions s.store).any (·.owner == .none) = true ∧ freshOk fresh = false) := by
  rw [adopt_eq]
  cases del with
  | true => exact Or.inl rfl
  | false =>
    rw [if_neg Bool.false_ne_true, listRevsF_nil]
    dsimp only
    split_ifs with hany
    · exact Or.inl rfl
    · rw [adoptTail_nil]
      cases hf : freshOk fresh with
      | true => exact Or.inl rfl
      | false => exact Or.inr ⟨rfl, rfl, eq_true_of_ne_false (fun hx => hany (by rw [hx]; rfl)), rfl⟩

/-! ### claiming pods -/

/-- what the claim loop has established so far, fault-free -/
def ClaimInv (del : Bool) (fresh : Fresh) (pods : List CPod) (o : ClaimOutF) : Prop :=
  (o.failed = true → freshOk fresh = false ∧ ∃ c ∈ pods, claimDecision del c = .adopt) ∧
  (∀ b, o.canAdopt = some b → b = freshOk fresh)

theorem canAdoptStep_nil (fresh : Fresh) (o : ClaimOutF) (hc : ∀ b, o.canAdopt = some b → b = freshOk fresh) :
    (canAdoptStep [] fresh o).2 = freshOk fresh ∧ (canAdoptStep [] fresh o).1.failed = o.failed ∧
    (∀ b, (canAdoptStep [] fresh o).1.canAdopt = some b → b = freshOk fresh) := by
  unfold canAdoptStep
  cases hca : o.canAdopt with
  | some b => exact ⟨hc b hca, rfl, by simpa [hca] using hc⟩
  | none =>
    simp only [planAt_nil, Option.isNone_none, Bool.true_and]
    refine ⟨?_, trivial, ?_⟩
    · unfold freshOk; rfl
    · intro b hb
      simp only [Option.some.injEq] at hb
      rw [← hb]; unfold freshOk; rfl

theorem claimStep_nil (del : Bool) (fresh : Fresh) (pods : List CPod) (o : ClaimOutF) (c : CPod) (hc : c ∈ pods)
    (h : ClaimInv del fresh pods o) : ClaimInv del fresh pods (SYa.claimStep [] del fresh o c) := by
  rw [claimStep_eq]
  cases hd : claimDecision del c <;> simp only [planAt_nil]
  · exact h
  · -- adopt
    obtain ⟨h1, h2, h3⟩ := canAdoptStep_nil fresh o h.2
    split_ifs with hcan
    · refine ⟨fun _ => ⟨?_, c, hc, hd⟩, h3⟩
      rw [← h1]; simpa using hcan
    · refine ⟨fun hf => h.1 (by rw [← h2]; exact hf), h3⟩
  · exact h
  · exact h

/-- fault-free, claiming fails only when some pod is to be adopted and the uncached read of the set refuses -/
theorem claim_nil (del : Bool) (fresh : Fresh) (pods : List CPod) (tr : Tr)
    (hf : (claimPodsF [] del fresh pods tr).failed = true) :
    freshOk fresh = false ∧ ∃ c ∈ pods, claimDecision del c = .adopt := by
  rw [SYa.claimPodsF_eq_foldl] at hf
  exact (SYa.foldl_inv (ClaimInv del fresh pods) _ pods { tr := tr } ⟨(by intro h; cases h), (by intro b h; cases h)⟩
    (fun o c hc ho => claimStep_nil del fresh pods o c hc ho)).1 hf

/-! ### revisions -/

/-- fault-free, renumbering succeeds at the first attempt -/
theorem renumberF_nil (name : String) (n : Int) (fuel : Nat) (s : RevSt) :
    renumberF [] name n (fuel + 1) s =
      ({ store := s.store.map (fun r => if r.name == name then { r with number := n } else r),
         tr := { log := s.tr.log ++ [kUpdateRev name] } }, true) := by
  rw [renumberF_succ]; rfl

/-- every name the hashing offers for this data, from collision count `cc` on for `fuel` steps, is taken by a stored
    revision recording other data -/
def probeFails (h : Hashing) (fresh : Rev) (store : List Rev) : Nat → Int → Bool
  | 0, _ => true
  | fuel + 1, cc =>
    match store.find? (·.name == h.nameOf fresh.data cc) with
    | none => false
    | some ex => if ex.data == fresh.data then false else probeFails h fresh store fuel (cc + 1)

/-- fault-free, `createControllerRevision` fails exactly when it runs out of names -/
theorem createRevLoopF_nil (h : Hashing) (fresh : Rev) :
    ∀ (fuel : Nat) (cc : Int) (s : RevSt),
      (createRevLoopF h [] fresh fuel cc s).2 = none ↔ probeFails h fresh s.store fuel cc = true
  | 0, _, _ => by simp [createRevLoopF, probeFails]
  | fuel + 1, cc, s => by
    rw [createRevLoopF_succ]
    unfold probeFails
    simp only [planAt_nil]
    cases hex : s.store.find? (fun r : Rev => r.name == h.nameOf fresh.data cc) with
    | none => simp
    | some ex =>
      simp only [Option.isSome_some, if_true]
      split_ifs with hd
      · simp
      · exact createRevLoopF_nil h fresh fuel (cc + 1) _

theorem pickF_nil (h : Hashing) (fresh : Rev) (cc0 : Int) (revs : List Rev) (s : RevSt) :
    (SYa.pickF h [] fresh cc0 revs s).2 = none → probeFails h fresh s.store (s.store.length + 8) cc0 = true := by
  unfold SYa.pickF
  split
  · rename_i e l _ _
    by_cases h1 : equalRev l e = true
    · rw [if_pos h1]
      exact fun hf => nomatch hf
    · rw [if_neg h1]
      by_cases h2 : (e.number == fresh.number) = true
      · rw [if_pos h2]
        exact fun hf => nomatch hf
      · rw [if_neg h2, renumberF_nil]
        exact fun hf => nomatch hf
  · exact (createRevLoopF_nil h fresh _ _ _).1

/-- fault-free, `getStatefulSetRevisions` fails only by running out of revision names -/
theorem getRevisionsF_nil (h : Hashing) (template scr : String) (cc0 : Int) (revs : List Rev) (s : RevSt)
    (hf : (getRevisionsF h [] template scr cc0 revs s).2 = none) :
    probeFails h (freshRev h template cc0 revs) s.store (s.store.length + 8) cc0 = true := by
  rw [SYa.getRevisionsF_eq] at hf
  rcases hp : SYa.pickF h [] (SYa.freshRev h template cc0 revs) cc0 revs s with ⟨s1, _ | ⟨upd, cc⟩⟩
  · exact pickF_nil h (SYa.freshRev h template cc0 revs) cc0 revs s (by rw [hp])
  · rw [hp] at hf
    cases hf

/-! ### history truncation never fails without faults -/

/-- fault-free, `truncateHistory` does not fail as long as the listed revisions have pairwise different names and are
    all still stored -/
theorem truncateF_nil (limit : Option Int) (podRevs : List String) (revs : List Rev) (cur upd : Rev) (s : RevSt)
    (hnd : (revs.map (·.name)).Nodup) (hin : ∀ r ∈ revs, s.store.any (·.name == r.name) = true) :
    (truncateF [] limit podRevs revs cur upd s).2 ≠ .err := by
  rw [SYa.truncateF_eq]
  cases limit with
  | none => simp
  | some lim =>
    simp only
    have hsub : ((SYa.historyOf podRevs revs cur upd).take ((SYa.historyOf podRevs revs cur upd).length - lim.toNat)).Sublist revs :=
      (List.take_sublist _ _).trans List.filter_sublist
    by_cases h1 : ((SYa.historyOf podRevs revs cur upd).length : Int) ≤ lim
    · rw [if_pos h1]
      exact Outcome.noConfusion
    · rw [if_neg h1, SYa.foldOk_truncStep_nil _ s (fun r hr => hin r (hsub.subset hr)) (hnd.sublist (hsub.map _))]
      exact Outcome.noConfusion

/-! ### names: what `getStatefulSetRevisions` does to the store -/

/-- `nm` is the name of a stored revision -/
def HasName (store : List Rev) (nm : String) : Prop := store.any (·.name == nm) = true

theorem hasName_of_mem {store : List Rev} {r : Rev} (h : r ∈ store) : HasName store r.name := by
  unfold HasName; simp only [List.any_eq_true, beq_iff_eq]; exact ⟨r, h, rfl⟩

theorem hasName_of_map_eq {a b : List Rev} (h : a.map (·.name) = b.map (·.name)) {nm : String} (hb : HasName b nm) :
    HasName a nm := by
  unfold HasName at hb ⊢
  simp only [List.any_eq_true, beq_iff_eq] at hb ⊢
  obtain ⟨x, hx, e⟩ := hb
  have : nm ∈ a.map (·.name) := by rw [h, ← e]; exact List.mem_map_of_mem hx
  obtain ⟨y, hy, e'⟩ := List.mem_map.1 this
  exact ⟨y, hy, e'⟩

/-- `getStatefulSetRevisions` removes no name from the store: it renumbers, or inserts one revision -/
theorem getRevisionsF_hasName (h : Hashing) (plan : List Fault) (template scr : String) (cc0 : Int) (revs : List Rev)
    (s : RevSt) (nm : String) (hs : HasName s.store nm) :
    HasName (getRevisionsF h plan template scr cc0 revs s).1.store nm := by
  rcases (SYa.getRevisionsF_spec h plan template scr cc0 revs s).1 with ⟨g, hg, e⟩ | ⟨r, e, _⟩
  · rw [e]
    refine hasName_of_map_eq ?_ hs
    rw [List.map_map]
    exact List.map_congr_left (fun x _ => (hg x).1)
  · rw [e]
    unfold HasName at hs ⊢
    simp only [List.any_eq_true, beq_iff_eq] at hs ⊢
    obtain ⟨x, hx, e'⟩ := hs
    exact ⟨x, mem_insertByName.2 (Or.inr hx), e'⟩

/-- a failed probe found every offered name among the stored ones -/
theorem probeFails_names (h : Hashing) (fresh : Rev) (store : List Rev) :
    ∀ (fuel : Nat) (cc : Int), probeFails h fresh store fuel cc = true →
      ∀ j, j < fuel → h.nameOf fresh.data (cc + j) ∈ store.map (·.name)
  | 0, _, _, j, hj => by omega
  | fuel + 1, cc, hp, j, hj => by
    unfold probeFails at hp
    cases hex : store.find? (fun r : Rev => r.name == h.nameOf fresh.data cc) with
    | none => rw [hex] at hp; cases hp
    | some ex =>
      rw [hex] at hp
      simp only at hp
      split_ifs at hp
      cases j with
      | zero =>
        have hm := List.mem_of_find?_eq_some hex
        have hn := List.find?_some hex
        simp only [beq_iff_eq] at hn
        simp only [Int.natCast_zero, Int.add_zero]
        rw [← hn]; exact List.mem_map_of_mem hm
      | succ j =>
        have := probeFails_names h fresh store fuel (cc + 1) hp j (by omega)
        have e : cc + 1 + (j : Int) = cc + ((j + 1 : Nat) : Int) := by push_cast; omega
        rw [e] at this; exact this

/-- a hashing that really depends on the collision count never runs out of names: reason 3 needs a colliding hashing -/
theorem probeFails_false_of_injective (h : Hashing) (fresh : Rev) (store : List Rev) (fuel : Nat) (cc : Int)
    (hinj : ∀ c1 c2, h.nameOf fresh.data c1 = h.nameOf fresh.data c2 → c1 = c2) (hfuel : store.length < fuel) :
    probeFails h fresh store fuel cc = false := by
  by_contra hne
  have hp : probeFails h fresh store fuel cc = true := by simpa using hne
  have hnames := probeFails_names h fresh store fuel cc hp
  let L := (List.range fuel).map (fun (j : Nat) => h.nameOf fresh.data (cc + (j : Int)))
  have hnd : L.Nodup := by
    refine (List.nodup_range).map_on ?_
    intro a _ b _ hab
    have := hinj _ _ hab
    omega
  have hsub : L ⊆ store.map (·.name) := by
    intro x hx
    obtain ⟨j, hj, rfl⟩ := List.mem_map.1 hx
    exact hnames j (List.mem_range.1 hj)
  have := (hnd.subperm hsub).length_le
  simp only [L, List.length_map, List.length_range] at this
  omega

/-! ### the reconcile: what `podFaults` contains when nothing is injected -/

/-- ordinals (below 64) whose pod Update would fail although nothing is injected -/
def updFaultsOf (setName : String) (pods claimed : List CPod) (b : Int) (E : List Int) : Faults :=
  ((List.range 64).map Int.ofNat).filterMap fun o =>
    if (updateResult setName [] pods claimed b E o).2 then none else some (2, o)

/-- ordinals whose canonical pod name is held by an object the reconcile does not have in that slot -/
def squatOf (setName : String) (pods claimed : List CPod) (b : Int) (E : List Int) : Faults :=
  (pods.filter (fun c => c.name == canonicalName setName c.pod.ord &&
      !(claimed.any (·.pod.id == c.pod.id) &&
        ((occupantAt claimed b E c.pod.ord).map (·.pod.id)) == some c.pod.id))).map (fun c => (0, c.pod.ord))

theorem podFaults_nil (setName : String) (pods claimed : List CPod) (b : Int) (E : List Int) :
    podFaults setName [] pods claimed b E = updFaultsOf setName pods claimed b E ++ squatOf setName pods claimed b E := rfl

/-- fault-free, a pod Update fails only for a pod with a non-canonical name (`web-03`) whose canonical name nobody holds -/
theorem updateResult_nil (setName : String) (pods claimed : List CPod) (b : Int) (E : List Int) (o : Int) :
    (updateResult setName [] pods claimed b E o).2 = false →
    ∃ c, occupantAt claimed b E o = some c ∧ c.name ≠ canonicalName setName o ∧
      pods.any (·.name == canonicalName setName o) = false := by
  unfold updateResult
  dsimp only
  cases occupantAt claimed b E o with
  | none =>
    rw [SYa.updateAttempts_nil]
    exact fun hf => nomatch hf
  | some c =>
    dsimp only
    split_ifs with hne
    · exact fun hf => ⟨c, rfl, by simpa using hne, hf⟩
    · rw [SYa.updateAttempts_nil]
      exact fun hf => nomatch hf

theorem mem_updFaultsOf {setName : String} {pods claimed : List CPod} {b : Int} {E : List Int} {v : Nat} {o : Int}
    (h : (v, o) ∈ updFaultsOf setName pods claimed b E) :
    v = 2 ∧ (updateResult setName [] pods claimed b E o).2 = false := by
  unfold updFaultsOf at h
  simp only [List.mem_filterMap] at h
  obtain ⟨o', _, ho'⟩ := h
  split_ifs at ho' with hr
  simp only [Option.some.injEq, Prod.mk.injEq] at ho'
  obtain ⟨rfl, rfl⟩ := ho'
  exact ⟨rfl, by simpa using hr⟩

theorem mem_squatOf {setName : String} {pods claimed : List CPod} {b : Int} {E : List Int} {v : Nat} {o : Int}
    (h : (v, o) ∈ squatOf setName pods claimed b E) :
    v = 0 ∧ ∃ c ∈ pods, c.pod.ord = o ∧ c.name = canonicalName setName o := by
  unfold squatOf at h
  simp only [List.mem_map, List.mem_filter, Prod.mk.injEq] at h
  obtain ⟨c, ⟨hc, hcond⟩, rfl, rfl⟩ := h
  simp only [Bool.and_eq_true, beq_iff_eq] at hcond
  exact ⟨rfl, c, hc, rfl, hcond.1⟩

/-- fault-free, the reconcile ends `.err` only at a create whose pod name is held by an object of the snapshot that is not
    (for the reconcile) the pod of that slot, or at the update of a renamed pod whose canonical name nobody holds -/
theorem reconcile_nil_err (v : SetView) (cur upd : String) (ps : List Pod) (setName : String) (pods claimed : List CPod)
    (b : Int) (E : List Int)
    (he : (updateStatefulSet v cur upd ps (podFaults setName [] pods claimed b E)).2 = .err) :
    ∃ l a, (updateStatefulSet v cur upd ps (podFaults setName [] pods claimed b E)).1.acts = l ++ [a] ∧
      ((∃ o r, a = .create o r ∧ (0, o) ∈ squatOf setName pods claimed b E ∧
          ∃ c ∈ pods, c.pod.ord = o ∧ c.name = canonicalName setName o) ∨
       (∃ o, a = .update o ∧ (2, o) ∈ updFaultsOf setName pods claimed b E ∧
          ∃ c, occupantAt claimed b E o = some c ∧ c.name ≠ canonicalName setName o ∧
            pods.any (·.name == canonicalName setName o) = false)) := by
  obtain ⟨l, a, e, _, ha⟩ := updateStatefulSet_err_hit v cur upd ps _ he
  refine ⟨l, a, e, ?_⟩
  rw [podFaults_nil] at ha
  cases a with
  | create o r =>
    simp only [hitAct, Faults.hit, List.contains_iff_mem, List.mem_append] at ha
    rcases ha with ha | ha
    · exact absurd (mem_updFaultsOf ha).1 (by decide)
    · exact Or.inl ⟨o, r, rfl, ha, (mem_squatOf ha).2⟩
  | delete o id w =>
    simp only [hitAct, Faults.hit, List.contains_iff_mem, List.mem_append] at ha
    rcases ha with ha | ha
    · exact absurd (mem_updFaultsOf ha).1 (by decide)
    · exact absurd (mem_squatOf ha).1 (by decide)
  | update o =>
    simp only [hitAct, Faults.hit, List.contains_iff_mem, List.mem_append] at ha
    rcases ha with ha | ha
    · exact Or.inr ⟨o, rfl, ha, updateResult_nil _ _ _ _ _ _ (mem_updFaultsOf ha).2⟩
    · exact absurd (mem_squatOf ha).1 (by decide)

/-! ### the whole sync -/

/-- state after the (fault-free) adoption of orphan revisions -/
def wrStore (i : SyncIn) : RevSt := (adoptOrphanRevisionsF [] i.view.deleting i.fresh { store := i.store }).1
/-- pods the (fault-free) claim delivers -/
def wrClaimed (i : SyncIn) : List CPod := (claimPodsF [] i.view.deleting i.fresh i.pods (wrStore i).tr).claimed
/-- the sorted listing the reconcile works with -/
def wrRevs (i : SyncIn) : List Rev := sortRevs (listRevisions (wrStore i).store)

/-- **the world reasons**: what can make a sync fail although no call fails by injection.
    1. an orphan revision is to be adopted, 2. a pod is to be adopted — and the uncached read of the set finds it gone,
    with another uid, or being deleted; 3. every revision name the hashing offers is taken by a revision recording another
    template; 4. a pod name the reconcile could need is held by an object that is not (for it) the pod of that slot;
    5. a pod with a non-canonical name would be updated under a canonical name nobody holds; 6. the set is gone (status
    write answers NotFound). -/
def worldReason (h : Hashing) (i : SyncIn) : Bool :=
  let cc0 := i.collisionCount.getD 0
  let bE := maxReplicaAndSlots (i.view.replicas.getD 0) i.view.slots
  (!i.view.deleting && (listRevisions i.store).any (·.owner == .none) && !freshOk i.fresh) ||
  (i.pods.any (fun c => claimDecision i.view.deleting c == .adopt) && !freshOk i.fresh) ||
  probeFails h (freshRev h i.template cc0 (wrRevs i)) (wrStore i).store ((wrStore i).store.length + 8) cc0 ||
  !(squatOf i.setName i.pods (wrClaimed i) bE.1 bE.2).isEmpty ||
  !(updFaultsOf i.setName i.pods (wrClaimed i) bE.1 bE.2).isEmpty ||
  i.fresh.gone

/-- fault-free, the last stage reports an error only if the reconcile did or the set is gone at the status write -/
theorem finishCore_nil_err (i : SyncIn) (claimed : List CPod) (revs : List Rev) (cur upd : Rev) (cc : Int)
    (s : RevSt) (st : St) (out : Outcome)
    (he : (SYa.finishCore i [] claimed revs cur upd cc s st out).outcome = .err)
    (hnd : (revs.map (·.name)).Nodup) (hin : ∀ r ∈ revs, s.store.any (·.name == r.name) = true) :
    out = .err ∨ i.fresh.gone = true := by
  rcases SYa.finishCore_cases i [] claimed revs cur upd cc s st out with
    ⟨_, e⟩ | ⟨_, _, hw, _⟩ | ⟨_, _, _, t, rfl, e⟩ | ⟨_, _, t, rfl, e⟩
  · rw [e] at he
    exact Or.inl he
  · rw [SYa.statusWriteF_nil] at hw
    exact Or.inr (by simpa using hw)
  · rw [e] at he
    exact absurd he (truncateF_nil _ _ revs cur upd _ hnd hin)
  · rw [e] at he
    exact absurd he (truncateF_nil _ _ revs cur upd _ hnd hin)

/-- **C09 (iv)**: a fault-free sync that ends with an error has a world reason. -/
theorem syncF_nil_err (h : Hashing) (i : SyncIn) (he : (syncF h i []).outcome = .err) : worldReason h i = true := by
  rw [SYa.syncF_eq] at he
  split_ifs at he with hp
  · have ha := adopt_nil i.view.deleting i.fresh { store := i.store }
    have hws : wrStore i = (adoptOrphanRevisionsF [] i.view.deleting i.fresh { store := i.store }).1 := rfl
    rcases has : adoptOrphanRevisionsF [] i.view.deleting i.fresh { store := i.store } with ⟨s, out⟩
    rw [has] at ha he hws
    simp only at ha hws
    rcases ha with rfl | ⟨rfl, h1, h2, h3⟩
    · -- adoption went through
      simp only at he
      unfold SYa.afterClaimF at he
      have hwc : wrClaimed i = (claimPodsF [] i.view.deleting i.fresh i.pods s.tr).claimed := by
        unfold wrClaimed; rw [hws]
      split_ifs at he with hf
      · -- a pod adoption was refused
        obtain ⟨hfo, c, hc, hd⟩ := claim_nil _ _ _ _ hf
        unfold worldReason
        have : i.pods.any (fun c => claimDecision i.view.deleting c == .adopt) = true := by
          simp only [List.any_eq_true, beq_iff_eq]; exact ⟨c, hc, hd⟩
        simp only [hfo, Bool.not_false, Bool.and_true, this, Bool.and_self, Bool.or_true, Bool.true_or]
      · rw [listRevsF_nil] at he
        simp only at he
        rcases hg : getRevisionsF h [] i.template i.stored.currentRev (i.collisionCount.getD 0)
            (sortRevs (listRevisions s.store))
            { store := s.store, tr := { log := (claimPodsF [] i.view.deleting i.fresh i.pods s.tr).tr.log ++ ["list:revs", "list:revs"] } }
          with ⟨s2, _ | ⟨cur, upd, cc⟩⟩
        · -- out of revision names
          have := getRevisionsF_nil h _ _ _ _ _ (by rw [hg])
          unfold worldReason wrRevs
          rw [hws]
          simp only at this
          simp only [this, Bool.or_true, Bool.true_or]
        · rw [hg] at he
          simp only at he
          have hs2 : ∀ nm, HasName s.store nm → HasName s2.store nm := by
            intro nm hnm
            have := getRevisionsF_hasName h [] i.template i.stored.currentRev (i.collisionCount.getD 0)
              (sortRevs (listRevisions s.store))
              { store := s.store, tr := { log := (claimPodsF [] i.view.deleting i.fresh i.pods s.tr).tr.log ++ ["list:revs", "list:revs"] } }
              nm hnm
            rw [hg] at this; exact this
          unfold SYa.finishF at he
          rcases finishCore_nil_err i _ (sortRevs (listRevisions s.store)) cur upd cc _ _ _ he
              (sorted_listing_spec s.store).2
              (fun r hr => hs2 r.name (hasName_of_mem ((sorted_listing_spec s.store).1 r hr).2.1)) with hout | hgone
          · -- the reconcile failed
            obtain ⟨l, a, _, hreason⟩ := reconcile_nil_err i.view cur.name upd.name _ i.setName i.pods
              (claimPodsF [] i.view.deleting i.fresh i.pods s.tr).claimed (SYa.rangeOf i).1 (SYa.rangeOf i).2 hout
            unfold worldReason
            rw [hwc]
            rcases hreason with ⟨o, r, _, hmem, _⟩ | ⟨o, _, hmem, _⟩
            · have : (squatOf i.setName i.pods (claimPodsF [] i.view.deleting i.fresh i.pods s.tr).claimed
                  (SYa.rangeOf i).1 (SYa.rangeOf i).2).isEmpty = false := by
                cases hsq : squatOf i.setName i.pods (claimPodsF [] i.view.deleting i.fresh i.pods s.tr).claimed
                    (SYa.rangeOf i).1 (SYa.rangeOf i).2 with
                | nil => rw [hsq] at hmem; cases hmem
                | cons _ _ => rfl
              unfold SYa.rangeOf at this
              simp only [this, Bool.not_false, Bool.or_true, Bool.true_or]
            · have : (updFaultsOf i.setName i.pods (claimPodsF [] i.view.deleting i.fresh i.pods s.tr).claimed
                  (SYa.rangeOf i).1 (SYa.rangeOf i).2).isEmpty = false := by
                cases hsq : updFaultsOf i.setName i.pods (claimPodsF [] i.view.deleting i.fresh i.pods s.tr).claimed
                    (SYa.rangeOf i).1 (SYa.rangeOf i).2 with
                | nil => rw [hsq] at hmem; cases hmem
                | cons _ _ => rfl
              unfold SYa.rangeOf at this
              simp only [this, Bool.not_false, Bool.or_true, Bool.true_or]
          · unfold worldReason
            simp only [hgone, Bool.or_true]
    · -- an orphan revision could not be adopted
      unfold worldReason
      simp only [h1, Bool.not_false, h2, Bool.and_self, h3, Bool.and_true, Bool.true_or]

end Asts.SYc
