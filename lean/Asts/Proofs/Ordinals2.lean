import Asts.Proofs.Ordinals

namespace Asts
open List

theorem length_filter_not_mem {l K : List Int} (hl : l.Nodup) (hK : K.Nodup) (hsub : ∀ x ∈ K, x ∈ l) :
    (l.filter (fun i => !K.contains i)).length + K.length = l.length := by
  have h1 : (l.filter (fun i => K.contains i)).length = K.length := by
    have hn : (l.filter (fun i => K.contains i)).Nodup := hl.filter _
    rw [← List.toFinset_card_of_nodup hn, ← List.toFinset_card_of_nodup hK]
    congr 1
    ext x; simp only [List.mem_toFinset, List.mem_filter, List.contains_iff_mem]
    constructor
    · exact fun h => h.2
    · exact fun h => ⟨hsub x h, h⟩
  have h2 := List.length_eq_length_filter_add (l := l) (fun i => K.contains i)
  rw [h1] at h2
  omega

theorem mem_range_ofNat {b x : Int} : x ∈ (List.range b.toNat).map Int.ofNat ↔ 0 ≤ x ∧ x < b := by
  rw [List.mem_map]
  constructor
  · rintro ⟨n, hn, rfl⟩
    have := List.mem_range.1 hn
    exact ⟨Int.natCast_nonneg n, by rw [Int.ofNat_eq_natCast]; omega⟩
  · rintro ⟨h0, h1⟩
    exact ⟨x.toNat, List.mem_range.2 ((Int.toNat_lt_toNat (h0.trans_lt h1)).2 h1), Int.toNat_of_nonneg h0⟩

theorem podOrdinals_of_neg {r : Int} (hr : r < 0) (S : List Int) : podOrdinals r S = [] := by
  have h : maxReplicaAndSlots r S = (r, []) := extend_of_forall_not (fun s _ => by omega)
  simp only [podOrdinals, h, Int.toNat_of_nonpos hr.le, List.range_zero, List.map_nil, List.filter_nil]

theorem helper_isDesired (r : Int) (S : List Int) (hr : 0 ≤ r) :
    IsDesired r.toNat S (podOrdinals r S) := by
  have hsort := sorted_dedupSort S
  obtain ⟨hb, hK⟩ := extend_spec hsort r hr
  -- `b` the final bound, `K` the slots in effect: those of `S` in `[0, b)`
  generalize hbdef : (extend r (dedupSort S)).1 = b at hb hK
  generalize hKdef : (extend r (dedupSort S)).2 = K at hb hK
  have hpo : podOrdinals r S = ((List.range b.toNat).map Int.ofNat).filter (fun i => !K.contains i) := by
    rw [← hbdef, ← hKdef]; rfl
  have hKmem : ∀ x, x ∈ K ↔ x ∈ S ∧ 0 ≤ x ∧ x < b := by
    intro x
    rw [hK, List.mem_filter, mem_dedupSort, Bool.and_eq_true, decide_eq_true_eq, decide_eq_true_eq]
  have hmem : ∀ x, x ∈ podOrdinals r S ↔ (0 ≤ x ∧ x < b) ∧ x ∉ K := by
    intro x
    rw [hpo, List.mem_filter, mem_range_ofNat, Bool.not_eq_true', List.contains_eq_mem, decide_eq_false_iff_not]
  refine ⟨?_, ?_, fun o ho => ((hmem o).1 ho).1.1, ?_, ?_⟩
  · rw [hpo]
    refine List.Pairwise.filter _ (List.pairwise_map.2 ?_)
    exact List.pairwise_lt_range.imp Int.ofNat_lt.2
  · -- the `b` candidates lose the `|K| = b - r` slots in effect
    have hKnodup : K.Nodup := hK ▸ (hsort.imp ne_of_lt).filter _
    have hlnodup : ((List.range b.toNat).map Int.ofNat).Nodup :=
      List.nodup_range.map (fun _ _ h => Int.ofNat.inj h)
    have hsub : ∀ x ∈ K, x ∈ (List.range b.toNat).map Int.ofNat :=
      fun x hx => mem_range_ofNat.2 ((hKmem x).1 hx).2
    have := length_filter_not_mem hlnodup hKnodup hsub
    have hbt : b.toNat = r.toNat + K.length := by rw [hb, Int.toNat_add_nat hr]
    rw [List.length_map, List.length_range] at this
    rw [hpo]
    exact Nat.add_right_cancel (this.trans hbt)
  · intro o ho hoS
    have := (hmem o).1 ho
    exact this.2 ((hKmem o).2 ⟨hoS, this.1⟩)
  · intro o ho n hn0 hno hnS
    have := (hmem o).1 ho
    exact (hmem n).2 ⟨⟨hn0, lt_trans hno this.1.2⟩, fun hnK => hnS ((hKmem n).1 hnK).1⟩

/-- The helper meets the specification for every `r`: below zero both the set and the count are empty. -/
theorem podOrdinals_isDesired (r : Int) (S : List Int) : IsDesired r.toNat S (podOrdinals r S) := by
  rcases lt_or_ge r 0 with hr | hr
  · rw [podOrdinals_of_neg hr, Int.toNat_of_nonpos hr.le]
    exact ⟨.nil, rfl, fun _ h => (nomatch h), fun _ h => (nomatch h), fun _ h => (nomatch h)⟩
  · exact helper_isDesired r S hr

theorem isDesired_subset {r : Nat} {S O₁ O₂ : List Int} (h₁ : IsDesired r S O₁) (h₂ : IsDesired r S O₂) :
    ∀ o ∈ O₁, o ∈ O₂ := by
  intro o ho
  by_contra hno
  -- every element of O₂ lies below o (otherwise o would be in O₂ by minimality) and hence in O₁ \ {o}
  have hlt : ∀ p ∈ O₂, p < o := by
    intro p hp
    by_contra hge
    have hne : p ≠ o := fun h => hno (h ▸ hp)
    have : o < p := by omega
    exact hno (h₂.least p hp o (h₁.nonneg o ho) this (h₁.noSlot o ho))
  have hsub : O₂ ⊆ O₁.erase o := by
    intro p hp
    have hp1 : p ∈ O₁ := h₁.least o ho p (h₂.nonneg p hp) (hlt p hp) (h₂.noSlot p hp)
    exact (List.mem_erase_of_ne (by have := hlt p hp; omega)).2 hp1
  have hnd₂ : O₂.Nodup := h₂.sorted.imp (fun h => ne_of_lt h)
  have hlen := (List.subperm_of_subset hnd₂ hsub).length_le
  rw [List.length_erase_of_mem ho, h₁.len, h₂.len] at hlen
  have : 0 < r := by rw [← h₁.len]; exact List.length_pos_of_mem ho
  omega

theorem isDesired_unique {r : Nat} {S O₁ O₂ : List Int} (h₁ : IsDesired r S O₁) (h₂ : IsDesired r S O₂) :
    O₁ = O₂ := by
  have hnd₁ : O₁.Nodup := h₁.sorted.imp (fun h => ne_of_lt h)
  have hnd₂ : O₂.Nodup := h₂.sorted.imp (fun h => ne_of_lt h)
  have hperm : O₁.Perm O₂ :=
    (List.perm_ext_iff_of_nodup hnd₁ hnd₂).2 (fun a => ⟨isDesired_subset h₁ h₂ a, isDesired_subset h₂ h₁ a⟩)
  exact hperm.eq_of_pairwise (le := (· ≤ ·)) (fun a b _ _ hab hba => le_antisymm hab hba)
    (h₁.sorted.imp le_of_lt) (h₂.sorted.imp le_of_lt)

end Asts
