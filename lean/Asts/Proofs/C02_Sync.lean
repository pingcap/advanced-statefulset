import Asts.Proofs.C02_Quiet
import Asts.Proofs.Sync_Stages

/-! C02: the sync of a world whose revisions and pod claims need no work, computed up to the reconcile (empty fault plan), and
    from it the whole sync of a `Final` world. -/
namespace Asts.C02p
open Asts Asts.L1c

theorem revsFinal_iff (h : Hashing) (i : SyncIn) : revsFinal h i = true ↔
    ∃ l, (listedRevs i).getLast? = some l ∧ l.name = i.stored.updateRev ∧
      equalRev l (freshRev h i (listedRevs i)) = true ∧
      (listedRevs i).any (·.name == i.stored.currentRev) = true ∧
      (listRevisions i.store).any (·.owner == .none) = false ∧
      ∃ lim, i.historyLimit = some lim ∧
        ((((listedRevs i).filter (fun r => !(i.stored.currentRev :: i.stored.updateRev :: (ownPods i).map (·.pod.rev)).contains r.name
            && r.owner == .self)).length : Nat) : Int) ≤ lim := by
  simp only [revsFinal]
  cases hl : (listedRevs i).getLast? with
  | none => simp only [reduceCtorEq, Bool.false_eq_true, false_and, exists_false]
  | some l =>
    simp only [Bool.and_eq_true, beq_iff_eq, Bool.not_eq_true', Option.some.injEq, exists_eq_left']
    cases hlim : i.historyLimit with
    | none => simp only [reduceCtorEq, Bool.false_eq_true, false_and, and_false, exists_false]
    | some lim => simp only [decide_eq_true_eq, and_assoc, Option.some.injEq, exists_eq_left']

theorem find_name {revs : List Rev} {n : String} (l : Rev) (h : revs.any (·.name == n) = true) :
    ((revs.find? (·.name == n)).getD l).name = n := by
  cases hf : revs.find? (·.name == n) with
  | none =>
    rw [List.find?_eq_none] at hf
    rw [List.any_eq_true] at h
    obtain ⟨x, hx, hxn⟩ := h
    exact absurd hxn (hf x hx)
  | some x => simpa using List.find?_some hf

theorem goodPods_of_final {i : SyncIn} (hs : SpecOk i) (hp : PodsFinal i) :
    GoodPods i.view i.stored.updateRev (maxReplicaAndSlots (replicasOf i.view) i.view.slots).1
      (maxReplicaAndSlots (replicasOf i.view) i.view.slots).2 ((ownPods i).map (·.pod)) := by
  constructor
  · intro p hpm
    rw [List.mem_map] at hpm
    obtain ⟨c, hc, rfl⟩ := hpm
    unfold ownPods at hc
    rw [List.mem_filter] at hc
    obtain ⟨a1, a2, a3, a4, a5, a6, a7, a8⟩ := hp.own c hc.1 (by simpa using hc.2)
    refine ⟨a5, a6, a7, ?_, fun hod hpart => ?_⟩
    · rw [desired_eq_idxOf] at a4
      exact mem_idxOf.1 a4
    · rcases hs.strat with h | h
      · exact a8 h hpart
      · exact absurd h hod
  · intro o ho
    have : o ∈ desired (replicasOf i.view) i.view.slots := by
      rw [desired_eq_idxOf]; exact mem_idxOf.2 ho
    obtain ⟨c, hc, hco⟩ := hp.full o this
    exact ⟨c.pod, List.mem_map.2 ⟨c, hc, rfl⟩, hco⟩

/-- **the sync of a world whose revisions and pod claims need no work** is the reconcile on the owned pods -/
theorem syncF_quietRevs (h : Hashing) (i : SyncIn) (hs : SpecOk i)
    (hno : (listRevisions i.store).any (·.owner == .none) = false) (hw : NoClaimWork i.pods)
    (l : Rev) (hl : (listedRevs i).getLast? = some l) (heq : equalRev l (freshRev h i (listedRevs i)) = true) :
    syncF h i [] =
      SYa.finishF i [] (ownPods i) (listedRevs i) (((listedRevs i).find? (·.name == i.stored.currentRev)).getD l) l
        (i.collisionCount.getD 0)
        { store := i.store, tr := { log := ["list:revs", "list:revs", "list:revs", "list:revs"] } } := by
  rw [SYa.syncF_eq]
  simp only [hs.paused, hs.sel, Bool.not_true, Bool.or_self, Bool.false_eq_true, if_false, hs.del]
  rw [adopt_no_orphan i.fresh { store := i.store } hno]
  simp only
  rw [claimPodsF_noWork i.fresh i.pods _ hw]
  unfold SYa.afterClaimF
  simp only [Bool.false_eq_true, if_false]
  rw [listRevsF_nil]
  simp only
  unfold listedRevs freshRev at *
  rw [getRevisionsF_final h _ _ _ _ _ l hl heq]
  simp only [List.nil_append, List.cons_append]
  rfl

/-- **the sync of a `Final` world**: four list calls, nothing written, nothing done, `.ok` -/
theorem syncF_final (h : Hashing) (i : SyncIn) (hf : Final h i) :
    syncF h i [] = { log := ["list:revs", "list:revs", "list:revs", "list:revs"], status := none, cc := none, store := i.store,
                     cur := i.stored.currentRev, upd := i.stored.updateRev, claimed := ownPods i, acts := [], actsDone := 0,
                     outcome := .ok } := by
  have hs := (specOk_iff i).1 hf.spec
  have hp := (podsFinal_iff i).1 hf.pods
  obtain ⟨l, hl, hln, hleq, hcur, hno, lim, hlim, hhist⟩ := (revsFinal_iff h i).1 hf.revs
  have hst := hf.status
  have hcn := find_name l hcur
  have hg := goodPods_of_final hs hp
  rw [← hln] at hg
  rw [syncF_quietRevs h i hs hno hp.noClaimWork l hl hleq]
  unfold SYa.finishF SYa.reconcileOf SYa.rangeOf
  rw [updateStatefulSet_quiet _ _ _ _ _ (replicasOf i.view) hs.rep hs.del hg]
  unfold SYa.finishCore SYa.reached
  simp only [List.map_nil, List.flatten_nil, List.append_nil, hlim, hcn, hln]
  rw [show inconsistentStatus i.stored (completeRollingUpdate i.view
    (st0Of i.view i.stored.currentRev i.stored.updateRev ((ownPods i).map (·.pod)))) = false from hst]
  simp only [Bool.false_eq_true, if_false]
  rw [truncateF_within _ _ _ _ _ _ _ (by rw [hcn, hln]; exact hhist)]
  rfl

end Asts.C02p
