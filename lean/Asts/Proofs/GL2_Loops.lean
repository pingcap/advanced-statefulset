import Mathlib.Tactic
import Asts.Proofs.L1_a_Loops
import Asts.Proofs.GL2_Rc

/-! # GL2 — what stands before a create in the action list of a reconcile

Creates are issued by the replica loop only. The replica loop visits the desired ordinals once each, in ascending order, and
at each ordinal `i` it issues at most: the delete of the Failed/Succeeded pod object stored at `i` (an object of the
snapshot that parses to `i`), then a create at `i` or an identity update at `i`. Hence every delete that stands before a
create names a pod of the snapshot at the delete's own ordinal, and no two of these deletes have the same ordinal
(`before_create`). -/
namespace Asts.GL2
open Asts

def isCreateA : Action → Bool | .create _ _ => true | _ => false

/-- ordinals of the deletes of an action list, in order -/
def delOrds (l : List Action) : List Int := l.filterMap (fun a => match a with | .delete o _ _ => some o | _ => none)

/-- a delete names a pod of the snapshot, by identity, at that pod's ordinal -/
def DelOK (pods : List Pod) : Action → Prop
  | .delete o id _ => ∃ p ∈ pods, p.id = id ∧ p.ord = o
  | _ => True

theorem delOrds_append (a b : List Action) : delOrds (a ++ b) = delOrds a ++ delOrds b :=
  List.filterMap_append

/-- the deletes of the replica loop's slots: at most one per slot, at the slot's ordinal -/
theorem delOrds_slotActs (v : SetView) (cur upd : String) (R : List (Int × Pod)) :
    (delOrds (R.flatMap (L1c.slotActs v cur upd))).Sublist (R.map (·.1)) := by
  induction R with
  | nil => exact List.Sublist.slnil
  | cons ip rest ih =>
    rw [List.flatMap_cons, delOrds_append, List.map_cons]
    refine List.Sublist.append (l₂ := [ip.1]) ?_ ih
    unfold L1c.slotActs
    cases ip.2.fs
    · rw [if_neg Bool.false_ne_true]
      cases ip.2.created
      · exact List.nil_sublist _
      · exact List.nil_sublist _
    · exact List.Sublist.refl _

/-- **what stands before a create**: every delete before it names a pod of the snapshot at the delete's own ordinal, and
    these deletes have pairwise distinct ordinals -/
theorem before_create (v : SetView) (cur upd : String) (pods : List Pod) (f : Faults) {X Y : List Action} {o : Int}
    {r : String} (h : (updateStatefulSet v cur upd pods f).1.acts = X ++ .create o r :: Y) :
    (∀ a ∈ X, DelOK pods a) ∧ (delOrds X).Nodup := by
  cases hr : v.replicas with
  | none =>
    rw [L1c.updateStatefulSet_none hr] at h
    exact absurd h (by simp)
  | some rr =>
    rw [L1c.updateStatefulSet_some hr] at h
    by_cases hd : v.deleting = true
    · rw [if_pos hd] at h
      exact absurd h (by simp)
    · rw [if_neg hd] at h
      obtain ⟨l1, l2, hsub, hdel, hacts⟩ := L1c.runLoops_acts v cur upd f (L1c.prepOf v cur upd rr pods)
      rw [hacts] at h
      -- the create stands in `l1`
      have hX : ∃ Z, l1 = X ++ .create o r :: Z := by
        rcases List.append_eq_append_iff.1 h with ⟨a', -, h2⟩ | ⟨c', h1, h2⟩
        · obtain ⟨_, _, _, hc⟩ := hdel (.create o r) (by rw [h2]; simp)
          cases hc
        · cases c' with
          | nil =>
            have h2' : Action.create o r :: Y = l2 := h2
            obtain ⟨_, _, _, hc⟩ := hdel (.create o r) (h2' ▸ List.mem_cons_self)
            cases hc
          | cons x c'' =>
            rw [List.cons_append, List.cons.injEq] at h2
            exact ⟨c'', by rw [h1, h2.1]⟩
      obtain ⟨Z, rfl⟩ := hX
      have hXsub : X.Sublist ((L1c.prepOf v cur upd rr pods).reps.flatMap (L1c.slotActs v cur upd)) :=
        (List.sublist_append_left X _).trans hsub
      constructor
      · intro a ha
        cases a with
        | create _ _ => trivial
        | update _ => trivial
        | delete o' id w =>
          -- a delete of the replica loop is that of the Failed/Succeeded pod in its slot: a pod of the snapshot
          obtain ⟨ip, hip, hmem⟩ := List.mem_flatMap.1 (hXsub.subset ha)
          obtain ⟨hfs, rfl, rfl⟩ := L1c.delete_mem_slotActs hmem
          refine ⟨ip.2, ?_, rfl, L1c.repsOf_ord hip⟩
          rcases L1c.repsOf_mem hip with hm | ⟨hn, -⟩
          · exact hm.1
          · rw [hn] at hfs
            exact absurd (L1c.fs_created hfs) (by rw [L1c.newPod_created]; exact Bool.false_ne_true)
      · refine ((hXsub.filterMap _).trans (delOrds_slotActs v cur upd _)).nodup ?_
        rw [show (L1c.prepOf v cur upd rr pods).reps.map (·.1) = _ from L1c.repsOf_fst ..]
        exact L1c.idxOf_nodup ..

end Asts.GL2
