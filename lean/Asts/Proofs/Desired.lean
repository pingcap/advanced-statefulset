import Asts.Proofs.Ordinals2
import Asts.Spec.Desired

/-! The executable specification `desired` satisfies `IsDesired`; with uniqueness, the helper equals it.
    The facts about the scan `desiredAux` are inductions along its definition: cases 1 and 2 are the empty results (out of
    fuel, nothing needed), in case 3 the position is a slot and is skipped, in case 4 it is taken. -/
namespace Asts
open List

theorem desiredAux_mem_ge {S : List Int} {fuel : Nat} {n : Int} {need : Nat} :
    ∀ o ∈ desiredAux S fuel n need, n ≤ o ∧ o ∉ S := by
  fun_induction desiredAux S fuel n need with
  | case1 => exact fun _ h => nomatch h
  | case2 => exact fun _ h => nomatch h
  | case3 fuel n need _ ih => exact fun o ho => ⟨(Int.lt_of_add_one_le (ih o ho).1).le, (ih o ho).2⟩
  | case4 fuel n need h ih =>
    intro o ho
    rcases List.mem_cons.1 ho with rfl | ho
    · exact ⟨le_refl _, fun hm => h (List.contains_iff_mem.2 hm)⟩
    · exact ⟨(Int.lt_of_add_one_le (ih o ho).1).le, (ih o ho).2⟩

theorem desiredAux_sorted {S : List Int} {fuel : Nat} {n : Int} {need : Nat} :
    (desiredAux S fuel n need).Pairwise (· < ·) := by
  fun_induction desiredAux S fuel n need with
  | case1 => exact .nil
  | case2 => exact .nil
  | case3 _ _ _ _ ih => exact ih
  | case4 fuel n need _ ih =>
    exact List.pairwise_cons.2 ⟨fun o ho => Int.lt_of_add_one_le (desiredAux_mem_ge o ho).1, ih⟩

theorem desiredAux_least {S : List Int} {fuel : Nat} {n : Int} {need : Nat} :
    ∀ o ∈ desiredAux S fuel n need, ∀ m, n ≤ m → m < o → m ∉ S → m ∈ desiredAux S fuel n need := by
  fun_induction desiredAux S fuel n need with
  | case1 => exact fun _ h => nomatch h
  | case2 => exact fun _ h => nomatch h
  | case3 fuel n need h ih =>
    intro o ho m hnm hmo hmS
    have hne : n ≠ m := fun e => hmS (e ▸ List.contains_iff_mem.1 h)
    exact ih o ho m (Int.add_one_le_of_lt (lt_of_le_of_ne hnm hne)) hmo hmS
  | case4 fuel n need _ ih =>
    intro o ho m hnm hmo hmS
    rcases eq_or_lt_of_le hnm with rfl | hlt
    · exact List.mem_cons_self
    · rcases List.mem_cons.1 ho with rfl | ho
      · exact absurd hmo (not_lt.2 hnm)
      · exact List.mem_cons_of_mem _ (ih o ho m (Int.add_one_le_of_lt hlt) hmo hmS)

/-! The slots at or above the scan position bound the steps the scan can lose. -/

theorem filter_ge_succ_sublist (S : List Int) (n : Int) :
    (S.filter (fun s => decide (n + 1 ≤ s))).Sublist (S.filter (fun s => decide (n ≤ s))) :=
  List.monotone_filter_right S fun _ h => decide_eq_true (Int.lt_of_add_one_le (of_decide_eq_true h)).le

theorem filter_ge_succ_le (S : List Int) (n : Int) :
    (S.filter (fun s => decide (n + 1 ≤ s))).length ≤ (S.filter (fun s => decide (n ≤ s))).length :=
  (filter_ge_succ_sublist S n).length_le

theorem filter_ge_succ_lt {S : List Int} {n : Int} (h : n ∈ S) :
    (S.filter (fun s => decide (n + 1 ≤ s))).length < (S.filter (fun s => decide (n ≤ s))).length := by
  refine lt_of_le_of_ne (filter_ge_succ_le S n) fun he => ?_
  -- otherwise the two filters agree, and `n` passes the second but not the first
  have hn : n ∈ S.filter (fun s => decide (n ≤ s)) := List.mem_filter.2 ⟨h, decide_eq_true le_rfl⟩
  rw [← (filter_ge_succ_sublist S n).eq_of_length he] at hn
  exact absurd (of_decide_eq_true (List.mem_filter.1 hn).2) (Int.lt_irrefl n ∘ Int.lt_of_add_one_le)

theorem desiredAux_length {S : List Int} {fuel : Nat} {n : Int} {need : Nat}
    (h : need + (S.filter (fun s => decide (n ≤ s))).length ≤ fuel) :
    (desiredAux S fuel n need).length = need := by
  fun_induction desiredAux S fuel n need with
  | case1 => exact (Nat.eq_zero_of_add_eq_zero_right (Nat.le_zero.1 h)).symm
  | case2 => rfl
  | case3 fuel n need hc ih =>
    have := filter_ge_succ_lt (List.contains_iff_mem.1 hc)
    exact ih (by omega)
  | case4 fuel n need _ ih =>
    have := filter_ge_succ_le S n
    rw [List.length_cons, ih (by omega)]

theorem desiredAux_lt {S : List Int} {fuel : Nat} {n : Int} {need : Nat} :
    ∀ o ∈ desiredAux S fuel n need, o < n + need + (S.filter (fun s => decide (n ≤ s))).length := by
  fun_induction desiredAux S fuel n need with
  | case1 => exact fun _ h => nomatch h
  | case2 => exact fun _ h => nomatch h
  | case3 fuel n need hc ih =>
    intro o ho
    have := filter_ge_succ_lt (List.contains_iff_mem.1 hc)
    have := ih o ho
    omega
  | case4 fuel n need _ ih =>
    intro o ho
    have := filter_ge_succ_le S n
    rcases List.mem_cons.1 ho with rfl | ho
    · omega
    · have := ih o ho
      omega

theorem desired_isDesired (r : Int) (S : List Int) : IsDesired r.toNat S (desired r S) := by
  unfold desired
  refine ⟨desiredAux_sorted, ?_, ?_, ?_, ?_⟩
  · apply desiredAux_length
    have := List.length_filter_le (fun s => decide ((0 : Int) ≤ s)) S
    omega
  · intro o ho; exact (desiredAux_mem_ge o ho).1
  · intro o ho; exact (desiredAux_mem_ge o ho).2
  · intro o ho m h0 hmo hmS; exact desiredAux_least o ho m h0 hmo hmS

/-- The helper computes exactly the specified set, for every `r` (negative `r`: both sides are empty). -/
theorem podOrdinals_eq_desired' (r : Int) (S : List Int) : podOrdinals r S = desired r S :=
  isDesired_unique (podOrdinals_isDesired r S) (desired_isDesired r S)

theorem podOrdinals_eq_desired (r : Int) (S : List Int) (hr : 0 ≤ r) : podOrdinals r S = desired r S :=
  isDesired_unique (helper_isDesired r S hr) (desired_isDesired r S)

end Asts
