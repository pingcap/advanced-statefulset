import Asts.Proofs.SY_c_Phases
import Asts.Proofs.SY_c_Reconcile
import Asts.Proofs.SY_a_Sync

/-! # C09 (i): the phases composed — a sync that returns success has swallowed benign failures only -/
namespace Asts.SYc

/-- keys of the pod-control calls (`create:pod:*`, `delete:pod:*`, `update:pod:*`) -/
def IsPodCtlKey (k : String) : Prop := ∃ nm, k = kCreatePod nm ∨ k = kDeletePod nm ∨ k = kUpdatePod nm

/-- the plan injects nothing into pod-control calls -/
def PodCtlFree (plan : List Fault) : Prop := ∀ f ∈ plan, ¬ IsPodCtlKey f.key

theorem actLog_keys (setName : String) (plan : List Fault) (pods claimed : List CPod) (b : Int) (E : List Int) (a : Action) :
    ∀ k ∈ actLog setName plan pods claimed b E a, IsPodCtlKey k := by
  intro k hk
  cases a with
  | create o r =>
    simp only [actLog, List.mem_singleton] at hk
    exact ⟨_, Or.inl hk⟩
  | delete o id w =>
    simp only [actLog, List.mem_singleton] at hk
    exact ⟨_, Or.inr (Or.inl hk)⟩
  | update o =>
    simp only [actLog, List.mem_replicate] at hk
    exact ⟨_, Or.inr (Or.inr hk.2)⟩

/-- appending entries that are exempt, or that no fault of the plan names -/
theorem benignFrom_append_ok {cx : Cx} {plan : List Fault} {n : Nat} {log : List String} :
    ∀ (ext : List String), (∀ k ∈ ext, cx.exempt k ∨ ∀ f ∈ plan, f.key ≠ k) → BenignFrom cx plan n log →
      BenignFrom cx plan n (log ++ ext) := by
  intro ext
  induction ext using List.reverseRecOn with
  | nil => intro _ h; simpa using h
  | append_singleton ext k ih =>
    intro hfree h
    rw [← List.append_assoc]
    have ih' := ih (fun k' hk' => hfree k' (by simp [hk'])) h
    rcases hfree k (by simp) with hx | hx
    · exact benignFrom_snoc ih' (benign_exempt hx)
    · exact benignFrom_snoc_none ih' (planAt_none_of_no_key hx _)

/-! ### object names: adoption renames nothing -/

theorem adopt_names (plan : List Fault) (del : Bool) (fresh : Fresh) (s : RevSt) :
    (adoptOrphanRevisionsF plan del fresh s).1.store.map (·.name) = s.store.map (·.name) := by
  obtain ⟨⟨g, hg, hs⟩, _⟩ := SYa.adoptF_spec plan del fresh s
  rw [hs, List.map_map]
  exact List.map_congr_left (fun x _ => (hg x).1)

theorem names_ok_of_map_eq {P : String → Prop} {a b : List Rev} (h : a.map (·.name) = b.map (·.name))
    (hb : ∀ r ∈ b, P r.name) : ∀ r ∈ a, P r.name := by
  intro r hr
  have : r.name ∈ b.map (·.name) := by rw [← h]; exact List.mem_map_of_mem hr
  obtain ⟨r', hr', e⟩ := List.mem_map.1 this
  rw [← e]; exact hb r' hr'

variable (cx : Cx) (plan : List Fault) (n : Nat)

theorem afterClaimF_prefix (h : Hashing) (i : SyncIn) (s : RevSt) (failed : Bool) (claimed : List CPod) :
    s.tr.log <+: (SYa.afterClaimF h i plan s failed claimed).log :=
  prefix_of_ext (SYa.afterClaimF_spec h i plan s failed claimed).1

theorem finishCore_benign (i : SyncIn) (claimed : List CPod) (revs : List Rev) (cur upd : Rev) (cc : Int)
    (s : RevSt) (st : St) (out : Outcome) (h0 : BenignFrom cx plan n s.tr.log)
    (hok : (SYa.finishCore i plan claimed revs cur upd cc s st out).outcome ≠ .err) :
    BenignFrom cx plan n (SYa.finishCore i plan claimed revs cur upd cc s st out).log := by
  rcases SYa.finishCore_cases i plan claimed revs cur upd cc s st out with
    ⟨_, e⟩ | ⟨_, _, _, e⟩ | ⟨_, _, hw, t, rfl, e⟩ | ⟨_, _, t, rfl, e⟩
  · rw [e]
    exact h0
  · rw [e] at hok
    exact absurd rfl hok
  · rw [e] at hok ⊢
    exact truncateF_benign cx plan n _ _ _ _ _ _ (statusWriteF_benign cx plan n _ 5 s.tr h0 hw) hok
  · rw [e] at hok ⊢
    exact truncateF_benign cx plan n _ _ _ _ _ _ h0 hok

theorem finishF_benign (i : SyncIn) (claimed : List CPod) (revs : List Rev) (cur upd : Rev) (cc : Int) (s : RevSt)
    (hex : ∀ k, IsPodCtlKey k → cx.exempt k ∨ ∀ f ∈ plan, f.key ≠ k)
    (h0 : BenignFrom cx plan n s.tr.log) (hok : (SYa.finishF i plan claimed revs cur upd cc s).outcome ≠ .err) :
    BenignFrom cx plan n (SYa.finishF i plan claimed revs cur upd cc s).log := by
  unfold SYa.finishF at hok ⊢
  refine finishCore_benign cx plan n i claimed revs cur upd cc _ _ _ (benignFrom_append_ok _ ?_ h0) hok
  intro k hk
  obtain ⟨l, hl, hkl⟩ := List.mem_flatten.1 hk
  obtain ⟨a, _, rfl⟩ := List.mem_map.1 hl
  exact hex k (actLog_keys _ _ _ _ _ _ a k hkl)

theorem afterClaimF_benign (h : Hashing) (i : SyncIn) (s : RevSt) (failed : Bool) (claimed : List CPod)
    (hh : ∀ d c, cx.nameOk (h.nameOf d c)) (hstore : ∀ r ∈ s.store, cx.nameOk r.name)
    (hex : ∀ k, IsPodCtlKey k → cx.exempt k ∨ ∀ f ∈ plan, f.key ≠ k)
    (h0 : failed = false → BenignFrom cx plan n s.tr.log)
    (hok : (SYa.afterClaimF h i plan s failed claimed).outcome ≠ .err) :
    BenignFrom cx plan n (SYa.afterClaimF h i plan s failed claimed).log := by
  unfold SYa.afterClaimF at hok ⊢
  cases failed with
  | true => exact absurd rfl hok
  | false =>
    rw [if_neg Bool.false_ne_true] at hok ⊢
    have hl := listRevsF_benign cx plan n s (h0 rfl)
    have hlv := (SYa.listRevsF_spec plan s).2.2
    rcases hls : listRevsF plan s with ⟨s1, _ | listed⟩
    · rw [hls] at hok
      exact absurd rfl hok
    · rw [hls] at hl hlv hok
      have h1 : BenignFrom cx plan n s1.tr.log := hl (fun e => nomatch e)
      obtain rfl : listed = listRevisions s.store := hlv _ rfl
      have hrevs : ∀ r ∈ sortRevs (listRevisions s.store), cx.nameOk r.name :=
        fun r hr => hstore r ((sorted_listing_spec s.store).1 r hr).2.1
      simp only at hok ⊢
      have hg := getRevisionsF_benign cx plan n h i.template i.stored.currentRev (i.collisionCount.getD 0)
        (sortRevs (listRevisions s.store)) s1 hh hrevs h1
      rcases hgs : getRevisionsF h plan i.template i.stored.currentRev (i.collisionCount.getD 0)
          (sortRevs (listRevisions s.store)) s1 with ⟨s2, _ | ⟨cur, upd, cc⟩⟩
      · rw [hgs] at hok
        exact absurd rfl hok
      · rw [hgs] at hg hok
        exact finishF_benign cx plan n i _ _ cur upd cc s2 hex (hg (by simp)) hok

/-- **C09 (i), on events**: in a sync that does not report failure every fault that fired is on the benign list
    (or at an exempt key). A panicking run is included: up to the panic only benign failures were swallowed. -/
theorem syncF_benign (h : Hashing) (i : SyncIn) (hpods : cx.pods = i.pods)
    (hpn : ∀ c ∈ cx.pods, cx.nameOk c.name) (hh : ∀ d c, cx.nameOk (h.nameOf d c))
    (hstore : ∀ r ∈ i.store, cx.nameOk r.name)
    (hex : ∀ k, IsPodCtlKey k → cx.exempt k ∨ ∀ f ∈ plan, f.key ≠ k)
    (hok : (syncF h i plan).outcome ≠ .err) : BenignFrom cx plan 0 (syncF h i plan).log := by
  rw [SYa.syncF_eq] at hok ⊢
  have hnil : BenignFrom cx plan 0 ([] : List String) := by
    intro pre x post he _
    simp [events, eventsFrom] at he
  split_ifs at hok ⊢ with hp
  · exact hnil
  · have ha := adopt_benign cx plan 0 i.view.deleting i.fresh { store := i.store } hnil
    have hn := adopt_names plan i.view.deleting i.fresh { store := i.store }
    rcases has : adoptOrphanRevisionsF plan i.view.deleting i.fresh { store := i.store } with ⟨s, out⟩
    have hnp := adopt_no_panic plan i.view.deleting i.fresh { store := i.store }
    rw [has] at ha hok hn hnp
    cases out with
    | ok =>
      have hc := claim_benign cx plan 0 i.view.deleting i.fresh s.tr hpn (ha rfl)
      rw [hpods] at hc
      exact afterClaimF_benign cx plan 0 h i _ _ _ hh (names_ok_of_map_eq hn hstore) hex hc hok
    | err => exact absurd rfl hok
    | panic site => exact absurd rfl (hnp site)

end Asts.SYc
