import Asts.Proofs.Sync_Phases
import Asts.Proofs.C02_WF

/-! C02: what the revision stages of a sync (any fault plan) can do to the revision store and to the collision count: revisions
    the listing cannot see are never created and never renamed, and the collision count never goes down. -/
namespace Asts.C02p
open Asts Asts.L1c

/-- a revision `ListRevisions` can return -/
def visB (r : Rev) : Bool := r.owner != .other && (r.selMatch || r.marker)

/-- every revision of `S'` that the listing cannot see carries the name of such a revision of `S` -/
def StoreLe (S S' : List Rev) : Prop := ∀ r' ∈ S', visB r' = true ∨ ∃ r ∈ S, visB r = false ∧ r.name = r'.name

theorem StoreLe.refl (S : List Rev) : StoreLe S S := by
  intro r hr
  by_cases hv : visB r = true
  · exact Or.inl hv
  · exact Or.inr ⟨r, hr, by simpa using hv, rfl⟩

theorem StoreLe.trans {A B C : List Rev} (h1 : StoreLe A B) (h2 : StoreLe B C) : StoreLe A C := by
  intro r hr
  rcases h2 r hr with hv | ⟨r1, hr1, hv1, hn1⟩
  · exact Or.inl hv
  · rcases h1 r1 hr1 with hv' | ⟨r0, hr0, hv0, hn0⟩
    · rw [hv1] at hv'; cases hv'
    · exact Or.inr ⟨r0, hr0, hv0, hn0.trans hn1⟩

theorem StoreLe.map {S : List Rev} (g : Rev → Rev) (hn : ∀ r, (g r).name = r.name) (hv : ∀ r, visB r = true → visB (g r) = true) :
    StoreLe S (S.map g) := by
  intro r' hr'
  rw [List.mem_map] at hr'
  obtain ⟨r, hr, rfl⟩ := hr'
  by_cases hvr : visB r = true
  · exact Or.inl (hv r hvr)
  · exact Or.inr ⟨r, hr, by simpa using hvr, (hn r).symm⟩

theorem StoreLe.setWhere {S : List Rev} (p : Rev → Bool) (g : Rev → Rev) (hn : ∀ r, (g r).name = r.name)
    (hv : ∀ r, visB r = true → visB (g r) = true) : StoreLe S (S.map fun x => if p x then g x else x) := by
  apply StoreLe.map
  · intro x
    split_ifs
    exacts [hn x, rfl]
  · intro x hx
    split_ifs
    exacts [hv x hx, hx]

theorem StoreLe.filter {S : List Rev} (p : Rev → Bool) : StoreLe S (S.filter p) := by
  intro r hr
  exact StoreLe.refl S r (List.mem_of_mem_filter hr)

theorem StoreLe.insert {S : List Rev} (r : Rev) (hv : visB r = true) : StoreLe S (insertByName r S) := by
  intro x hx
  rcases mem_insertByName.1 hx with rfl | hx
  · exact Or.inl hv
  · exact StoreLe.refl S x hx

theorem StoreLe.ite_fst {β : Type} {S : List Rev} {c : Prop} [Decidable c] {a b : RevSt × β}
    (ha : StoreLe S a.1.store) (hb : StoreLe S b.1.store) : StoreLe S (if c then a else b).1.store := by
  split
  · exact ha
  · exact hb

theorem labelStep_storeLe (plan : List Fault) (s : RevSt) (r : Rev) : StoreLe s.store (SYa.labelStep plan s r).1.store := by
  unfold SYa.labelStep
  apply StoreLe.ite_fst
  · dsimp only
    split
    · exact StoreLe.refl _
    · refine StoreLe.setWhere _ (fun x => { x with selMatch := true }) (fun _ => rfl) (fun x hx => ?_)
      simp only [visB, Bool.and_eq_true, Bool.true_or, and_true] at hx ⊢
      exact hx.1
  · exact StoreLe.refl _

theorem patchStep_storeLe (plan : List Fault) (s : RevSt) (r : Rev) : StoreLe s.store (SYa.patchStep plan s r).1.store := by
  unfold SYa.patchStep
  apply StoreLe.ite_fst
  · exact StoreLe.refl _
  · dsimp only
    split
    · exact StoreLe.refl _
    · refine StoreLe.setWhere _ (fun x => { x with owner := .self }) (fun _ => rfl) (fun x hx => ?_)
      simp only [visB, Bool.and_eq_true] at hx ⊢
      exact ⟨rfl, hx.2⟩

theorem adopt_storeLe (plan : List Fault) (d : Bool) (fresh : Fresh) (s : RevSt) :
    StoreLe s.store (adoptOrphanRevisionsF plan d fresh s).1.store :=
  SYa.adoptF_inv (fun b => StoreLe s.store b.store) plan d fresh s (StoreLe.refl _)
    (by rw [listRevsF_store]; exact StoreLe.refl _) (fun b r hb => hb.trans (labelStep_storeLe plan b r)) (fun _ hb => hb)
    (fun _ _ _ _ b r hb => hb.trans (patchStep_storeLe plan b r))

theorem renumberF_storeLe (plan : List Fault) (name : String) (n : Int) (fuel : Nat) (s : RevSt) :
    StoreLe s.store (renumberF plan name n fuel s).1.store := by
  induction fuel generalizing s with
  | zero => exact StoreLe.refl _
  | succ fuel ih =>
    unfold renumberF
    dsimp only
    split
    · exact StoreLe.setWhere _ (fun x => { x with number := n }) (fun _ => rfl) (fun _ hx => hx)
    · exact StoreLe.ite_fst (ih _) (StoreLe.refl _)

theorem createRevLoopF_spec (h : Hashing) (plan : List Fault) (fresh : Rev) (hv : visB fresh = true) (fuel : Nat) (cc : Int) (s : RevSt) :
    StoreLe s.store (createRevLoopF h plan fresh fuel cc s).1.store ∧
    ∀ r c, (createRevLoopF h plan fresh fuel cc s).2 = some (r, c) → cc ≤ c := by
  induction fuel generalizing cc s with
  | zero => exact ⟨StoreLe.refl _, by intro r c hc; simp [createRevLoopF] at hc⟩
  | succ fuel ih =>
    unfold createRevLoopF
    dsimp only
    split
    · refine ⟨StoreLe.insert _ (by unfold visB at hv ⊢; exact hv), ?_⟩
      intro r c hc
      simp only [Option.some.injEq, Prod.mk.injEq] at hc
      omega
    · split
      · split_ifs
        · refine ⟨StoreLe.refl _, ?_⟩
          intro r c hc
          simp only [Option.some.injEq, Prod.mk.injEq] at hc
          omega
        · obtain ⟨h1, h2⟩ := ih (cc + 1) { store := s.store, tr := ((s.tr.call plan s!"create:rev:{h.nameOf fresh.data cc}").1.call plan s!"get:rev:{h.nameOf fresh.data cc}").1 }
          refine ⟨h1, ?_⟩
          intro r c hc
          have := h2 r c hc
          omega
      · exact ⟨StoreLe.refl _, by intro r c hc; cases hc⟩
    · exact ⟨StoreLe.refl _, by intro r c hc; cases hc⟩

theorem pickF_spec (h : Hashing) (plan : List Fault) (fresh : Rev) (hv : visB fresh = true) (cc0 : Int) (revs : List Rev)
    (s : RevSt) :
    StoreLe s.store (SYa.pickF h plan fresh cc0 revs s).1.store ∧
    ∀ r c, (SYa.pickF h plan fresh cc0 revs s).2 = some (r, c) → cc0 ≤ c := by
  unfold SYa.pickF
  split
  · rename_i e l _ _
    by_cases h1 : equalRev l e = true
    · rw [if_pos h1]
      exact ⟨StoreLe.refl _, fun _ _ hc => by cases hc; exact le_rfl⟩
    rw [if_neg h1]
    by_cases h2 : (e.number == fresh.number) = true
    · rw [if_pos h2]
      exact ⟨StoreLe.refl _, fun _ _ hc => by cases hc; exact le_rfl⟩
    rw [if_neg h2]
    have hrn := renumberF_storeLe plan e.name fresh.number 4 s
    generalize renumberF plan e.name fresh.number 4 s = rr at hrn ⊢
    obtain ⟨s', _ | _⟩ := rr
    · exact ⟨hrn, fun _ _ hc => by cases hc⟩
    · exact ⟨hrn, fun _ _ hc => by cases hc; exact le_rfl⟩
  · exact createRevLoopF_spec h plan fresh hv _ cc0 s

theorem getRevisionsF_spec (h : Hashing) (plan : List Fault) (template cur : String) (cc0 : Int) (revs : List Rev) (s : RevSt) :
    StoreLe s.store (getRevisionsF h plan template cur cc0 revs s).1.store ∧
    ∀ a b c, (getRevisionsF h plan template cur cc0 revs s).2 = some (a, b, c) → cc0 ≤ c := by
  rw [SYa.getRevisionsF_eq]
  obtain ⟨h1, h2⟩ := pickF_spec h plan (SYa.freshRev h template cc0 revs) (by simp [visB, SYa.freshRev]) cc0 revs s
  generalize SYa.pickF h plan (SYa.freshRev h template cc0 revs) cc0 revs s = rr at h1 h2 ⊢
  obtain ⟨s', res⟩ := rr
  cases res with
  | none => exact ⟨h1, by intro a b c hc; cases hc⟩
  | some rc =>
    obtain ⟨r, c'⟩ := rc
    refine ⟨h1, ?_⟩
    intro a b c hc
    simp only [Option.some.injEq, Prod.mk.injEq] at hc
    have := h2 r c' rfl
    omega

theorem truncStep_storeLe (plan : List Fault) (s : RevSt) (r : Rev) : StoreLe s.store (SYa.truncStep plan s r).1.store :=
  StoreLe.ite_fst (StoreLe.refl _) (StoreLe.filter _)

theorem truncateF_storeLe (plan : List Fault) (limit : Option Int) (podRevs : List String) (revs : List Rev) (cur upd : Rev) (s : RevSt) :
    StoreLe s.store (truncateF plan limit podRevs revs cur upd s).1.store :=
  SYa.truncateF_inv (fun b => StoreLe s.store b.store) plan limit podRevs revs cur upd s (StoreLe.refl _)
    (fun b r _ hb => hb.trans (truncStep_storeLe plan b r))

end Asts.C02p
