import Asts.Proofs.C02_BOrphan

/-! C02, normalising rounds: what the argument needs from a policy class (`StepClass`), shown for the four classes. -/
namespace Asts.C02p
open Asts Asts.L1c

/-- what the normalising argument needs from a policy class: closed under rounds, the reconcile succeeds, and identity
    updates go to pods that lack their identity -/
structure StepClass (h : Hashing) (K : SyncIn → Prop) : Prop where
  ns : ∀ j, K j → NSC h j
  pol : ∀ j (hk : K j), Pol (ns j hk).norm
  next : ∀ j, K j → K (nextW h j)
  upd : ∀ j (hk : K j) o, Action.update o ∈ (ns j hk).norm.recon.1.acts → ∃ c ∈ j.pods, c.pod.ord = o ∧ c.pod.idOk = false

theorem par_step (h : Hashing) : StepClass h (ParK h) where
  ns := fun _ hk => hk.1
  pol := fun _ hk => par_pol hk.1 hk.2.1 hk.2.2
  next := (par_class h).next
  upd := fun _ hk o ho => by rw [par_recon_acts hk.1 hk.2.1] at ho; exact par_update_src hk.1.ctx ho

theorem mono_step (h : Hashing) : StepClass h (MonoK h) where
  ns := fun _ hk => hk.1.1
  pol := fun _ hk => mono_pol hk
  next := fun _ hk => mono_next hk
  upd := fun _ hk o ho => by rw [(recon_mono hk.1).2] at ho; exact mono_update_src hk.1.1.ctx ho

theorem lpar_step (h : Hashing) : StepClass h (LParK h) where
  ns := fun _ hk => hk.1
  pol := fun _ hk => (lpar_pol hk).pol
  next := fun _ hk => lpar_next hk
  upd := fun _ hk o ho => by rw [par_recon_acts hk.1 hk.2.1] at ho; exact par_update_src hk.1.ctx ho

theorem lmono_step (h : Hashing) : StepClass h (LMonoK h) where
  ns := fun _ hk => hk.1.1
  pol := fun _ hk => (lmono_pol hk).pol
  next := fun _ hk => lmono_next hk
  upd := fun _ hk o ho => by rw [(recon_mono hk.1).2] at ho; exact mono_update_src hk.1.1.ctx ho

theorem settleOne_idOk (c : CPod) : (settleOne c).pod.idOk = c.pod.idOk := by unfold settleOne; split_ifs <;> rfl

theorem find_pod_name {l : List CPod} (hn : (l.map (·.name)).Nodup) {c : CPod} (hc : c ∈ l) :
    l.find? (·.name == c.name) = some c := by
  induction l with
  | nil => cases hc
  | cons a t ih =>
    rw [List.map_cons, List.nodup_cons] at hn
    rcases List.mem_cons.1 hc with rfl | hc'
    · simp
    · have hne : a.name ≠ c.name := fun e => hn.1 (e ▸ List.mem_map_of_mem hc')
      rw [List.find?_cons_of_neg (by simpa using hne)]
      exact ih hn.2 hc'

end Asts.C02p
