import Mathlib.Tactic
import Asts.Spec.Glue2
import Asts.Proofs.SY_c_Reconcile

/-! # GL2 — `C04.removed` at reconcile level

A pod-control call that the fault list refuses is the LAST action of the reconcile (`SYc.updateStatefulSet_hits`): the
replica loop stops at a refused delete of a Failed/Succeeded pod (`replaceFailed`), the condemned loop and the update walk
stop at theirs. Hence no create follows a refused delete, at whatever ordinal. -/
namespace Asts.GL2
open Asts

theorem hit_is_last (v : SetView) (cur upd : String) (pods : List Pod) (f : Faults) {pre post : List Action} {a : Action}
    (h : (updateStatefulSet v cur upd pods f).1.acts = pre ++ a :: post) (hh : SYc.hitAct f a = true) : post = [] := by
  have he := SYc.updateStatefulSet_hit_err v cur upd pods f a
    (by rw [h]; exact List.mem_append_right _ List.mem_cons_self) hh
  obtain ⟨l, b, e, c, _⟩ := SYc.updateStatefulSet_err_hit v cur upd pods f he
  rw [h] at e
  rcases List.eq_nil_or_concat post with rfl | ⟨post', z, rfl⟩
  · rfl
  · exfalso
    have e' : (pre ++ a :: post') ++ [z] = l ++ [b] := by simpa using e
    have ha : a ∈ l := by rw [← (List.append_inj' e' rfl).1]; simp
    have := c a ha
    rw [hh] at this; cases this

/-- **`C04.removed` (reconcile level)**: the clause of `monitorRc` is true on the model's output for every spec, snapshot
    and fault list — no hypothesis. -/
theorem C04removedRc_holds (v : SetView) (cur upd : String) (pods : List Pod) (f : Faults) :
    C04removedRc f (observe (updateStatefulSet v cur upd pods f).1.acts) = true := by
  unfold C04removedRc
  rw [List.all_eq_true]
  intro k _
  split
  · rename_i o rv hk
    -- a refused delete among the first `k` actions would be the last action (`hit_is_last`), but there is a `k`-th
    rw [Bool.not_eq_true', Bool.and_eq_false_iff, or_iff_not_imp_left, Bool.not_eq_false, List.any_eq_false]
    intro hf b hb hbm
    unfold observe at hb hk
    rw [← List.map_take] at hb
    obtain ⟨a, ha, rfl⟩ := List.mem_map.1 hb
    obtain ⟨pre, post, hsplit⟩ := List.append_of_mem ha
    have hhit : SYc.hitAct f a = true := by
      cases a with
      | create o' r' => cases hbm
      | update o' => cases hbm
      | delete o' id w =>
        simp only [Action.observe] at hbm
        split at hbm
        · rename_i o'' _ heq
          rw [(OAct.delete.inj heq).1, beq_iff_eq.1 hbm]
          exact hf
        · cases hbm
    have hlast := hit_is_last v cur upd pods f (pre := pre) (a := a)
      (post := post ++ (updateStatefulSet v cur upd pods f).1.acts.drop k)
      (by rw [← List.cons_append, ← List.append_assoc, ← hsplit, List.take_append_drop]) hhit
    rw [List.getElem?_map] at hk
    have hk' := List.drop_eq_nil_iff.1 (List.append_eq_nil_iff.1 hlast).2
    rw [List.getElem?_eq_none hk'] at hk
    cases hk
  · rfl

end Asts.GL2
