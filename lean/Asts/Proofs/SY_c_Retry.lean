import Asts.Proofs.SY_c_Base

/-! # C09 (ii): the retry loops are bounded and succeed exactly when a Conflict-only prefix ends in an unfaulted attempt

All three loops have the same shape: an unfaulted attempt ends the loop with success, a Conflict is retried while fuel
lasts, any other failure ends it. (The model's extra test "is this the last attempt?" changes nothing: with no fuel left
the recursive call fails at once.) -/
namespace Asts.SYc

/-! ### `renumberF` — `updateControllerRevision`, RetryOnConflict(DefaultBackoff) -/

theorem renumberF_succ (plan : List Fault) (name : String) (n : Int) (fuel : Nat) (s : RevSt) :
    renumberF plan name n (fuel + 1) s =
      match planAt plan (kUpdateRev name) (cnt s.tr.log (kUpdateRev name)) with
      | none => ({ store := s.store.map (fun r => if r.name == name then { r with number := n } else r),
                   tr := { log := s.tr.log ++ [kUpdateRev name] } }, true)
      | some k =>
        if k = .conflict then
          renumberF plan name n fuel { store := s.store, tr := { log := s.tr.log ++ [kUpdateRev name] ++ [kGetRev name] } }
        else ({ store := s.store, tr := { log := s.tr.log ++ [kUpdateRev name] ++ [kGetRev name] } }, false) := by
  rw [renumberF]
  simp only [call_eq]
  delta kUpdateRev kGetRev
  generalize planAt plan _ _ = e
  cases e with
  | none => rfl
  | some k =>
    dsimp only
    by_cases hk : k = .conflict
    · subst hk
      cases fuel <;> rfl
    · rw [if_neg hk, if_neg (by simp [hk])]

theorem cnt_upd_get (log : List String) (name : String) :
    cnt (log ++ [kUpdateRev name] ++ [kGetRev name]) (kUpdateRev name) = cnt log (kUpdateRev name) + 1 := by
  rw [cnt_snoc_ne _ (kGetRev_ne_kUpdateRev name name), cnt_snoc_self]

/-- every attempt appends the Update call and, when it failed, the refreshing Get; nothing else -/
theorem renumberF_log (plan : List Fault) (name : String) (n : Int) :
    ∀ (fuel : Nat) (s : RevSt), ∃ ext : List String,
      (renumberF plan name n fuel s).1.tr.log = s.tr.log ++ ext ∧
      (∀ e ∈ ext, e = kUpdateRev name ∨ e = kGetRev name) ∧
      cnt ext (kUpdateRev name) ≤ fuel ∧ ext.length ≤ 2 * fuel
  | 0, s => ⟨[], (List.append_nil _).symm, fun _ h => (nomatch h), Nat.le_refl _, Nat.le_refl _⟩
  | fuel + 1, s => by
    have two : ∀ e ∈ [kUpdateRev name, kGetRev name], e = kUpdateRev name ∨ e = kGetRev name := by
      intro e he
      rcases List.mem_cons.1 he with he | he
      · exact Or.inl he
      · exact Or.inr (List.mem_singleton.1 he)
    have c2 : cnt [kUpdateRev name, kGetRev name] (kUpdateRev name) = 1 := cnt_upd_get [] name
    rw [renumberF_succ]
    cases planAt plan (kUpdateRev name) (cnt s.tr.log (kUpdateRev name)) with
    | none =>
      refine ⟨[kUpdateRev name], rfl, fun e he => Or.inl (List.mem_singleton.1 he), ?_, by simp only [List.length_singleton]; omega⟩
      rw [cnt_single_self]; omega
    | some k =>
      dsimp only
      split_ifs
      · obtain ⟨ext, h1, h2, h3, h4⟩ := renumberF_log plan name n fuel
          { store := s.store, tr := { log := s.tr.log ++ [kUpdateRev name] ++ [kGetRev name] } }
        refine ⟨[kUpdateRev name, kGetRev name] ++ ext, ?_, ?_, ?_, ?_⟩
        · rw [h1, List.append_assoc, List.append_assoc]; rfl
        · intro e he
          rcases List.mem_append.1 he with he | he
          · exact two e he
          · exact h2 e he
        · rw [cnt_append, c2]; omega
        · simp only [List.length_append, List.length_cons, List.length_nil]; omega
      · exact ⟨[kUpdateRev name, kGetRev name], List.append_assoc _ _ _, two, by rw [c2]; omega,
          by simp only [List.length_cons, List.length_nil]; omega⟩

/-- `renumberF` succeeds iff one of its first `fuel` Update attempts is unfaulted and all earlier ones answered Conflict.
    Attempt `j` is the `(c₀ + j)`-th call with key `update:rev:<name>`, `c₀` being the number of such calls before. -/
theorem renumberF_ok_iff (plan : List Fault) (name : String) (n : Int) :
    ∀ (fuel : Nat) (s : RevSt),
      (renumberF plan name n fuel s).2 = true ↔
        RetryOk (fun j => planAt plan (kUpdateRev name) (cnt s.tr.log (kUpdateRev name) + j)) fuel
  | 0, _ => iff_of_false Bool.false_ne_true (retryOk_zero _)
  | fuel + 1, s => by
    rw [retryOk_from (planAt plan (kUpdateRev name)), renumberF_succ]
    cases planAt plan (kUpdateRev name) (cnt s.tr.log (kUpdateRev name)) with
    | none => exact iff_of_true rfl (Or.inl rfl)
    | some k =>
      dsimp only
      split_ifs with hk
      · rw [renumberF_ok_iff plan name n fuel, cnt_upd_get, hk]
        exact ⟨fun h => Or.inr ⟨rfl, h⟩, fun h => (h.resolve_left (fun e => nomatch e)).2⟩
      · exact iff_of_false not_false
          (fun h => h.elim (fun e => nomatch e) (fun e => hk (Option.some.inj e.1)))

/-! ### `statusWriteF` — RetryOnConflict(DefaultRetry) -/

theorem statusWriteF_succ (plan : List Fault) (gone : Bool) (fuel : Nat) (t : Tr) :
    statusWriteF plan gone (fuel + 1) t =
      match planAt plan "updatestatus" (cnt t.log "updatestatus") with
      | none => ({ log := t.log ++ ["updatestatus"] }, !gone)
      | some k =>
        if k = .conflict then statusWriteF plan gone fuel { log := t.log ++ ["updatestatus"] }
        else ({ log := t.log ++ ["updatestatus"] }, false) := by
  rw [statusWriteF]
  simp only [call_eq]
  cases planAt plan "updatestatus" (cnt t.log "updatestatus") with
  | none => rfl
  | some k => cases k <;> cases fuel <;> rfl

theorem statusWriteF_log (plan : List Fault) (gone : Bool) :
    ∀ (fuel : Nat) (t : Tr), ∃ m, m ≤ fuel ∧
      (statusWriteF plan gone fuel t).1.log = t.log ++ List.replicate m "updatestatus"
  | 0, t => ⟨0, Nat.le_refl _, (List.append_nil _).symm⟩
  | fuel + 1, t => by
    rw [statusWriteF_succ]
    cases planAt plan "updatestatus" (cnt t.log "updatestatus") with
    | none => exact ⟨1, by omega, rfl⟩
    | some k =>
      dsimp only
      split_ifs
      · obtain ⟨m, hm, h⟩ := statusWriteF_log plan gone fuel { log := t.log ++ ["updatestatus"] }
        exact ⟨m + 1, by omega, by rw [h, List.append_assoc]; rfl⟩
      · exact ⟨1, by omega, rfl⟩

/-- the status write succeeds iff the object still exists and one of the first `fuel` attempts is unfaulted with all
    earlier ones Conflict -/
theorem statusWriteF_ok_iff (plan : List Fault) (gone : Bool) :
    ∀ (fuel : Nat) (t : Tr),
      (statusWriteF plan gone fuel t).2 = true ↔
        gone = false ∧ RetryOk (fun j => planAt plan "updatestatus" (cnt t.log "updatestatus" + j)) fuel
  | 0, _ => iff_of_false Bool.false_ne_true (fun h => retryOk_zero _ h.2)
  | fuel + 1, t => by
    rw [retryOk_from (planAt plan "updatestatus"), statusWriteF_succ]
    cases planAt plan "updatestatus" (cnt t.log "updatestatus") with
    | none => simp
    | some k =>
      dsimp only
      split_ifs with hk
      · rw [statusWriteF_ok_iff plan gone fuel, cnt_snoc_self, hk]
        exact and_congr_right fun _ => ⟨fun h => Or.inr ⟨rfl, h⟩, fun h => (h.resolve_left (fun e => nomatch e)).2⟩
      · exact iff_of_false not_false
          (fun h => h.2.elim (fun e => nomatch e) (fun e => hk (Option.some.inj e.1)))

/-! ### `updateAttempts` — `UpdateStatefulPod`, RetryOnConflict(DefaultBackoff)

`updateAttempts plan key fuel n` numbers its attempts from `n` and returns the number after the last one. -/

theorem updateAttempts_succ (plan : List Fault) (key : String) (fuel n : Nat) :
    updateAttempts plan key (fuel + 1) n =
      match planAt plan key n with
      | none => (n + 1, true)
      | some k => if k = .conflict then updateAttempts plan key fuel (n + 1) else (n + 1, false) := by
  rw [updateAttempts]
  unfold planAt
  generalize Option.map _ (List.find? _ plan) = e
  cases e with
  | none => rfl
  | some k => cases k <;> rfl

/-- between 0 and `fuel` attempts, at least one on success -/
theorem updateAttempts_count (plan : List Fault) (key : String) :
    ∀ (fuel n : Nat), n ≤ (updateAttempts plan key fuel n).1 ∧ (updateAttempts plan key fuel n).1 ≤ n + fuel ∧
      ((updateAttempts plan key fuel n).2 = true → n < (updateAttempts plan key fuel n).1)
  | 0, n => ⟨Nat.le_refl _, Nat.le_refl _, fun h => (nomatch h)⟩
  | fuel + 1, n => by
    rw [updateAttempts_succ]
    cases planAt plan key n with
    | none =>
      dsimp only
      omega
    | some k =>
      obtain ⟨h1, h2, h3⟩ := updateAttempts_count plan key fuel (n + 1)
      dsimp only
      split_ifs
      · omega
      · dsimp only
        omega

/-- success iff a Conflict-only prefix ends in an unfaulted attempt -/
theorem updateAttempts_ok_iff (plan : List Fault) (key : String) :
    ∀ (fuel n : Nat), (updateAttempts plan key fuel n).2 = true ↔ RetryOk (fun j => planAt plan key (n + j)) fuel
  | 0, _ => iff_of_false Bool.false_ne_true (retryOk_zero _)
  | fuel + 1, n => by
    rw [retryOk_from (planAt plan key), updateAttempts_succ]
    cases planAt plan key n with
    | none => exact iff_of_true rfl (Or.inl rfl)
    | some k =>
      dsimp only
      split_ifs with hk
      · rw [updateAttempts_ok_iff plan key fuel, hk]
        exact ⟨fun h => Or.inr ⟨rfl, h⟩, fun h => (h.resolve_left (fun e => nomatch e)).2⟩
      · exact iff_of_false not_false
          (fun h => h.elim (fun e => nomatch e) (fun e => hk (Option.some.inj e.1)))

/-- every attempt but the last answered Conflict -/
theorem updateAttempts_conflicts (plan : List Fault) (key : String) :
    ∀ (fuel n j : Nat), n ≤ j → j + 1 < (updateAttempts plan key fuel n).1 → planAt plan key j = some ErrKind.conflict
  | 0, n, j, h1, h2 => by simp only [updateAttempts] at h2; omega
  | fuel + 1, n, j, h1, h2 => by
    rw [updateAttempts_succ] at h2
    cases hf : planAt plan key n with
    | none => rw [hf] at h2; simp only at h2; omega
    | some k =>
      rw [hf] at h2
      dsimp only at h2
      split_ifs at h2 with hk
      · rcases Nat.eq_or_lt_of_le h1 with rfl | h
        · rw [hf, hk]
        · exact updateAttempts_conflicts plan key fuel (n + 1) j h h2
      · dsimp only at h2
        omega

/-- on success the last attempt was unfaulted -/
theorem updateAttempts_last (plan : List Fault) (key : String) :
    ∀ (fuel n : Nat), (updateAttempts plan key fuel n).2 = true →
      planAt plan key ((updateAttempts plan key fuel n).1 - 1) = none
  | 0, _, h => nomatch h
  | fuel + 1, n, h => by
    rw [updateAttempts_succ] at h ⊢
    cases hf : planAt plan key n with
    | none => exact hf
    | some k =>
      rw [hf] at h
      dsimp only at h ⊢
      split_ifs at h ⊢
      exact updateAttempts_last plan key fuel (n + 1) h

theorem updateAttempts_at_most_4 (plan : List Fault) (key : String) :
    (updateAttempts plan key 4 0).1 ≤ 4 := by
  have := (updateAttempts_count plan key 4 0).2.1; omega

end Asts.SYc
