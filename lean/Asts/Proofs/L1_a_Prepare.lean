import Asts.Proofs.Rc_Prep
import Mathlib.Tactic

/-! # `PrepInv`: what the loops of `updateStatefulSet` rely on about the output of `prepare`

Packaged (`prepOf_inv`) from the lemmas of `Rc_Prep` on `repsOf` / `condemnedOf`:
* the index list of `reps` is `desired r v.slots`,
* every `(i, p) ∈ reps` has `p.ord = i` and is either a pod of the snapshot or the fresh object `newPod v cur upd i`
  with no pod of the snapshot at ordinal `i`,
* every condemned pod is a pod of the snapshot whose ordinal is outside the desired set. -/
namespace Asts
open List

theorem uss_deleting_acts (v : SetView) (cur upd : String) (pods : List Pod) (f : Faults) (hdel : v.deleting = true) :
    (updateStatefulSet v cur upd pods f).1.acts = [] := by
  unfold updateStatefulSet
  split
  · rfl
  · rw [if_pos hdel]

/-- over an abstract desired list `D` -/
structure PrepInv (v : SetView) (cur upd : String) (pods : List Pod) (D : List Int) (p : Prepared) : Prop where
  idx  : p.reps.map (·.1) = D
  rep  : ∀ ip ∈ p.reps, ip.1 ∈ D ∧ ip.2.ord = ip.1 ∧
            (ip.2 ∈ pods ∨ (ip.2 = newPod v cur upd ip.1 ∧ ∀ q ∈ pods, q.ord ≠ ip.1))
  cond : ∀ c ∈ p.condemned, c ∈ pods ∧ c.ord ∉ D

theorem prepOf_inv (v : SetView) (cur upd : String) (pods : List Pod) (r : Int) :
    PrepInv v cur upd pods (desired r v.slots) (L1c.prepOf v cur upd r pods) := by
  rw [L1c.desired_eq_idxOf]
  refine ⟨L1c.repsOf_fst .., fun ip hip => ⟨?_, L1c.repsOf_ord hip, ?_⟩, fun c hc => ?_⟩
  · rw [← L1c.repsOf_fst v cur upd _ _ pods]
    exact List.mem_map_of_mem hip
  · exact (L1c.repsOf_mem hip).imp_left And.left
  · obtain ⟨hm, hcond⟩ := L1c.mem_condemnedOf.1 hc
    refine ⟨hm, fun hmem => ?_⟩
    rw [L1c.inRange_not_condemned (L1c.mem_idxOf.1 hmem)] at hcond
    cases hcond

end Asts
