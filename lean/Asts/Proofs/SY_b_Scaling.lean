import Asts.Proofs.SY_b_SyncThms

/-! C08 (2): the resolution of the update revision reads nothing of the set but its template and collision count; what the
    pods, replicas, slots … contribute to the log before it (claim patches) cannot influence it, because faults are
    addressed by call key and the keys differ. -/
namespace Asts.SYb
open Asts

def cnt (k : String) (l : List String) : Nat := (l.filter (· == k)).length

theorem cnt_append (k : String) (a b : List String) : cnt k (a ++ b) = cnt k a + cnt k b := by
  simp [cnt, List.filter_append]

/-- two logs agree on how often each ControllerRevision call key (Create / Update / Get of any name) occurred -/
def RevEq (t t' : Tr) : Prop := ∀ c : RevCall, cnt c.key t.log = cnt c.key t'.log

theorem RevEq.refl (t : Tr) : RevEq t t := fun _ => rfl

theorem call_congr {t t' : Tr} (h : RevEq t t') (plan : List Fault) (c : RevCall) :
    (t.call plan c.key).2 = (t'.call plan c.key).2 ∧ RevEq (t.call plan c.key).1 (t'.call plan c.key).1 := by
  refine ⟨?_, ?_⟩
  · rw [call_err, call_err]
    have := h c
    unfold cnt at this
    rw [this]
  · intro d
    rw [SYa.call_log, SYa.call_log, cnt_append, cnt_append, h d]

theorem renumberF_congr (plan : List Fault) (name : String) (n : Int) (fuel : Nat) (s s' : RevSt)
    (hst : s.store = s'.store) (ht : RevEq s.tr s'.tr) :
    (renumberF plan name n fuel s).2 = (renumberF plan name n fuel s').2 ∧
    (renumberF plan name n fuel s).1.store = (renumberF plan name n fuel s').1.store ∧
    RevEq (renumberF plan name n fuel s).1.tr (renumberF plan name n fuel s').1.tr := by
  induction fuel generalizing s s' with
  | zero => exact ⟨rfl, hst, ht⟩
  | succ fuel ih =>
    rw [renumberF_succ, renumberF_succ]
    obtain ⟨e1, e2⟩ := call_congr ht plan (RevCall.update name)
    rw [← e1]
    cases he : (s.tr.call plan (RevCall.update name).key).2 with
    | none => exact ⟨rfl, by simp only; rw [hst], e2⟩
    | some k =>
      obtain ⟨_, e4⟩ := call_congr e2 plan (RevCall.get name)
      simp only
      by_cases hc : (k == .conflict && fuel != 0) = true
      · simp only [hc, if_true]
        exact ih _ _ hst e4
      · simp only [hc]
        exact ⟨rfl, hst, e4⟩

theorem createRevLoopF_congr (h : Hashing) (plan : List Fault) (fresh : Rev) (fuel : Nat) (cc : Int) (s s' : RevSt)
    (hst : s.store = s'.store) (ht : RevEq s.tr s'.tr) :
    (createRevLoopF h plan fresh fuel cc s).2 = (createRevLoopF h plan fresh fuel cc s').2 ∧
    (createRevLoopF h plan fresh fuel cc s).1.store = (createRevLoopF h plan fresh fuel cc s').1.store ∧
    RevEq (createRevLoopF h plan fresh fuel cc s).1.tr (createRevLoopF h plan fresh fuel cc s').1.tr := by
  induction fuel generalizing cc s s' with
  | zero => exact ⟨rfl, hst, ht⟩
  | succ fuel ih =>
    rw [createRevLoopF_succ, createRevLoopF_succ]
    obtain ⟨e1, e2⟩ := call_congr ht plan (RevCall.create (h.nameOf fresh.data cc))
    have hk : createKind h plan fresh cc s = createKind h plan fresh cc s' := by
      unfold createKind; rw [e1, hst]
    have hac : RevEq (afterCreate h plan fresh cc s).tr (afterCreate h plan fresh cc s').tr := e2
    obtain ⟨e3, e4⟩ := call_congr hac plan (RevCall.get (h.nameOf fresh.data cc))
    have hag : RevEq (afterGet h plan fresh cc s).tr (afterGet h plan fresh cc s').tr := e4
    rw [← hk]
    cases hkind : createKind h plan fresh cc s with
    | none => exact ⟨rfl, by simp only; rw [hst], hac⟩
    | some kind =>
      cases kind with
      | alreadyExists =>
        simp only
        rw [← e3, ← hst]
        cases hg : ((afterCreate h plan fresh cc s).tr.call plan (RevCall.get (h.nameOf fresh.data cc)).key).2 with
        | some e => exact ⟨rfl, hst, hag⟩
        | none =>
          cases hf : s.store.find? (·.name == h.nameOf fresh.data cc) with
          | none => exact ⟨rfl, hst, hag⟩
          | some ex =>
            simp only
            by_cases hd : (ex.data == fresh.data) = true
            · rw [if_pos hd, if_pos hd]; exact ⟨rfl, hst, hag⟩
            · rw [if_neg hd, if_neg hd]; exact ih (cc + 1) _ _ hst hag
      | conflict => exact ⟨rfl, hst, hac⟩
      | notFound => exact ⟨rfl, hst, hac⟩
      | invalid => exact ⟨rfl, hst, hac⟩
      | other => exact ⟨rfl, hst, hac⟩

/-- the resolution of the revisions depends on the log only through the counts of ControllerRevision call keys -/
theorem pickF_congr (h : Hashing) (plan : List Fault) (template : String) (cc0 : Int) (revs : List Rev) (s s' : RevSt)
    (hst : s.store = s'.store) (ht : RevEq s.tr s'.tr) :
    (pickF h plan template cc0 revs s).2 = (pickF h plan template cc0 revs s').2 ∧
    (pickF h plan template cc0 revs s).1.store = (pickF h plan template cc0 revs s').1.store := by
  cases he : (equalsOf h template cc0 revs).getLast? with
  | none =>
    have hnil := List.getLast?_eq_none_iff.mp he
    rw [(pickF_of_none hnil).1, (pickF_of_none hnil).1, ← hst]
    obtain ⟨a, b, _⟩ := createRevLoopF_congr h plan (freshOf h template cc0 revs) (s.store.length + 8) cc0 s s' hst ht
    exact ⟨a, b⟩
  | some e =>
    obtain ⟨l, hl⟩ := equalsOf_getLast?_some_revs he
    rw [pickF_of_some he hl, pickF_of_some he hl]
    by_cases h1 : equalRev l e = true
    · rw [if_pos h1, if_pos h1]; exact ⟨rfl, hst⟩
    · rw [if_neg h1, if_neg h1]
      by_cases h2 : (e.number == (freshOf h template cc0 revs).number) = true
      · rw [if_pos h2, if_pos h2]; exact ⟨rfl, hst⟩
      · rw [if_neg h2, if_neg h2]
        obtain ⟨a, b, _⟩ := renumberF_congr plan e.name (freshOf h template cc0 revs).number 4 s s' hst ht
        exact ⟨by simp only; rw [a], b⟩

/-! ## keys of other calls are different strings -/

/-- entries `ClaimPods` and `ListRevisions` add -/
def MidShape (e : String) : Prop := ClaimShape e ∨ e = "list:revs"

theorem MidShape.keyed {e : String} (h : MidShape e) : Keyed [("patch", "pod")] e :=
  h.elim ClaimShape.keyed (fun h => h ▸ Or.inl few_list_revs)

theorem MidShape.ne_key {e : String} (h : MidShape e) (c : RevCall) : e ≠ c.key := by
  cases c with
  | create n => exact h.keyed.ne_append pre_create_rev (by simp) n
  | update n => exact h.keyed.ne_append pre_update_rev (by simp) n
  | get n => exact h.keyed.ne_append pre_get_rev (by simp) n

theorem cnt_of_ext {S : String → Prop} {k : String} (hS : ∀ e, S e → e ≠ k) {a b : List String} (h : Ext S a b) :
    cnt k b = cnt k a := by
  obtain ⟨m, rfl, hm⟩ := h
  rw [cnt_append]
  have : cnt k m = 0 := by
    unfold cnt
    rw [List.length_eq_zero_iff, List.filter_eq_nil_iff]
    intro e he
    simpa using hS e (hm e he)
  omega

/-- the log of `listedState` extends the log of the adoption stage by claim patches / set reads and List calls only -/
theorem listedState_ext (plan : List Fault) (i : SyncIn) :
    Ext MidShape (adoptOrphanRevisionsF plan i.view.deleting i.fresh { store := i.store }).1.tr.log (listedState plan i).tr.log := by
  unfold listedState
  exact ((claim_log plan i.view.deleting i.fresh i.pods _).mono (fun e he => Or.inl he)).trans
    ((listRevsF_log plan _).mono (fun e he => Or.inr he))

theorem listedState_store (plan : List Fault) (i : SyncIn) : (listedState plan i).store = adoptedStore plan i := by
  unfold listedState; rw [listRevsF_store]

/-- what a "scaling edit" leaves alone: template, collision count, the stored revisions, what the API says about the set's
    identity, and whether it is being deleted. Replicas, delete-slots, pause, other metadata, the pods, the cached
    status, the history limit are free. -/
structure SameRevisionInputs (i i' : SyncIn) : Prop where
  template : i'.template = i.template
  cc : i'.collisionCount = i.collisionCount
  store : i'.store = i.store
  fresh : i'.fresh = i.fresh
  deleting : i'.view.deleting = i.view.deleting

theorem SameRevisionInputs.adopt {i i' : SyncIn} (hs : SameRevisionInputs i i') (plan : List Fault) :
    adoptOrphanRevisionsF plan i'.view.deleting i'.fresh { store := i'.store } =
      adoptOrphanRevisionsF plan i.view.deleting i.fresh { store := i.store } := by
  rw [hs.deleting, hs.fresh, hs.store]

/-- two syncs of sets that differ by scaling edits only and both get as far as resolving their revisions resolve the same
    update revision, with the same collision count, and leave the same store behind at that point -/
theorem reach_same_upd (h : Hashing) (i i' : SyncIn) (plan : List Fault) (hs : SameRevisionInputs i i') {o o' : SyncOut}
    (R : Reach h i plan o) (R' : Reach h i' plan o') : R'.upd = R.upd ∧ R'.cc = R.cc ∧ R'.sG.store = R.sG.store := by
  have hA : adoptedStore plan i' = adoptedStore plan i := by unfold adoptedStore; rw [hs.adopt]
  have hlist : syncListing plan i' = syncListing plan i := by unfold syncListing; rw [hA]
  have hst : R'.sL.store = R.sL.store := by rw [R'.hL, R.hL, hA]
  have hrev : RevEq R'.sL.tr R.sL.tr := by
    intro c
    rw [R'.hsL, R.hsL, cnt_of_ext (fun e he => MidShape.ne_key he c) (listedState_ext plan i'),
      cnt_of_ext (fun e he => MidShape.ne_key he c) (listedState_ext plan i), hs.adopt]
  obtain ⟨a, b⟩ := pickF_congr h plan i.template (i.collisionCount.getD 0) (syncListing plan i) R'.sL R.sL hst hrev
  have hp' := R'.hpick
  rw [hs.template, hs.cc, hlist] at hp'
  have hp := R.hpick
  rw [hp', hp] at a b
  simp only [Option.some.injEq, Prod.mk.injEq] at a
  exact ⟨a.1, a.2, b⟩

/-- **C08 (2)**: editing only replicas, delete-slots, the pause annotation or other metadata never changes the update
    revision: two successful syncs from the same stored revisions, template and collision count — whatever the pods,
    replicas, slots, status and history limit — report the same update revision -/
theorem scaling_same_update_revision (h : Hashing) (i i' : SyncIn) (plan : List Fault) (hs : SameRevisionInputs i i')
    (hrun : (i.paused || !i.selectorOk) = false) (hrun' : (i'.paused || !i'.selectorOk) = false)
    (hok : (syncF h i plan).outcome = .ok) (hok' : (syncF h i' plan).outcome = .ok) :
    (syncF h i' plan).upd = (syncF h i plan).upd ∧
    reportedUpd i' (syncF h i' plan) = reportedUpd i (syncF h i plan) := by
  rcases sync_cases h i plan hrun with ⟨h1, _⟩ | ⟨⟨R⟩⟩
  · exact absurd hok h1
  · rcases sync_cases h i' plan hrun' with ⟨h1, _⟩ | ⟨⟨R'⟩⟩
    · exact absurd hok' h1
    · obtain ⟨e, _, _⟩ := reach_same_upd h i i' plan hs R R'
      exact ⟨by rw [R'.oupd, R.oupd, e], by rw [R'.orep, R.orep, e]⟩

end Asts.SYb
