import Asts.Proofs.SY_b_Sync

/-! What one whole `syncF` does to the revision store: the facts of `SY_b_Truncate` and `SY_b_GetRevs` carried through the
    stages of `SY_b_Sync`. -/
namespace Asts.SYb
open Asts

/-- the revision store after the adoption stage (owners and labels may have changed, nothing else) -/
def adoptedStore (plan : List Fault) (i : SyncIn) : List Rev :=
  (adoptOrphanRevisionsF plan i.view.deleting i.fresh { store := i.store }).1.store

/-- the sorted listing the reconcile works on -/
def syncListing (plan : List Fault) (i : SyncIn) : List Rev := sortRevs (listRevisions (adoptedStore plan i))

/-- the names a finished sync treated as live: current revision, update revision, revision labels of the claimed pods -/
def syncLive (o : SyncOut) : List String := o.cur :: o.upd :: o.claimed.map (·.pod.rev)

/-- the unused revisions of the set, oldest first, as one whole sync sees them -/
def syncHistory (plan : List Fault) (i : SyncIn) (o : SyncOut) : List Rev :=
  (syncListing plan i).filter (fun r => !(syncLive o).contains r.name && r.owner == .self)

theorem adoptedStore_adopted (plan : List Fault) (i : SyncIn) : AdoptedFrom i.store (adoptedStore plan i) :=
  adopt_adopted plan i.view.deleting i.fresh { store := i.store }

/-- the update revision a sync reports: in the status it wrote, else the cached one -/
def reportedUpd (i : SyncIn) (o : SyncOut) : String :=
  match o.status with | some st => st.updateRev | none => i.stored.updateRev

/-- the state (store + log) after adoption, claim and the listing of the revisions -/
def listedState (plan : List Fault) (i : SyncIn) : RevSt :=
  (listRevsF plan { store := adoptedStore plan i,
                    tr := (claimPodsF plan i.view.deleting i.fresh i.pods
                      (adoptOrphanRevisionsF plan i.view.deleting i.fresh { store := i.store }).1.tr).tr }).1

/-- a sync that got as far as the truncation of the history -/
structure Reach (h : Hashing) (i : SyncIn) (plan : List Fault) (o : SyncOut) where
  cur : Rev
  upd : Rev
  cc : Int
  sL : RevSt
  sG : RevSt
  sT : RevSt
  hL : sL.store = adoptedStore plan i
  hsL : sL = listedState plan i
  hadopt : (adoptOrphanRevisionsF plan i.view.deleting i.fresh { store := i.store }).2 = .ok
  hclaim : o.claimed = (claimPodsF plan i.view.deleting i.fresh i.pods (adoptOrphanRevisionsF plan i.view.deleting i.fresh { store := i.store }).1.tr).claimed
  hpick : pickF h plan i.template (i.collisionCount.getD 0) (syncListing plan i) sL = (sG, some (upd, cc))
  hcur : cur = ((syncListing plan i).find? (·.name == i.stored.currentRev)).getD upd
  hT : sT.store = sG.store
  hlogL : Ext HeadShape [] sL.tr.log
  hlogT : Ext TailShape sG.tr.log sT.tr.log
  ocur : o.cur = cur.name
  oupd : o.upd = upd.name
  olog : o.log = (truncateF plan i.historyLimit (o.claimed.map (·.pod.rev)) (syncListing plan i) cur upd sT).1.tr.log
  ostore : o.store = (truncateF plan i.historyLimit (o.claimed.map (·.pod.rev)) (syncListing plan i) cur upd sT).1.store
  oout : o.outcome = (truncateF plan i.historyLimit (o.claimed.map (·.pod.rev)) (syncListing plan i) cur upd sT).2
  orep : reportedUpd i o = upd.name

theorem Reach.history {h : Hashing} {i : SyncIn} {plan : List Fault} {o : SyncOut} (R : Reach h i plan o) :
    historyOf (o.claimed.map (·.pod.rev)) (syncListing plan i) R.cur R.upd = syncHistory plan i o := by
  unfold historyOf syncHistory liveOf syncLive
  rw [R.ocur, R.oupd]

/-- how a stored revision of the final store relates to the initial store: it is an initial revision, possibly adopted,
    relabelled or renumbered — or it is new, under a name that was free, records the current template and is owned -/
def Evolved (i : SyncIn) (y : Rev) : Prop :=
  (∃ x ∈ i.store, y.name = x.name ∧ y.data = x.data ∧ y.ctime = x.ctime ∧ y.hashNum = x.hashNum ∧ y.marker = x.marker ∧
      (y.owner = x.owner ∨ y.owner = .self)) ∨
  (y.name ∉ i.store.map (·.name) ∧ y.data = i.template ∧ y.owner = .self)

theorem evolved_of_adopted {i : SyncIn} {t : List Rev} (ht : AdoptedFrom i.store t) {y : Rev} (hy : y ∈ t) : Evolved i y := by
  obtain ⟨x, hx, hc, ho, _⟩ := ht.mem hy
  simp only [core, Prod.mk.injEq] at hc
  exact Or.inl ⟨x, hx, hc.1, hc.2.2.2.1, hc.2.2.1, hc.2.2.2.2.1, hc.2.2.2.2.2, ho⟩

theorem evolved_of_pick {h : Hashing} {i : SyncIn} {plan : List Fault} {cc0 : Int} {revs : List Rev} {s : RevSt}
    (hs : AdoptedFrom i.store s.store) {y : Rev} (hy : y ∈ (pickF h plan i.template cc0 revs s).1.store) : Evolved i y := by
  rcases pickF_store h plan i.template cc0 revs s with h1 | ⟨e, n, h1⟩ | ⟨cc, _, habs, h1, _⟩
  · rw [h1] at hy; exact evolved_of_adopted hs hy
  · rw [h1] at hy
    obtain ⟨x, hx, rfl⟩ := List.mem_map.mp hy
    rcases evolved_of_adopted hs hx with ⟨x0, hx0, a, b, c, d, e', f⟩ | ⟨a, b, c⟩
    · refine Or.inl ⟨x0, hx0, ?_⟩
      unfold setNumber; split <;> exact ⟨a, b, c, d, e', f⟩
    · exact absurd (hs.names ▸ List.mem_map_of_mem (f := (·.name)) hx) a
  · rw [h1, mem_insertByName] at hy
    rcases hy with rfl | hy
    · refine Or.inr ⟨?_, rfl, rfl⟩
      intro hmem
      rw [← hs.names] at hmem
      obtain ⟨x, hx, hxe⟩ := List.mem_map.mp hmem
      exact habs x hx hxe
    · exact evolved_of_adopted hs hy

/-- a sync either stops early — without success, without a status, having at most adopted, relabelled, renumbered or
    created — or reaches the truncation -/
theorem sync_cases (h : Hashing) (i : SyncIn) (plan : List Fault) (hrun : (i.paused || !i.selectorOk) = false) :
    ((syncF h i plan).outcome ≠ .ok ∧ (syncF h i plan).status = none ∧
      ((AdoptedFrom i.store (syncF h i plan).store ∧ Ext HeadShape [] (syncF h i plan).log) ∨
        ∃ sL : RevSt, sL.store = adoptedStore plan i ∧ Ext HeadShape [] sL.tr.log ∧
          (syncF h i plan).store = (pickF h plan i.template (i.collisionCount.getD 0) (syncListing plan i) sL).1.store ∧
          Ext TailShape (pickF h plan i.template (i.collisionCount.getD 0) (syncListing plan i) sL).1.tr.log
            (syncF h i plan).log)) ∨
    Nonempty (Reach h i plan (syncF h i plan)) := by
  rw [syncF_eq, hrun]
  simp only [Bool.false_eq_true, if_false]
  cases hh : syncHead h i plan with
  | inl o =>
    obtain ⟨h1, h2, _, h3⟩ := syncHead_inl hh
    refine Or.inl ⟨h1, h2, ?_⟩
    rcases h3 with ⟨h3, hlog⟩ | ⟨sL, k1, k2, k3, k4⟩
    · exact Or.inl ⟨by rw [h3]; exact adopt_adopted plan i.view.deleting i.fresh { store := i.store }, hlog⟩
    · refine Or.inr ⟨sL, k1, k2, ?_, ?_⟩
      · rw [k3]; unfold syncListing adoptedStore; rw [k1]
      · simp only; rw [k4]; unfold syncListing adoptedStore; rw [k1]; exact Ext.refl _ _
  | inr t =>
    obtain ⟨claimed, revs, cur, upd, cc, s⟩ := t
    simp only
    obtain ⟨A, sL, hA, hAd, hcl, hfl, hsL, hsLs, hlogL, hrevs, hpick, hcur⟩ := syncHead_inr hh
    have hAs : adoptedStore plan i = A.store := by unfold adoptedStore; rw [hA]
    have hlist : syncListing plan i = revs := by unfold syncListing; rw [hAs, hrevs]
    obtain ⟨o1, o2, o3, o4⟩ := finishF_spec i plan claimed revs cur upd cc s
    rcases o4 with ⟨k1, k2, k3, k4⟩ | ⟨sT, t1, t2, t3, t4, t5, t6⟩
    · refine Or.inl ⟨k1, k3, Or.inr ⟨sL, by rw [hsLs, hAs], hlogL, ?_, ?_⟩⟩
      · rw [k2, hlist, hpick]
      · rw [hlist, hpick]; exact k4
    · refine Or.inr ⟨⟨cur, upd, cc, sL, s, sT, ?_, ?_, ?_, ?_, ?_, ?_, t1, hlogL, t2, o1, o2, ?_, ?_, ?_, t6⟩⟩
      · rw [hsLs, hAs]
      · unfold listedState; rw [hsL, hAs, hA]
      · rw [hA]
      · rw [o3, hcl, hA]
      · rw [hlist]; exact hpick
      · rw [hlist]; exact hcur
      · rw [o3, hlist]; exact t3
      · rw [o3, hlist]; exact t4
      · rw [o3, hlist]; exact t5

/-- every revision of the final store is an initial one (adopted / relabelled / renumbered at most) or a new one that
    records the current template under a name that was free: nothing is ever overwritten -/
theorem sync_store_evolved (h : Hashing) (i : SyncIn) (plan : List Fault) :
    ∀ y ∈ (syncF h i plan).store, Evolved i y := by
  by_cases hrun : (i.paused || !i.selectorOk) = true
  · intro y hy
    rw [syncF_eq, if_pos hrun] at hy
    exact evolved_of_adopted (AdoptedFrom.refl _) hy
  · have hrun' : (i.paused || !i.selectorOk) = false := by simpa using hrun
    rcases sync_cases h i plan hrun' with ⟨_, _, ⟨h3, _⟩ | ⟨sL, hs, _, h3, _⟩⟩ | ⟨⟨R⟩⟩
    · intro y hy; exact evolved_of_adopted h3 hy
    · intro y hy; rw [h3] at hy; exact evolved_of_pick (by rw [hs]; exact adoptedStore_adopted plan i) hy
    · intro y hy
      rw [R.ostore] at hy
      have hy' := (truncateF_store plan i.historyLimit _ _ R.cur R.upd R.sT).1.subset hy
      rw [R.hT] at hy'
      have hp := R.hpick
      have : R.sG.store = (pickF h plan i.template (i.collisionCount.getD 0) (syncListing plan i) R.sL).1.store := by rw [hp]
      rw [this] at hy'
      exact evolved_of_pick (by rw [R.hL]; exact adoptedStore_adopted plan i) hy'

theorem filter_length_mono {α} {l : List α} {p q : α → Bool} (hpq : ∀ x ∈ l, p x = true → q x = true) :
    (l.filter p).length ≤ (l.filter q).length := by
  induction l with
  | nil => simp
  | cons a as ih =>
    have ih' := ih (fun x hx => hpq x (List.mem_cons_of_mem _ hx))
    by_cases hp : p a = true
    · have hq := hpq a List.mem_cons_self hp
      rw [List.filter_cons_of_pos hp, List.filter_cons_of_pos hq]
      simp only [List.length_cons]; omega
    · rw [List.filter_cons_of_neg hp]
      by_cases hq : q a = true
      · rw [List.filter_cons_of_pos hq]; simp only [List.length_cons]; omega
      · rw [List.filter_cons_of_neg hq]; exact ih'

theorem find?_of_names_nodup {l : List Rev} (hn : (l.map (·.name)).Nodup) {x : Rev} (hx : x ∈ l) :
    l.find? (·.name == x.name) = some x := by
  induction l with
  | nil => simp at hx
  | cons q qs ih =>
    rw [List.map_cons, List.nodup_cons] at hn
    rcases List.mem_cons.mp hx with rfl | hx
    · simp
    · have : q.name ≠ x.name := fun e => hn.1 (e ▸ List.mem_map_of_mem hx)
      rw [List.find?_cons_of_neg (by simpa using this)]
      exact ih hn.2 hx

theorem Reach.listed_sub {h : Hashing} {i : SyncIn} {plan : List Fault} {o : SyncOut} (R : Reach h i plan o) :
    ∀ r ∈ syncListing plan i, r ∈ R.sL.store := by
  intro r hr
  rw [R.hL]
  exact (mem_listRevisions (mem_sortRevs.mp hr)).1

theorem Reach.sG_eq {h : Hashing} {i : SyncIn} {plan : List Fault} {o : SyncOut} (R : Reach h i plan o) :
    R.sG = (pickF h plan i.template (i.collisionCount.getD 0) (syncListing plan i) R.sL).1 := by rw [R.hpick]

theorem Reach.pick2 {h : Hashing} {i : SyncIn} {plan : List Fault} {o : SyncOut} (R : Reach h i plan o) :
    (pickF h plan i.template (i.collisionCount.getD 0) (syncListing plan i) R.sL).2 = some (R.upd, R.cc) := by rw [R.hpick]

/-- the update revision records the template, and is in the final store, whatever the outcome of the truncation -/
theorem Reach.upd_stored {h : Hashing} {i : SyncIn} {plan : List Fault} {o : SyncOut} (R : Reach h i plan o) :
    R.upd.data = i.template ∧ R.upd ∈ o.store ∧ (i.collisionCount.getD 0) ≤ R.cc := by
  obtain ⟨h1, h2, h3⟩ := pickF_sound h plan i.template (i.collisionCount.getD 0) (syncListing plan i) R.sL R.listed_sub R.pick2
  refine ⟨h1, ?_, h3⟩
  rw [R.ostore]
  apply truncateF_keeps_live
  · rw [R.hT, R.sG_eq]; exact h2
  · exact List.mem_cons_of_mem _ List.mem_cons_self

theorem Reach.names_nodup {h : Hashing} {i : SyncIn} {plan : List Fault} {o : SyncOut} (R : Reach h i plan o)
    (hn : (i.store.map (·.name)).Nodup) : (R.sT.store.map (·.name)).Nodup := by
  rw [R.hT, R.sG_eq]
  apply pickF_names_nodup
  rw [R.hL, (adoptedStore_adopted plan i).names]
  exact hn

/-- **C08 (1) for a whole sync**: after a successful reconcile the reported update revision names a stored revision that
    records the current template -/
theorem sync_ok_upd_stored (h : Hashing) (i : SyncIn) (plan : List Fault) (hrun : (i.paused || !i.selectorOk) = false)
    (hok : (syncF h i plan).outcome = .ok) :
    ∃ u ∈ (syncF h i plan).store, u.name = (syncF h i plan).upd ∧ u.name = reportedUpd i (syncF h i plan) ∧
      u.data = i.template := by
  rcases sync_cases h i plan hrun with ⟨h1, _⟩ | ⟨⟨R⟩⟩
  · exact absurd hok h1
  · obtain ⟨a, b, _⟩ := R.upd_stored
    exact ⟨R.upd, b, R.oupd.symm, R.orep.symm, a⟩

theorem sync_names_nodup (h : Hashing) (i : SyncIn) (plan : List Fault) (hn : (i.store.map (·.name)).Nodup) :
    ((syncF h i plan).store.map (·.name)).Nodup := by
  by_cases hrun : (i.paused || !i.selectorOk) = true
  · rw [syncF_eq, if_pos hrun]; exact hn
  · have hrun' : (i.paused || !i.selectorOk) = false := by simpa using hrun
    rcases sync_cases h i plan hrun' with ⟨_, _, ⟨h3, _⟩ | ⟨sL, hs, _, h3, _⟩⟩ | ⟨⟨R⟩⟩
    · rw [h3.names]; exact hn
    · rw [h3]; apply pickF_names_nodup; rw [hs, (adoptedStore_adopted plan i).names]; exact hn
    · rw [R.ostore]
      exact List.Nodup.sublist (List.Sublist.map _ (truncateF_store plan i.historyLimit _ _ R.cur R.upd R.sT).1) (R.names_nodup hn)

/-- **C13 (4) for a whole sync**: after a successful sync at most `lim` (0 for a negative limit) of the final store's
    revisions are unused history: owned by the set, listed (selector or marker), and named neither by the current nor
    the update revision nor by a claimed pod -/
theorem sync_ok_history_within_limit (h : Hashing) (i : SyncIn) (plan : List Fault) (lim : Int)
    (hrun : (i.paused || !i.selectorOk) = false) (hlim : i.historyLimit = some lim)
    (hn : (i.store.map (·.name)).Nodup) (hok : (syncF h i plan).outcome = .ok) :
    (((syncF h i plan).store.filter (fun x => x.owner == .self && (x.selMatch || x.marker) &&
        !(syncLive (syncF h i plan)).contains x.name)).length : Int) ≤ max lim 0 := by
  rcases sync_cases h i plan hrun with ⟨h1, _⟩ | ⟨⟨R⟩⟩
  · exact absurd hok h1
  · have hstore := R.ostore
    have hout := R.oout
    rw [hlim] at hstore hout
    rw [hok] at hout
    have hout' : (truncateF plan (some lim) ((syncF h i plan).claimed.map (·.pod.rev)) (syncListing plan i) R.cur R.upd R.sT).2 = .ok :=
      hout.symm
    have hnd := R.names_nodup hn
    have hle := truncateF_ok_left plan lim _ _ R.cur R.upd R.sT hnd hout'
    rw [← hstore, R.history] at hle
    have hmono : ((syncF h i plan).store.filter (fun x => x.owner == .self && (x.selMatch || x.marker) &&
        !(syncLive (syncF h i plan)).contains x.name)).length ≤
        ((syncF h i plan).store.filter (fun x => ((syncHistory plan i (syncF h i plan)).map (·.name)).contains x.name)).length := by
      apply filter_length_mono
      intro x hx hp
      simp only [Bool.and_eq_true, beq_iff_eq, Bool.or_eq_true, Bool.not_eq_true', ← Bool.not_eq_true,
        List.contains_iff_mem] at hp
      obtain ⟨⟨hown, hsel⟩, hlive⟩ := hp
      rw [hstore] at hx
      have hx' := (truncateF_store plan (some lim) _ _ R.cur R.upd R.sT).1.subset hx
      rw [R.hT, R.sG_eq] at hx'
      rcases pickF_back h plan i.template _ _ R.sL hx' with ⟨x0, hx0, e1, e2, e3, e4, _⟩ | ⟨cc, hcc⟩
      · rw [R.hL] at hx0
        have hnA : ((adoptedStore plan i).map (·.name)).Nodup := by rw [(adoptedStore_adopted plan i).names]; exact hn
        have hl : x0 ∈ syncListing plan i := by
          unfold syncListing
          rw [mem_sortRevs, mem_listRevisions_iff hnA]
          refine ⟨hx0, by rw [← e3, ← e4]; exact hsel, by rw [← e2, hown]; simp⟩
        have hh : x0 ∈ syncHistory plan i (syncF h i plan) := by
          unfold syncHistory
          rw [List.mem_filter]
          refine ⟨hl, ?_⟩
          simp only [Bool.and_eq_true, Bool.not_eq_true', ← Bool.not_eq_true, List.contains_iff_mem, beq_iff_eq]
          exact ⟨by rw [← e1]; exact hlive, by rw [← e2]; exact hown⟩
        simp only [List.contains_iff_mem]
        exact List.mem_map.mpr ⟨x0, hh, e1.symm⟩
      · rw [R.pick2] at hcc
        simp only [Option.some.injEq, Prod.mk.injEq] at hcc
        exfalso
        apply hlive
        unfold syncLive
        rw [R.oupd, hcc.1]
        exact List.mem_cons_of_mem _ List.mem_cons_self
    omega

/-! ## the whole log -/

def AnyShape (e : String) : Prop := HeadShape e ∨ (∃ c : RevCall, e = c.key) ∨ TailShape e ∨ ∃ r : Rev, e = delKey r

/-- a log made of head-stage entries, the calls `calls` of the revision resolution, reconcile and status entries, and
    the Deletes `dels` of the truncation, in this order -/
def LogForm (l : List String) (calls : List RevCall) (dels : List Rev) : Prop :=
  ∃ hd tl, l = hd ++ calls.map RevCall.key ++ tl ++ dels.map delKey ∧ (∀ e ∈ hd, HeadShape e) ∧ (∀ e ∈ tl, TailShape e)

theorem filter_pre_nil {P : String} {l : List String} (h : ∀ e ∈ l, pre P e = false) : l.filter (pre P) = [] :=
  List.filter_eq_nil_iff.mpr (fun e he => by rw [h e he]; simp)

theorem LogForm.filter_del {l : List String} {calls : List RevCall} {dels : List Rev} (h : LogForm l calls dels) :
    l.filter (pre "delete:rev:") = dels.map delKey := by
  obtain ⟨hd, tl, rfl, hhd, htl⟩ := h
  rw [List.filter_append, List.filter_append, List.filter_append, filter_pre_del_calls, filter_pre_del_dels,
    filter_pre_nil (fun e he => (hhd e he).not_del), filter_pre_nil (fun e he => (htl e he).not_del)]
  rfl

theorem LogForm.filter_create {l : List String} {calls : List RevCall} {dels : List Rev} (h : LogForm l calls dels) :
    l.filter (pre "create:rev:") = (calls.filter RevCall.isCreate).map RevCall.key := by
  obtain ⟨hd, tl, rfl, hhd, htl⟩ := h
  rw [List.filter_append, List.filter_append, List.filter_append, filter_pre_create_calls, filter_pre_create_dels,
    filter_pre_nil (fun e he => (hhd e he).not_create), filter_pre_nil (fun e he => (htl e he).not_create)]
  simp

theorem LogForm.shapes {l : List String} {calls : List RevCall} {dels : List Rev} (h : LogForm l calls dels) :
    ∀ e ∈ l, AnyShape e := by
  obtain ⟨hd, tl, rfl, hhd, htl⟩ := h
  intro e he
  simp only [List.mem_append, List.mem_map] at he
  rcases he with ((he | ⟨c, _, rfl⟩) | he) | ⟨r, _, rfl⟩
  · exact Or.inl (hhd e he)
  · exact Or.inr (Or.inl ⟨c, rfl⟩)
  · exact Or.inr (Or.inr (Or.inl (htl e he)))
  · exact Or.inr (Or.inr (Or.inr ⟨r, rfl⟩))

/-- an exit before the revisions are resolved -/
theorem LogForm.of_head {l : List String} (h : Ext HeadShape [] l) : LogForm l [] [] := by
  obtain ⟨hd, he, hhd⟩ := h
  exact ⟨hd, [], by rw [he]; simp, hhd, by simp⟩

/-- an exit after the revisions are resolved and before the truncation -/
theorem LogForm.of_pick {h : Hashing} {plan : List Fault} {template : String} {cc0 : Int} {revs : List Rev} {sL : RevSt}
    {l : List String} (hl : Ext HeadShape [] sL.tr.log) (ht : Ext TailShape (pickF h plan template cc0 revs sL).1.tr.log l) :
    LogForm l (pickCalls h plan template cc0 revs sL) [] := by
  obtain ⟨hd, h1, hhd⟩ := hl
  obtain ⟨tl, rfl, htl⟩ := ht
  exact ⟨hd, tl, by rw [pickF_log, h1]; simp, hhd, htl⟩

theorem Reach.logForm {h : Hashing} {i : SyncIn} {plan : List Fault} {o : SyncOut} (R : Reach h i plan o) :
    LogForm o.log (pickCalls h plan i.template (i.collisionCount.getD 0) (syncListing plan i) R.sL)
      (truncDeletes plan i.historyLimit (o.claimed.map (·.pod.rev)) (syncListing plan i) R.cur R.upd R.sT) := by
  obtain ⟨hd, h1, h2⟩ := R.hlogL
  obtain ⟨tl, h3, h4⟩ := R.hlogT
  refine ⟨hd, tl, ?_, h2, h4⟩
  rw [R.olog, truncateF_log, h3, R.sG_eq, pickF_log, h1]
  simp

/-- the log of any sync has this form, and the revision calls in it, if any, are those of a resolution over the listing -/
theorem sync_logForm (h : Hashing) (i : SyncIn) (plan : List Fault) :
    ∃ calls dels, LogForm (syncF h i plan).log calls dels ∧
      (calls = [] ∨ ∃ sL, calls = pickCalls h plan i.template (i.collisionCount.getD 0) (syncListing plan i) sL) := by
  by_cases hrun : (i.paused || !i.selectorOk) = true
  · rw [syncF_eq, if_pos hrun]
    exact ⟨[], [], LogForm.of_head (Ext.refl _ _), Or.inl rfl⟩
  · rcases sync_cases h i plan (by simpa using hrun) with ⟨_, _, ⟨_, h4⟩ | ⟨sL, _, hl, _, h4⟩⟩ | ⟨⟨R⟩⟩
    · exact ⟨[], [], LogForm.of_head h4, Or.inl rfl⟩
    · exact ⟨_, [], LogForm.of_pick hl h4, Or.inr ⟨sL, rfl⟩⟩
    · exact ⟨_, _, R.logForm, Or.inr ⟨R.sL, rfl⟩⟩

theorem sync_log_shapes (h : Hashing) (i : SyncIn) (plan : List Fault) : ∀ e ∈ (syncF h i plan).log, AnyShape e := by
  obtain ⟨_, _, hform, _⟩ := sync_logForm h i plan
  exact hform.shapes

/-- `d` accounts for the `delete:rev:` entries of the finished sync `o`: they are its rendering, `d` is a prefix of the unused
    history, empty unless the history exceeds the limit, never longer than the excess and exactly the excess on success;
    and no stored revision outside `d` disappears -/
def DeletesOf (plan : List Fault) (i : SyncIn) (o : SyncOut) (d : List Rev) : Prop :=
  o.log.filter (pre "delete:rev:") = d.map delKey ∧
  d <+: syncHistory plan i o ∧
  (d ≠ [] → ∃ lim, i.historyLimit = some lim ∧ lim < ((syncHistory plan i o).length : Int)) ∧
  (∀ lim, i.historyLimit = some lim → d.length ≤ (syncHistory plan i o).length - lim.toNat) ∧
  (∀ lim, i.historyLimit = some lim → o.outcome = .ok → (i.paused || !i.selectorOk) = false →
    d = if ((syncHistory plan i o).length : Int) ≤ lim then []
        else (syncHistory plan i o).take ((syncHistory plan i o).length - lim.toNat)) ∧
  (∀ x ∈ adoptedStore plan i, x.name ∉ d.map (·.name) → ∃ y ∈ o.store, y.name = x.name)

/-- **every `delete:rev:` entry of the whole sync log** comes from the truncation -/
theorem sync_delete_entries (h : Hashing) (i : SyncIn) (plan : List Fault) :
    ∃ d : List Rev, DeletesOf plan i (syncF h i plan) d := by
  have hnone : ∀ o : SyncOut, o.log.filter (pre "delete:rev:") = [] → o.outcome ≠ .ok ∨ (i.paused || !i.selectorOk) = true →
      (∀ x ∈ adoptedStore plan i, ∃ y ∈ o.store, y.name = x.name) → ∃ d : List Rev, DeletesOf plan i o d := by
    intro o ho hout hst
    refine ⟨[], by rw [ho]; rfl, List.nil_prefix, fun hne => absurd rfl hne, fun _ _ => Nat.zero_le _, ?_, fun x hx _ => hst x hx⟩
    intro lim _ hok hrun
    rcases hout with hout | hout
    · exact absurd hok hout
    · rw [hrun] at hout; exact absurd hout (by simp)
  have hstore_adopted : ∀ t : List Rev, AdoptedFrom i.store t → ∀ x ∈ adoptedStore plan i, ∃ y ∈ t, y.name = x.name := by
    intro t ht x hx
    have hn1 := (adoptedStore_adopted plan i).names
    have hn2 := ht.names
    have : x.name ∈ t.map (·.name) := by rw [hn2, ← hn1]; exact List.mem_map_of_mem hx
    obtain ⟨y, hy, hye⟩ := List.mem_map.mp this
    exact ⟨y, hy, hye⟩
  by_cases hrun : (i.paused || !i.selectorOk) = true
  · apply hnone
    · rw [syncF_eq, if_pos hrun]; rfl
    · exact Or.inr hrun
    · rw [syncF_eq, if_pos hrun]; exact hstore_adopted _ (AdoptedFrom.refl _)
  · have hrun' : (i.paused || !i.selectorOk) = false := by simpa using hrun
    rcases sync_cases h i plan hrun' with ⟨h1, _, ⟨h3, h4⟩ | ⟨sL, hs, hl, h3, h4⟩⟩ | ⟨⟨R⟩⟩
    · exact hnone _ (LogForm.of_head h4).filter_del (Or.inl h1) (hstore_adopted _ h3)
    · apply hnone _ (LogForm.of_pick hl h4).filter_del (Or.inl h1)
      intro x hx
      rw [h3]
      rw [← hs] at hx
      obtain ⟨y, hy, hye, _⟩ := pickF_preserves h plan i.template (i.collisionCount.getD 0) (syncListing plan i) sL hx
      exact ⟨y, hy, hye⟩
    · refine ⟨_, R.logForm.filter_del, ?_, ?_, ?_, ?_, ?_⟩
      · rw [← R.history]; exact truncDeletes_prefix_history _ _ _ _ _ _ _
      · intro hne; rw [← R.history]; exact truncDeletes_ne_nil hne
      · intro lim hlim; rw [← R.history, hlim]; exact truncDeletes_length_le _ _ _ _ _ _ _
      · intro lim hlim hok _
        rw [← R.history, hlim]
        apply (truncateF_result plan lim _ _ R.cur R.upd R.sT).2.1
        rw [← hlim, ← R.oout]; exact hok
      · intro x hx hxn
        rw [R.ostore]
        rw [← R.hL] at hx
        obtain ⟨y, hy, hye, _⟩ := pickF_preserves h plan i.template (i.collisionCount.getD 0) (syncListing plan i) R.sL hx
        rw [← R.sG_eq, ← R.hT] at hy
        exact ⟨y, (truncateF_store plan i.historyLimit _ _ R.cur R.upd R.sT).2 y hy (by rw [hye]; exact hxn), hye⟩

theorem mem_syncHistory {plan : List Fault} {i : SyncIn} {o : SyncOut} {r : Rev} (hr : r ∈ syncHistory plan i o) :
    r ∈ adoptedStore plan i ∧ (r.selMatch = true ∨ r.marker = true) ∧ r.owner = .self ∧ r.name ∉ syncLive o := by
  unfold syncHistory at hr
  rw [List.mem_filter] at hr
  obtain ⟨h1, h2⟩ := hr
  simp only [Bool.and_eq_true, Bool.not_eq_true', ← Bool.not_eq_true, List.contains_iff_mem, beq_iff_eq] at h2
  have := mem_listRevisions (mem_sortRevs.mp h1)
  exact ⟨this.1, this.2.1, h2.2, h2.1⟩

theorem syncHistory_names_nodup (plan : List Fault) (i : SyncIn) (o : SyncOut) :
    ((syncHistory plan i o).map (·.name)).Nodup :=
  List.Nodup.sublist (List.Sublist.map _ List.filter_sublist) (sorted_listing_names_nodup _)

theorem syncHistory_strict (plan : List Fault) (i : SyncIn) (o : SyncOut) :
    (syncHistory plan i o).Pairwise (fun a b => revLt a b = true) :=
  List.Pairwise.sublist List.filter_sublist (sorted_strict (sortRevs_sorted _) (sorted_listing_names_nodup _))

/-- every `create:rev:` entry of the whole sync log is a probe of `createControllerRevision`: the name derived from the
    current template at some collision count ≥ the stored one -/
theorem sync_create_entries (h : Hashing) (i : SyncIn) (plan : List Fault) :
    ∀ e ∈ (syncF h i plan).log, pre "create:rev:" e = true →
      ∃ j, (i.collisionCount.getD 0) ≤ j ∧ e = (RevCall.create (h.nameOf i.template j)).key := by
  intro e he hp
  obtain ⟨calls, _, hform, hcalls⟩ := sync_logForm h i plan
  have hmem : e ∈ (calls.filter RevCall.isCreate).map RevCall.key := by
    rw [← hform.filter_create]; exact List.mem_filter.mpr ⟨he, hp⟩
  obtain ⟨c, hc, rfl⟩ := List.mem_map.mp hmem
  obtain ⟨hc, hcr⟩ := List.mem_filter.mp hc
  rcases hcalls with rfl | ⟨sL, rfl⟩
  · simp at hc
  · obtain ⟨j, hj, rfl⟩ := pickCalls_create hc hcr
    exact ⟨j, hj, rfl⟩

/-- **unchanged or reverted template**: if some listed revision equals the fresh one, the whole sync logs no
    `create:rev:` entry -/
theorem sync_no_create_of_equal (h : Hashing) (i : SyncIn) (plan : List Fault) {r : Rev} (hr : r ∈ syncListing plan i)
    (heq : equalRev r (freshOf h i.template (i.collisionCount.getD 0) (syncListing plan i)) = true) :
    (syncF h i plan).log.filter (pre "create:rev:") = [] := by
  have hne : equalsOf h i.template (i.collisionCount.getD 0) (syncListing plan i) ≠ [] :=
    List.ne_nil_of_mem (List.mem_filter.mpr ⟨hr, heq⟩)
  obtain ⟨calls, _, hform, hcalls⟩ := sync_logForm h i plan
  rw [hform.filter_create]
  rcases hcalls with rfl | ⟨sL, rfl⟩
  · rfl
  · rw [List.filter_eq_nil_iff.mpr (fun c hc => by rw [pickCalls_no_create hne hc]; simp)]
    rfl

/-- **revert, for a whole sync**: if some listed revision equals the fresh one and the sync succeeds, the stored update
    revision records the template and carries a revision number at least as large as every listed one -/
theorem sync_revert_number (h : Hashing) (i : SyncIn) (plan : List Fault) (hrun : (i.paused || !i.selectorOk) = false)
    (hok : (syncF h i plan).outcome = .ok) {r0 : Rev} (hr : r0 ∈ syncListing plan i)
    (heq : equalRev r0 (freshOf h i.template (i.collisionCount.getD 0) (syncListing plan i)) = true) :
    ∃ u ∈ (syncF h i plan).store, u.name = (syncF h i plan).upd ∧ u.data = i.template ∧
      (∀ r ∈ syncListing plan i, r.number ≤ u.number) ∧
      (u ∈ syncListing plan i ∨
        (u.number = nextRevision (syncListing plan i) ∧ ∃ e ∈ syncListing plan i, e.name = u.name ∧ e.data = i.template)) ∧
      (∀ q ∈ (syncF h i plan).store, q.name ≠ (syncF h i plan).upd → q ∈ adoptedStore plan i) := by
  rcases sync_cases h i plan hrun with ⟨h1, _⟩ | ⟨⟨R⟩⟩
  · exact absurd hok h1
  · have hne : equalsOf h i.template (i.collisionCount.getD 0) (syncListing plan i) ≠ [] :=
      List.ne_nil_of_mem (List.mem_filter.mpr ⟨hr, heq⟩)
    obtain ⟨e, l, he, hl, _, hrev⟩ := pickF_revert h plan i.template (i.collisionCount.getD 0) (syncListing plan i) R.sL hne
    have hsorted : SortedRevs (syncListing plan i) := sortRevs_sorted _
    obtain ⟨_, hcase⟩ := hrev hsorted R.upd R.cc R.pick2
    obtain ⟨hd, hst, _⟩ := R.upd_stored
    refine ⟨R.upd, hst, R.oupd.symm, hd, ?_, ?_, ?_⟩
    · rcases hcase with ⟨hu, _⟩ | ⟨hu, _, _, hlt⟩
      · rw [hu]; exact sorted_getLast_max hsorted hl
      · intro r hr'; exact le_of_lt (hlt r hr')
    · rcases hcase with ⟨hu, _⟩ | ⟨hu, _, _, _⟩
      · exact Or.inl (hu ▸ List.mem_of_getLast? hl)
      · have hem := mem_equalsOf (List.mem_of_getLast? he)
        exact Or.inr ⟨by rw [hu], e, hem.1, by rw [hu], hem.2.2⟩
    · intro q hq hqn
      rw [R.ostore] at hq
      have hq' := (truncateF_store plan i.historyLimit _ _ R.cur R.upd R.sT).1.subset hq
      rw [R.hT, R.sG_eq] at hq'
      rcases hcase with ⟨_, _, hs, _⟩ | ⟨hu, _, hs, _⟩
      · rw [hs, R.hL] at hq'; exact hq'
      · rw [hs] at hq'
        obtain ⟨x, hx, rfl⟩ := List.mem_map.mp hq'
        rw [R.hL] at hx
        unfold setNumber at hqn ⊢
        by_cases hxe : (x.name == e.name) = true
        · rw [if_pos hxe] at hqn
          exfalso; apply hqn
          rw [R.oupd, hu]
          simpa using hxe
        · rw [if_neg hxe]; exact hx

end Asts.SYb
