import Mathlib.Tactic
import Asts.Proofs.WE_Index
import Asts.Proofs.SY_b_C08Monitor

/-! # WE — the monitor `C08revert` is true on the model's histories (store names distinct) -/
namespace Asts.WE
open Asts Asts.SYb

theorem adoptedStore_nodup (p : List Fault) {i : SyncIn} (hn : (i.store.map (·.name)).Nodup) :
    ((adoptedStore p i).map (·.name)).Nodup := by
  rw [(adoptedStore_adopted p i).names]; exact hn

theorem round_store (h : Hashing) (w : SyncIn) (p : List Fault) : (round h w p).1.store = (syncF h (settle w) p).store := rfl

theorem round_out_ok (h : Hashing) (w : SyncIn) (p : List Fault) :
    (round h w p).2.out = "ok" ↔ (syncF h (settle w) p).outcome = .ok := by
  show (match (syncF h (settle w) p).outcome with | .ok => "ok" | .err => "err" | .panic _ => "panic") = "ok" ↔ _
  cases (syncF h (settle w) p).outcome <;> simp

theorem round_status_updateRev (h : Hashing) (w : SyncIn) (p : List Fault) :
    (round h w p).2.status.updateRev = reportedUpd (settle w) (syncF h (settle w) p) := by
  show ((syncF h (settle w) p).status.getD (settle w).stored).updateRev = _
  unfold reportedUpd
  cases (syncF h (settle w) p).status <;> rfl

theorem visible_adopted {x y : Rev} (hr : AdoptRel x y) (hv : visibleRev x = true) :
    (y.selMatch = true ∨ y.marker = true) ∧ y.owner ≠ .other := by
  obtain ⟨hc, ho, hs⟩ := hr
  simp only [core, Prod.mk.injEq] at hc
  unfold visibleRev at hv
  simp only [Bool.and_eq_true, Bool.or_eq_true, bne_iff_ne, ne_eq] at hv
  refine ⟨?_, ?_⟩
  · rcases hv.1 with h1 | h1
    · exact Or.inl (hs h1)
    · exact Or.inr (hc.2.2.2.2.2.trans h1)
  · rcases ho with h1 | h1
    · rw [h1]; exact hv.2
    · rw [h1]; decide

/-- **the revert clause on one round of the model**: world `W` (after the edits), names of stored revisions distinct, not
    paused, selector in order, some visible stored revision records the template under a compatible hash label, and the
    round succeeds: no revision under a new name, and the revision the status names records the template, carries the
    largest number among the visible ones — its old number, or a number strictly above all others -/
theorem revert_step (h : Hashing) (W : SyncIn) (p : List Fault) (hn : (W.store.map (·.name)).Nodup)
    (hnp : W.paused = false) (hsel : W.selectorOk = true) (hok : (round h W p).2.out = "ok")
    (held : W.store.any (fun q => visibleRev q && q.data == W.template &&
      hashCompat q.hashNum (h.hashNumOf W.template (W.collisionCount.getD 0))) = true) :
    ((round h W p).2.revs.all (fun x => W.store.any (·.name == x.name)) &&
     (round h W p).2.revs.any (fun u => u.name == (round h W p).2.status.updateRev && u.data == W.template &&
       ((round h W p).2.revs.filter visibleRev).all (fun v => v.number ≤ u.number) &&
       (W.store.any (fun q => q.name == u.name && q.number == u.number) ||
        ((round h W p).2.revs.filter visibleRev).all (fun v => v.name == u.name || v.number < u.number)))) = true := by
  have hrun : ((settle W).paused || !(settle W).selectorOk) = false := by
    show (W.paused || !W.selectorOk) = false
    rw [hnp, hsel]; rfl
  have hok' := (round_out_ok h W p).mp hok
  -- the held revision, adopted, is listed and equals the fresh one
  obtain ⟨q, hq, hqv⟩ := List.any_eq_true.mp held
  simp only [Bool.and_eq_true, beq_iff_eq] at hqv
  obtain ⟨⟨hvis, hdata⟩, hcompat⟩ := hqv
  obtain ⟨f, hf, hAeq⟩ := adoptedStore_adopted p (settle W)
  have hAn : ((adoptedStore p (settle W)).map (·.name)).Nodup := adoptedStore_nodup p hn
  have hAnames : (adoptedStore p (settle W)).map (·.name) = W.store.map (·.name) := (adoptedStore_adopted p (settle W)).names
  have hr0A : f q ∈ adoptedStore p (settle W) := by rw [hAeq]; exact List.mem_map_of_mem hq
  have hcore := (hf q).1
  simp only [core, Prod.mk.injEq] at hcore
  obtain ⟨hv1, hv2⟩ := visible_adopted (hf q) hvis
  have hr0L : f q ∈ syncListing p (settle W) := by
    unfold syncListing
    rw [mem_sortRevs, mem_listRevisions_iff hAn]
    exact ⟨hr0A, hv1, hv2⟩
  have heq : equalRev (f q) (freshOf h (settle W).template ((settle W).collisionCount.getD 0) (syncListing p (settle W))) = true := by
    unfold equalRev freshOf
    simp only [Bool.and_eq_true, beq_iff_eq]
    refine ⟨?_, ?_⟩
    · rw [hcore.2.2.2.2.1]
      unfold hashCompat at hcompat
      exact hcompat
    · rw [hcore.2.2.2.1]; exact hdata
  obtain ⟨u, hu, hun, hud, hmax, hcase, hrest⟩ := sync_revert_number h (settle W) p hrun hok' hr0L heq
  obtain ⟨u', _, a, b, _⟩ := sync_ok_upd_stored h (settle W) p hrun hok'
  have hrep : reportedUpd (settle W) (syncF h (settle W) p) = (syncF h (settle W) p).upd := b.symm.trans a
  have hnf := sync_names_nodup h (settle W) p hn
  -- members of the listing are adopted revisions: their names (and numbers) are those of stored revisions
  have listing_stored : ∀ r ∈ syncListing p (settle W), ∃ x ∈ W.store, x.name = r.name ∧ x.number = r.number := by
    intro r hr
    unfold syncListing at hr
    rw [mem_sortRevs] at hr
    have hrA := (mem_listRevisions hr).1
    rw [hAeq] at hrA
    obtain ⟨x, hx, rfl⟩ := List.mem_map.mp hrA
    have hc := (hf x).1
    simp only [core, Prod.mk.injEq] at hc
    exact ⟨x, hx, hc.1.symm, hc.2.1.symm⟩
  have visible_listed : ∀ v ∈ (syncF h (settle W) p).store, visibleRev v = true → v.name ≠ (syncF h (settle W) p).upd →
      v ∈ syncListing p (settle W) := by
    intro v hv hvv hne
    have hvA := hrest v hv hne
    unfold syncListing
    rw [mem_sortRevs, mem_listRevisions_iff hAn]
    unfold visibleRev at hvv
    simp only [Bool.and_eq_true, Bool.or_eq_true, bne_iff_ne, ne_eq] at hvv
    exact ⟨hvA, hvv.1, hvv.2⟩
  rw [Bool.and_eq_true]
  refine ⟨?_, ?_⟩
  · -- no new name
    rw [List.all_eq_true]
    intro x hx
    rw [List.any_eq_true]
    have hx' : x ∈ (syncF h (settle W) p).store := hx
    by_cases hxu : x.name = (syncF h (settle W) p).upd
    · rcases hcase with hul | ⟨_, e, he, hen, _⟩
      · obtain ⟨y, hy, hyn, _⟩ := listing_stored u hul
        exact ⟨y, hy, by simp [hyn, hun, hxu]⟩
      · obtain ⟨y, hy, hyn, _⟩ := listing_stored e he
        exact ⟨y, hy, by simp [hyn, hen, hun, hxu]⟩
    · have hxA := hrest x hx' hxu
      have : x.name ∈ W.store.map (·.name) := by rw [← hAnames]; exact List.mem_map_of_mem hxA
      obtain ⟨y, hy, hyn⟩ := List.mem_map.mp this
      exact ⟨y, hy, by simp [hyn]⟩
  · rw [List.any_eq_true]
    refine ⟨u, hu, ?_⟩
    have hmaxv : ∀ v ∈ (syncF h (settle W) p).store, visibleRev v = true → v.number ≤ u.number := by
      intro v hv hvv
      by_cases hvn : v.name = (syncF h (settle W) p).upd
      · have : v = u := List.inj_on_of_nodup_map hnf hv hu (hvn.trans hun.symm)
        rw [this]
      · exact hmax v (visible_listed v hv hvv hvn)
    simp only [Bool.and_eq_true, Bool.or_eq_true, beq_iff_eq, List.all_eq_true, List.mem_filter, decide_eq_true_eq,
      List.any_eq_true, and_imp]
    refine ⟨⟨⟨?_, hud⟩, fun v hv hvv => hmaxv v hv hvv⟩, ?_⟩
    · rw [round_status_updateRev, hrep]; exact hun
    · rcases hcase with hul | ⟨hnum, _⟩
      · obtain ⟨y, hy, hyn, hynum⟩ := listing_stored u hul
        exact Or.inl ⟨y, hy, hyn, hynum⟩
      · right
        intro v hv hvv
        by_cases hvn : v.name = (syncF h (settle W) p).upd
        · exact Or.inl (hvn.trans hun.symm)
        · right
          have := nextRevision_gt (sortRevs_sorted (listRevisions (adoptedStore p (settle W)))) v (visible_listed v hv hvv hvn)
          rw [hnum]; exact this

section
variable (h : Hashing) (script : Script) (plan : List Fault) (i : SyncIn)

theorem wAt_store_succ (k : Nat) : (wAt h script plan i (k + 1)).store = (histRoundAt h script 1 plan i k).obs.revs := by
  rw [wAt_succ, (applyEdits_frame _ _).store]; rfl

theorem wAt_stored_succ (k : Nat) : (wAt h script plan i (k + 1)).stored = (histRoundAt h script 1 plan i k).obs.status := by
  rw [wAt_succ, (applyEdits_frame _ _).stored]; rfl

theorem wAt_nodup (hn : (i.store.map (·.name)).Nodup) : ∀ k, ((wAt h script plan i k).store.map (·.name)).Nodup
  | 0 => by rw [wAt_zero, (applyEdits_frame _ _).store]; exact hn
  | k + 1 => by
    rw [wAt_succ, (applyEdits_frame _ _).store, round_store]
    exact sync_names_nodup h (settle (wAt h script plan i k)) _ (wAt_nodup hn k)

end

theorem or_of_imp {a b : Bool} (H : a = false → b = true) : (a || b) = true := by
  cases a
  · exact H rfl
  · rfl

theorem any_nonempty {α} (l : List α) (p : α → Bool) (h : l.any p = true) : l.isEmpty = false := by
  cases l with
  | nil => simp at h
  | cons a l => rfl

/-- **`C08revert`, the monitor, is true on the model** — every hashing, script, budget, fault plan and initial world whose
    stored revisions have distinct names -/
theorem C08revert_model (h : Hashing) (script : Script) (fuel : Nat) (i : SyncIn) (plan : List Fault)
    (hn : (i.store.map (·.name)).Nodup) :
    C08revert h i (observeHist (runHistory h script fuel 1 0 i plan)) = true := by
  unfold C08revert
  rw [List.all_eq_true]
  intro k hk
  rw [List.mem_range, observeHist_length] at hk
  cases k with
  | zero => rw [observe_get h script plan i fuel 0 hk]; simp
  | succ k =>
    obtain ⟨_, hspec⟩ := specAt_hist h script plan i fuel (k + 1) hk
    rw [observe_get h script plan i fuel (k + 1) hk]
    simp only [Nat.add_sub_cancel, observe_get h script plan i fuel k (by omega), obs1]
    apply or_of_imp
    intro hX
    simp only [Bool.or_eq_false_iff] at hX
    obtain ⟨⟨⟨⟨⟨_, hedit⟩, hpaused⟩, hsel⟩, hout⟩, hheld⟩ := hX
    have hedit' : (histRoundAt h script 1 plan i (k + 1)).edits.any Edit.isTemplate = true := by simpa using hedit
    have hs := hspec (any_nonempty _ _ hedit')
    rw [hs] at hpaused hheld ⊢
    have hsel' : i.selectorOk = true := by simpa using hsel
    have hout' : (histRoundAt h script 1 plan i (k + 1)).obs.out = "ok" := by simpa using hout
    have hheld' := hheld
    simp only [Bool.not_eq_false'] at hheld'
    rw [← wAt_store_succ h script plan i k] at hheld' ⊢
    exact revert_step h (wAt h script plan i (k + 1)) (planAt plan (k + 1)) (wAt_nodup h script plan i hn (k + 1)) hpaused
      ((wAt_sameFrame h script plan i (k + 1)).selectorOk.trans hsel') hout' hheld'

end Asts.WE
