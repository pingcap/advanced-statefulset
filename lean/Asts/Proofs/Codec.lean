import Asts.Model.Codec
import Asts.Spec.Codec
import Mathlib.Tactic

namespace Asts.Codec
open List

/-! The generic round-trip theorem of the schema-indexed codec: for a type `t` all of whose fields occur, with the same
    key, `omitempty` flag and shape, in `t1` and in `t2`, marshalling a well-typed value at `t1` and unmarshalling at `t2`
    gives back the same value on the fields of `t`, nil and empty slices identified. Everything else is an instance. -/

theorem compat_prim {p : Prim} {b : GoTy} (h : compat (.prim p) b = true) : b = .prim p := by
  cases b <;> simp_all [compat]

theorem compat_leaf {n : String} {z : Bool} {b : GoTy} (h : compat (.leaf n z) b = true) : b = .leaf n z := by
  cases b <;> simp_all [compat]

theorem compat_ptr {t b : GoTy} (h : compat (.ptr t) b = true) : ∃ u, b = .ptr u ∧ compat t u = true := by
  cases b <;> simp_all [compat]

theorem compat_slice {t b : GoTy} (h : compat (.slice t) b = true) : ∃ u, b = .slice u ∧ compat t u = true := by
  cases b <;> simp_all [compat]

theorem compat_struct {fs : Fields} {b : GoTy} (h : compat (.struct fs) b = true) :
    ∃ gs, b = .struct gs ∧ compatFields fs gs = true := by
  cases b <;> simp_all [compat]

theorem compatFields_cons {k : String} {o : Bool} {t : GoTy} {rest gs : Fields}
    (h : compatFields ((k, o, t) :: rest) gs = true) :
    (∃ u, findField k gs = some (o, u) ∧ compat t u = true) ∧ compatFields rest gs = true := by
  simp only [compatFields, Bool.and_eq_true] at h
  obtain ⟨h1, h2⟩ := h
  refine ⟨?_, h2⟩
  cases hf : findField k gs with
  | none => simp [hf] at h1
  | some p =>
    obtain ⟨o', u⟩ := p
    simp only [hf, Bool.and_eq_true, beq_iff_eq] at h1
    exact ⟨u, by rw [h1.1], h1.2⟩

theorem wf_struct (fs : Fields) : wf (.struct fs) = wfFields fs := by rw [wf]

theorem findField_wf {k : String} {o : Bool} {u : GoTy} : ∀ {fs : Fields}, wfFields fs = true → findField k fs = some (o, u) → wf u = true
  | [], _, h => by simp [findField] at h
  | (k', o', t') :: rest, hw, h => by
    simp only [wfFields, Bool.and_eq_true] at hw
    simp only [findField] at h
    split_ifs at h with hk
    · simp only [Option.some.injEq, Prod.mk.injEq] at h; rw [← h.2]; exact hw.1.2
    · exact findField_wf hw.2 h

theorem findField_hasTy {k : String} {o : Bool} {u : GoTy} {vs : List (String × GoVal)} :
    ∀ {fs : Fields}, HasTyFields fs vs → findField k fs = some (o, u) → ∃ x, vlookup k vs = some x ∧ HasTy u x
  | [], _, h => by simp [findField] at h
  | (k', o', t') :: rest, ht, h => by
    simp only [HasTyFields] at ht
    simp only [findField] at h
    split_ifs at h with hk
    · simp only [Option.some.injEq, Prod.mk.injEq] at h
      subst hk
      obtain ⟨h1, _⟩ := ht
      cases hv : vlookup k' vs with
      | none => simp [hv] at h1
      | some x => exact ⟨x, rfl, by simpa [hv, h.2] using h1⟩
    · exact findField_hasTy ht.2 h

theorem not_mem_keys_cons {k k' : String} {o : Bool} {t : GoTy} {rest : Fields}
    (h : (keys ((k', o, t) :: rest)).contains k = false) : ¬ k' = k ∧ (keys rest).contains k = false := by
  simp only [keys, List.map_cons, List.contains_cons, Bool.or_eq_false_iff, beq_eq_false_iff_ne, ne_eq] at h
  exact ⟨fun e => h.1 e.symm, h.2⟩

theorem findField_none_of_not_mem {k : String} : ∀ {fs : Fields}, (keys fs).contains k = false → findField k fs = none
  | [], _ => rfl
  | (k', o', t') :: rest, h => by
    obtain ⟨hk, hr⟩ := not_mem_keys_cons h
    rw [findField, if_neg hk]
    exact findField_none_of_not_mem hr

theorem jlookup_encodeFields_none {k : String} (vs : List (String × GoVal)) :
    ∀ {fs : Fields}, (keys fs).contains k = false → jlookup k (encodeFields fs vs) = none
  | [], _ => by simp [encodeFields, jlookup]
  | (k', o', t') :: rest, h => by
    obtain ⟨hk, hr⟩ := not_mem_keys_cons h
    have ih := jlookup_encodeFields_none (k := k) vs (fs := rest) hr
    simp only [encodeFields]
    split
    · split_ifs
      · exact ih
      · simp only [jlookup, hk, if_false]; exact ih
    · exact ih

theorem jlookup_encodeFields {k : String} {o : Bool} {u : GoTy} {vs : List (String × GoVal)} {x : GoVal} :
    ∀ {fs : Fields}, wfFields fs = true → findField k fs = some (o, u) → vlookup k vs = some x →
      jlookup k (encodeFields fs vs) = if (o && isEmpty x) = true then none else some (encode u x)
  | [], _, h, _ => by simp [findField] at h
  | (k', o', t') :: rest, hw, h, hv => by
    simp only [wfFields, Bool.and_eq_true, Bool.not_eq_true'] at hw
    simp only [findField] at h
    by_cases hk : k' = k
    · subst hk
      simp only [if_true, Option.some.injEq, Prod.mk.injEq] at h
      obtain ⟨rfl, rfl⟩ := h
      simp only [encodeFields, hv]
      split_ifs with he
      · exact jlookup_encodeFields_none vs hw.1.1
      · simp [jlookup]
    · simp only [hk, if_false] at h
      have ih := jlookup_encodeFields (fs := rest) hw.2 h hv
      rw [← ih]
      simp only [encodeFields]
      split
      · split_ifs with he
        · rfl
        · simp only [jlookup, hk, if_false]
      · rfl

theorem vlookup_decodeFields {k : String} {o : Bool} {u : GoTy} (kvs : List (String × Json)) :
    ∀ {fs : Fields}, findField k fs = some (o, u) →
      vlookup k (decodeFields fs kvs) = some (match jlookup k kvs with | some j => decode u j | none => zero u)
  | [], h => by simp [findField] at h
  | (k', o', t') :: rest, h => by
    simp only [findField] at h
    by_cases hk : k' = k
    · subst hk
      simp only [if_true, Option.some.injEq, Prod.mk.injEq] at h
      obtain ⟨_, rfl⟩ := h
      simp only [decodeFields, vlookup, if_true]
      cases jlookup k' kvs <;> rfl
    · simp only [hk, if_false] at h
      simp only [decodeFields, vlookup, hk, if_false]
      exact vlookup_decodeFields kvs h

theorem hasTy_prim {p : Prim} {v : GoVal} (h : HasTy (.prim p) v) :
    (p = .str ∧ ∃ s, v = .str s) ∨ (∃ bits n, p = .int bits ∧ v = .int n) ∨ (p = .bool ∧ ∃ b, v = .bool b) := by
  cases p <;> cases v <;> simp_all [HasTy]

theorem hasTy_leaf {n : String} {z : Bool} {v : GoVal} (h : HasTy (.leaf n z) v) :
    ∃ j, v = .leaf j ∧ (z = false → j ≠ .null) := by
  cases v <;> simp_all [HasTy]

theorem hasTy_ptr {t : GoTy} {v : GoVal} (h : HasTy (.ptr t) v) : v = .nilPtr ∨ ∃ x, v = .ptr x ∧ HasTy t x := by
  cases v <;> simp_all [HasTy]

theorem hasTy_slice {t : GoTy} {v : GoVal} (h : HasTy (.slice t) v) :
    v = .slice none ∨ ∃ l, v = .slice (some l) ∧ HasTyList t l := by
  cases v with
  | slice l => cases l <;> simp_all [HasTy]
  | _ => simp [HasTy] at h

theorem hasTy_struct {fs : Fields} {v : GoVal} (h : HasTy (.struct fs) v) : ∃ vs, v = .struct vs ∧ HasTyFields fs vs := by
  cases v <;> simp_all [HasTy]

theorem encode_ne_null {t : GoTy} {v : GoVal} (hn : nonNull t = true) (h : HasTy t v) : encode t v ≠ .null := by
  cases t with
  | prim p => rcases hasTy_prim h with ⟨rfl, s, rfl⟩ | ⟨bits, n, rfl, rfl⟩ | ⟨rfl, b, rfl⟩ <;> simp [encode]
  | leaf n z =>
    obtain ⟨j, rfl, hj⟩ := hasTy_leaf h
    simp only [nonNull, Bool.not_eq_true'] at hn
    simpa only [encode] using hj hn
  | struct fs =>
    obtain ⟨vs, rfl, _⟩ := hasTy_struct h
    simp [encode]
  | ptr t => simp [nonNull] at hn
  | slice t => simp [nonNull] at hn
  | unsupported w => simp [nonNull] at hn

theorem decode_ptr {t : GoTy} {j : Json} (h : j ≠ .null) : decode (.ptr t) j = .ptr (decode t j) := by
  cases j <;> simp_all [decode]

theorem decode_encode_prim {p : Prim} {v : GoVal} (h : HasTy (.prim p) v) : decode (.prim p) (encode (.prim p) v) = v := by
  rcases hasTy_prim h with ⟨rfl, s, rfl⟩ | ⟨bits, n, rfl, rfl⟩ | ⟨rfl, b, rfl⟩ <;> simp [encode, decode]

theorem decode_encode_leaf {n : String} {z : Bool} {v : GoVal} (h : HasTy (.leaf n z) v) :
    decode (.leaf n z) (encode (.leaf n z) v) = v := by
  obtain ⟨j, rfl, _⟩ := hasTy_leaf h
  simp [encode, decode]

theorem zero_prim_of_isEmpty {p : Prim} {x : GoVal} (h : HasTy (.prim p) x) (he : isEmpty x = true) : zero (.prim p) = x := by
  rcases hasTy_prim h with ⟨rfl, s, rfl⟩ | ⟨bits, n, rfl, rfl⟩ | ⟨rfl, b, rfl⟩ <;> simp_all [isEmpty, zero]

/-- an `omitempty` field that was dropped comes back as the zero value, which equals the empty value it had -/
theorem zero_of_isEmpty {t t1 t2 : GoTy} {x : GoVal} (c1 : compat t t1 = true) (c2 : compat t t2 = true)
    (h : HasTy t1 x) (he : isEmpty x = true) : HasTy t (zero t2) ∧ Equiv t (zero t2) x := by
  cases t with
  | prim p =>
    have e1 := compat_prim c1; have e2 := compat_prim c2; subst e1; subst e2
    rw [zero_prim_of_isEmpty h he]
    exact ⟨h, by simp only [Equiv]⟩
  | leaf n z =>
    have e1 := compat_leaf c1; subst e1
    obtain ⟨j, rfl, _⟩ := hasTy_leaf h
    simp [isEmpty] at he
  | ptr t =>
    obtain ⟨u1, rfl, _⟩ := compat_ptr c1
    obtain ⟨u2, rfl, _⟩ := compat_ptr c2
    rcases hasTy_ptr h with rfl | ⟨y, rfl, _⟩
    · simp [zero, HasTy, Equiv]
    · simp [isEmpty] at he
  | slice t =>
    obtain ⟨u1, rfl, _⟩ := compat_slice c1
    obtain ⟨u2, rfl, _⟩ := compat_slice c2
    rcases hasTy_slice h with rfl | ⟨l, rfl, _⟩
    · simp [zero, HasTy, Equiv, EquivList]
    · cases l with
      | nil => simp [zero, HasTy, Equiv, EquivList]
      | cons a as => simp [isEmpty] at he
  | struct fs =>
    obtain ⟨g1, rfl, _⟩ := compat_struct c1
    obtain ⟨vs, rfl, _⟩ := hasTy_struct h
    simp [isEmpty] at he
  | unsupported w => simp [compat] at c1

theorem convertList_of {t u1 u2 : GoTy}
    (ih : ∀ v, HasTy u1 v → HasTy t (decode u2 (encode u1 v)) ∧ Equiv t (decode u2 (encode u1 v)) v) :
    ∀ l : List GoVal, HasTyList u1 l →
      HasTyList t (decodeList u2 (encodeList u1 l)) ∧ EquivList t (decodeList u2 (encodeList u1 l)) l
  | [], _ => by simp [encodeList, decodeList, HasTyList, EquivList]
  | v :: vs, h => by
    simp only [HasTyList] at h
    simp only [encodeList, decodeList, HasTyList, EquivList]
    exact ⟨⟨(ih v h.1).1, (convertList_of ih vs h.2).1⟩, (ih v h.1).2, (convertList_of ih vs h.2).2⟩

mutual
/-- marshal at `t1`, unmarshal at `t2`: the result is well typed at, and agrees with the original on the fields of, any `t`
    contained in both -/
theorem decode_encode : ∀ (t t1 t2 : GoTy) (v : GoVal), wf t1 = true → compat t t1 = true → compat t t2 = true → HasTy t1 v →
    HasTy t (decode t2 (encode t1 v)) ∧ Equiv t (decode t2 (encode t1 v)) v
  | .prim p, t1, t2, v, _, c1, c2, h => by
    have e1 := compat_prim c1; have e2 := compat_prim c2; subst e1; subst e2
    rw [decode_encode_prim h]
    exact ⟨h, by simp only [Equiv]⟩
  | .leaf n z, t1, t2, v, _, c1, c2, h => by
    have e1 := compat_leaf c1; have e2 := compat_leaf c2; subst e1; subst e2
    rw [decode_encode_leaf h]
    exact ⟨h, by simp only [Equiv]⟩
  | .ptr t, t1, t2, v, hw, c1, c2, h => by
    obtain ⟨u1, rfl, d1⟩ := compat_ptr c1
    obtain ⟨u2, rfl, d2⟩ := compat_ptr c2
    simp only [wf, Bool.and_eq_true] at hw
    rcases hasTy_ptr h with rfl | ⟨x, rfl, hx⟩
    · simp [encode, decode, HasTy, Equiv]
    · rw [encode, decode_ptr (encode_ne_null hw.1 hx)]
      simpa only [HasTy, Equiv] using decode_encode t u1 u2 x hw.2 d1 d2 hx
  | .slice t, t1, t2, v, hw, c1, c2, h => by
    obtain ⟨u1, rfl, d1⟩ := compat_slice c1
    obtain ⟨u2, rfl, d2⟩ := compat_slice c2
    simp only [wf] at hw
    rcases hasTy_slice h with rfl | ⟨l, rfl, hl⟩
    · simp [encode, decode, HasTy, Equiv, EquivList]
    · simp only [encode, decode, HasTy, Equiv, Option.getD_some]
      exact convertList_of (fun x hx => decode_encode t u1 u2 x hw d1 d2 hx) l hl
  | .struct fs, t1, t2, v, hw, c1, c2, h => by
    obtain ⟨g1, rfl, d1⟩ := compat_struct c1
    obtain ⟨g2, rfl, d2⟩ := compat_struct c2
    obtain ⟨vs, rfl, hvs⟩ := hasTy_struct h
    simp only [wf] at hw
    simp only [encode, decode, HasTy, Equiv]
    exact decodeFields_encodeFields fs g1 g2 vs hw d1 d2 hvs
  | .unsupported w, _, _, _, _, c1, _, _ => by simp [compat] at c1
theorem decodeFields_encodeFields : ∀ (fs g1 g2 : Fields) (vs : List (String × GoVal)), wfFields g1 = true →
    compatFields fs g1 = true → compatFields fs g2 = true → HasTyFields g1 vs →
    HasTyFields fs (decodeFields g2 (encodeFields g1 vs)) ∧ EquivFields fs (decodeFields g2 (encodeFields g1 vs)) vs
  | [], _, _, _, _, _, _, _ => by simp [HasTyFields, EquivFields]
  | (k, o, t) :: rest, g1, g2, vs, hw, c1, c2, h => by
    obtain ⟨⟨u1, f1, d1⟩, r1⟩ := compatFields_cons c1
    obtain ⟨⟨u2, f2, d2⟩, r2⟩ := compatFields_cons c2
    obtain ⟨x, hx, hty⟩ := findField_hasTy h f1
    have ih := decodeFields_encodeFields rest g1 g2 vs hw r1 r2 h
    simp only [HasTyFields, EquivFields]
    rw [vlookup_decodeFields _ f2, jlookup_encodeFields hw f1 hx, hx]
    -- the field `k`: dropped by `omitempty` and read back as zero, or converted at its own type
    by_cases he : (o && isEmpty x) = true
    · have hz := zero_of_isEmpty d1 d2 hty (Bool.and_eq_true_iff.mp he).2
      simp only [he, if_true]
      exact ⟨⟨hz.1, ih.1⟩, hz.2, ih.2⟩
    · have hc := decode_encode t u1 u2 x (findField_wf hw f1) d1 d2 hty
      simp only [he]
      exact ⟨⟨hc.1, ih.1⟩, hc.2, ih.2⟩
end

theorem roundtrip (t t1 t2 : GoTy) (v : GoVal) (hw : wf t1 = true) (c1 : compat t t1 = true) (c2 : compat t t2 = true)
    (h : HasTy t1 v) : Equiv t (decode t2 (encode t1 v)) v :=
  (decode_encode t t1 t2 v hw c1 c2 h).2

theorem roundtripFields : ∀ (fs g1 g2 : Fields) (vs : List (String × GoVal)), wfFields g1 = true →
    compatFields fs g1 = true → compatFields fs g2 = true → HasTyFields g1 vs →
    EquivFields fs (decodeFields g2 (encodeFields g1 vs)) vs :=
  fun fs g1 g2 vs hw c1 c2 h => (decodeFields_encodeFields fs g1 g2 vs hw c1 c2 h).2

theorem hasTy_decode_encode (t t1 t2 : GoTy) (v : GoVal) (hw : wf t1 = true) (c1 : compat t t1 = true)
    (c2 : compat t t2 = true) (h : HasTy t1 v) : HasTy t (decode t2 (encode t1 v)) :=
  (decode_encode t t1 t2 v hw c1 c2 h).1

theorem hasTyFields_decode_encode : ∀ (fs g1 g2 : Fields) (vs : List (String × GoVal)), wfFields g1 = true →
    compatFields fs g1 = true → compatFields fs g2 = true → HasTyFields g1 vs →
    HasTyFields fs (decodeFields g2 (encodeFields g1 vs)) :=
  fun fs g1 g2 vs hw c1 c2 h => (decodeFields_encodeFields fs g1 g2 vs hw c1 c2 h).1

theorem acceptsList_of {u1 u2 : GoTy} (ih : ∀ v, HasTy u1 v → accepts u2 (encode u1 v) = true) :
    ∀ l : List GoVal, HasTyList u1 l → acceptsList u2 (encodeList u1 l) = true
  | [], _ => by simp [encodeList, acceptsList]
  | v :: vs, h => by
    simp only [HasTyList] at h
    simp only [encodeList, acceptsList, Bool.and_eq_true]
    exact ⟨ih v h.1, acceptsList_of ih vs h.2⟩

end Asts.Codec

namespace Asts.Codec
open List

theorem accCompat_prim {p : Prim} {b : GoTy} (h : accCompat (.prim p) b = true) : b = .prim p := by
  cases b <;> simp_all [accCompat]
theorem accCompat_leaf {n : String} {z : Bool} {b : GoTy} (h : accCompat (.leaf n z) b = true) : b = .leaf n z := by
  cases b <;> simp_all [accCompat]
theorem accCompat_ptr {t b : GoTy} (h : accCompat (.ptr t) b = true) : ∃ u, b = .ptr u ∧ accCompat t u = true := by
  cases b <;> simp_all [accCompat]
theorem accCompat_slice {t b : GoTy} (h : accCompat (.slice t) b = true) : ∃ u, b = .slice u ∧ accCompat t u = true := by
  cases b <;> simp_all [accCompat]
theorem accCompat_struct {fs : Fields} {b : GoTy} (h : accCompat (.struct fs) b = true) :
    ∃ gs, b = .struct gs ∧ accCompatFields fs gs = true := by
  cases b <;> simp_all [accCompat]

mutual
/-- conversion never fails: what `Marshal` writes for a well-typed value at `e`, `Unmarshal` at `d` accepts -/
theorem accepts_encode : ∀ (d e : GoTy) (v : GoVal), wf e = true → accCompat d e = true → HasTy e v → accepts d (encode e v) = true
  | .prim p, e, v, _, c, h => by
    have e1 := accCompat_prim c; subst e1
    rcases hasTy_prim h with ⟨rfl, s, rfl⟩ | ⟨bits, n, rfl, rfl⟩ | ⟨rfl, b, rfl⟩ <;>
      simp_all [HasTy, encode, accepts, primAccepts]
  | .leaf n z, e, v, _, c, h => by simp [accepts]
  | .ptr t, e, v, hw, c, h => by
    obtain ⟨u, rfl, d1⟩ := accCompat_ptr c
    simp only [wf, Bool.and_eq_true] at hw
    rcases hasTy_ptr h with rfl | ⟨x, rfl, hx⟩
    · simp [encode, accepts]
    · have ih := accepts_encode t u x hw.2 d1 hx
      simp only [encode]
      cases he : encode u x <;> simp_all [accepts]
  | .slice t, e, v, hw, c, h => by
    obtain ⟨u, rfl, d1⟩ := accCompat_slice c
    simp only [wf] at hw
    rcases hasTy_slice h with rfl | ⟨l, rfl, hl⟩
    · simp [encode, accepts]
    · simp only [encode, accepts]
      exact acceptsList_of (fun x hx => accepts_encode t u x hw d1 hx) l hl
  | .struct fs, e, v, hw, c, h => by
    obtain ⟨gs, rfl, d1⟩ := accCompat_struct c
    obtain ⟨vs, rfl, hvs⟩ := hasTy_struct h
    simp only [wf] at hw
    simp only [encode, accepts]
    exact acceptsFields_encode fs gs vs hw d1 hvs
  | .unsupported w, _, _, _, c, _ => by simp [accCompat] at c
theorem acceptsFields_encode : ∀ (fs gs : Fields) (vs : List (String × GoVal)), wfFields gs = true →
    accCompatFields fs gs = true → HasTyFields gs vs → acceptsFields fs (encodeFields gs vs) = true
  | [], _, _, _, _, _ => by simp [acceptsFields]
  | (k, o, t) :: rest, gs, vs, hw, c, h => by
    simp only [accCompatFields, Bool.and_eq_true] at c
    simp only [acceptsFields, Bool.and_eq_true]
    refine ⟨?_, acceptsFields_encode rest gs vs hw c.2 h⟩
    cases hf : findField k gs with
    | none =>
      have hk : (keys gs).contains k = false := by simpa [hf] using c.1
      rw [jlookup_encodeFields_none vs hk]
    | some p =>
      obtain ⟨o', u⟩ := p
      have d1 : accCompat t u = true := by simpa [hf] using c.1
      obtain ⟨x, hx, hty⟩ := findField_hasTy h hf
      rw [jlookup_encodeFields hw hf hx]
      split_ifs
      · rfl
      · exact accepts_encode t u x (findField_wf hw hf) d1 hty
end

theorem equivList_trans {t : GoTy} (ih : ∀ a b c, Equiv t a b → Equiv t b c → Equiv t a c) :
    ∀ (l1 l2 l3 : List GoVal), EquivList t l1 l2 → EquivList t l2 l3 → EquivList t l1 l3
  | [], [], [], _, _ => by simp [EquivList]
  | a :: as, b :: bs, c :: cs, h1, h2 => by
    simp only [EquivList] at h1 h2 ⊢
    exact ⟨ih a b c h1.1 h2.1, equivList_trans ih as bs cs h1.2 h2.2⟩
  | [], [], _ :: _, _, h2 => by simp [EquivList] at h2
  | [], _ :: _, _, h1, _ => by simp [EquivList] at h1
  | _ :: _, [], _, h1, _ => by simp [EquivList] at h1
  | _ :: _, _ :: _, [], _, h2 => by simp [EquivList] at h2

theorem equiv_ptr {t : GoTy} {a b : GoVal} (h : Equiv (.ptr t) a b) :
    (a = .nilPtr ∧ b = .nilPtr) ∨ ∃ x y, a = .ptr x ∧ b = .ptr y ∧ Equiv t x y := by
  unfold Equiv at h
  split at h
  · exact .inl ⟨rfl, rfl⟩
  · exact .inr ⟨_, _, rfl, rfl, h⟩
  · exact h.elim

theorem equiv_slice {t : GoTy} {a b : GoVal} (h : Equiv (.slice t) a b) :
    ∃ x y, a = .slice x ∧ b = .slice y ∧ EquivList t (x.getD []) (y.getD []) := by
  unfold Equiv at h
  split at h
  · exact ⟨_, _, rfl, rfl, h⟩
  · exact h.elim

theorem equiv_struct {fs : Fields} {a b : GoVal} (h : Equiv (.struct fs) a b) :
    ∃ xs ys, a = .struct xs ∧ b = .struct ys ∧ EquivFields fs xs ys := by
  unfold Equiv at h
  split at h
  · exact ⟨_, _, rfl, rfl, h⟩
  · exact h.elim

mutual
theorem equiv_trans : ∀ (t : GoTy) (a b c : GoVal), Equiv t a b → Equiv t b c → Equiv t a c
  | .prim p, a, b, c, h1, h2 => by simp only [Equiv] at *; exact h1.trans h2
  | .leaf n z, a, b, c, h1, h2 => by simp only [Equiv] at *; exact h1.trans h2
  | .ptr t, a, b, c, h1, h2 => by
    rcases equiv_ptr h1 with ⟨rfl, rfl⟩ | ⟨x, y, rfl, rfl, g1⟩
    · exact h2
    · rcases equiv_ptr h2 with ⟨e, _⟩ | ⟨y', z, e, rfl, g2⟩
      · cases e
      · cases e
        simp only [Equiv]
        exact equiv_trans t _ _ _ g1 g2
  | .slice t, a, b, c, h1, h2 => by
    obtain ⟨x, y, rfl, rfl, g1⟩ := equiv_slice h1
    obtain ⟨y', z, e, rfl, g2⟩ := equiv_slice h2
    cases e
    simp only [Equiv]
    exact equivList_trans (fun x y z => equiv_trans t x y z) _ _ _ g1 g2
  | .struct fs, a, b, c, h1, h2 => by
    obtain ⟨xs, ys, rfl, rfl, g1⟩ := equiv_struct h1
    obtain ⟨ys', zs, e, rfl, g2⟩ := equiv_struct h2
    cases e
    simp only [Equiv]
    exact equivFields_trans fs _ _ _ g1 g2
  | .unsupported w, _, _, _, h1, _ => by simp [Equiv] at h1
theorem equivFields_trans : ∀ (fs : Fields) (xs ys zs : List (String × GoVal)), EquivFields fs xs ys → EquivFields fs ys zs →
    EquivFields fs xs zs
  | [], _, _, _, _, _ => by simp [EquivFields]
  | (k, o, t) :: rest, xs, ys, zs, h1, h2 => by
    simp only [EquivFields] at h1 h2 ⊢
    refine ⟨?_, equivFields_trans rest xs ys zs h1.2 h2.2⟩
    cases hx : vlookup k xs <;> cases hy : vlookup k ys <;> cases hz : vlookup k zs <;> simp_all
    exact equiv_trans t _ _ _ h1.1 h2.1
end

theorem equivList_length {t : GoTy} : ∀ (l1 l2 : List GoVal), EquivList t l1 l2 → l1.length = l2.length
  | [], [], _ => rfl
  | a :: as, b :: bs, h => by
    simp only [EquivList] at h
    simp [equivList_length as bs h.2]
  | [], _ :: _, h => by simp [EquivList] at h
  | _ :: _, [], h => by simp [EquivList] at h

/-- with `a ⊆ b`, converting a well-typed `b`-value to `a` and back to `b` keeps every field of `a` -/
theorem there_and_back (a b : GoTy) (w : GoVal) (hwa : wf a = true) (hwb : wf b = true)
    (caa : compat a a = true) (cab : compat a b = true) (h : HasTy b w) :
    Equiv a (decode b (encode a (decode a (encode b w)))) w := by
  have h1 : Equiv a (decode a (encode b w)) w := roundtrip a b a w hwb cab caa h
  have ht : HasTy a (decode a (encode b w)) := hasTy_decode_encode a b a w hwb cab caa h
  have h2 : Equiv a (decode b (encode a (decode a (encode b w)))) (decode a (encode b w)) :=
    roundtrip a a b _ hwa caa cab ht
  exact equiv_trans a _ _ _ h2 h1

theorem vlookup_map_set {k : String} {x : GoVal} : ∀ (fs : List (String × GoVal)), (vlookup k fs).isSome = true →
    vlookup k (fs.map fun e => if e.1 = k then (k, x) else e) = some x
  | [], h => by simp [vlookup] at h
  | (k', v) :: rest, h => by
    by_cases hk : k' = k
    · simp [vlookup, hk]
    · simp only [vlookup, hk, if_false] at h
      simp only [List.map_cons, hk, if_false, vlookup]
      exact vlookup_map_set rest h

theorem vlookup_map_set_ne {k k' : String} {x : GoVal} (hne : k' ≠ k) : ∀ (fs : List (String × GoVal)),
    vlookup k' (fs.map fun e => if e.1 = k then (k, x) else e) = vlookup k' fs
  | [] => rfl
  | (k0, v) :: rest => by
    by_cases hk : k0 = k
    · have : ¬ k = k' := fun e => hne e.symm
      have h0 : ¬ k0 = k' := by rw [hk]; exact this
      simp only [List.map_cons, hk, if_true, vlookup, this, if_false]
      exact vlookup_map_set_ne hne rest
    · by_cases h1 : k0 = k'
      · subst h1; simp [vlookup, hk]
      · simp only [List.map_cons, hk, if_false, vlookup, h1]
        exact vlookup_map_set_ne hne rest

def objKvs (j : Json) : List (String × Json) :=
  match j with
  | .obj kvs => kvs
  | _ => []

theorem decode_struct (fs : Fields) (j : Json) : decode (.struct fs) j = .struct (decodeFields fs (objKvs j)) := by
  cases j <;> simp [decode, objKvs]

theorem vlookup_stamp {fs : Fields} (hf : (findField "apiVersion" fs).isSome = true) (x : GoVal) (kvs : List (String × Json)) :
    vlookup "apiVersion" ((decodeFields fs kvs).map fun e => if e.1 = "apiVersion" then ("apiVersion", x) else e) = some x := by
  obtain ⟨⟨o, u⟩, hou⟩ := Option.isSome_iff_exists.mp hf
  apply vlookup_map_set
  rw [vlookup_decodeFields _ hou]; rfl

theorem stamped_typed {fs : Fields} (av : String) (hf : (findField "apiVersion" fs).isSome = true) (j : Json) :
    topField "apiVersion" (setField "apiVersion" (.str av) (decode (.struct fs) j)) = some (.str av) := by
  rw [decode_struct]
  exact vlookup_stamp hf _ _

theorem convert_typed (src : GoTy) (fs : Fields) (av : String) (v : GoVal) {o : Bool} {u : GoTy}
    (hf : findField "apiVersion" fs = some (o, u)) :
    topField "apiVersion" (convert src (.struct fs) av v) = some (.str av) :=
  stamped_typed av (by rw [hf]; rfl) _

theorem convert_other_fields (src : GoTy) (fs : Fields) (av : String) (v : GoVal) {k : String} (hk : k ≠ "apiVersion") :
    topField k (convert src (.struct fs) av v) = topField k (decode (.struct fs) (encode src v)) := by
  rw [convert, decode_struct]
  simp only [setField, topField]
  exact vlookup_map_set_ne hk _

end Asts.Codec
