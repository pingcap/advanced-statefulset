import Asts.Proofs.L1_a_SlotK
import Mathlib.Tactic

/-! # `slot_out_only` — un-listing ordinal `k` (replicas + 1) creates pod `k` and touches no other pod -/
namespace Asts
open List
open L1c (mem_desired_iff_inRange slotOf_eq_none inRange_not_condemned replicaLoop_quiet replicaLoop_quiet_append
  updateStage_allupd)

/-- **slot_out_only**: the pods are exactly one per ordinal of the desired set except `k` — all healthy, at the update
    revision, identity and storage in order — and a pod created at `k` would be at the update revision. Then the reconcile
    issues exactly one action, the creation of pod `k`, under either policy and whatever the fault plan; it ends ok unless
    that very create is made to fail. -/
theorem slot_out_only_gen (v : SetView) (cur upd : String) (pods : List Pod) (f : Faults) (r k : Int)
    (hr : v.replicas = some r) (hk : k ∈ desired r v.slots) (hdel : v.deleting = false)
    (hperm : (pods.map Pod.ord).Perm ((desired r v.slots).erase k))
    (hgood : ∀ p ∈ pods, p.healthy = true ∧ p.rev = upd ∧ p.idOk = true ∧ p.stOk = true)
    (hrev : newPodRev v cur upd k = upd) :
    (updateStatefulSet v cur upd pods f).1.acts = [.create k upd] ∧
    (f.hit 0 k = false → (updateStatefulSet v cur upd pods f).2 = .ok) ∧
    (f.hit 0 k = true → (updateStatefulSet v cur upd pods f).2 = .err) := by
  have hndD : (desired r v.slots).Nodup := (desired_isDesired r v.slots).sorted.imp ne_of_lt
  have hnok : ∀ q ∈ pods, q.ord ≠ k := fun q hq heq =>
    (hndD.mem_erase_iff.1 (hperm.mem_iff.1 (List.mem_map_of_mem hq))).1 heq
  have hrun := L1c.updateStatefulSet_run (cur := cur) (upd := upd) (pods := pods) f hr hdel
  have hreps := L1c.prepOf_reps v cur upd r pods
  have hcond : (L1c.prepOf v cur upd r pods).condemned =
      condemnedOf (maxReplicaAndSlots r v.slots).1 (maxReplicaAndSlots r v.slots).2 pods := rfl
  generalize L1c.prepOf v cur upd r pods = p at hrun hreps hcond
  -- nothing is condemned: every pod sits at a desired ordinal
  have hcondemned : p.condemned = [] := by
    rw [hcond, condemnedOf, List.filter_eq_nil_iff.2 fun q hq => Bool.eq_false_iff.1 (inRange_not_condemned
      (mem_desired_iff_inRange.1 (List.mem_of_mem_erase (hperm.mem_iff.1 (List.mem_map_of_mem hq)))))]
    rfl
  -- `reps`: the desired ordinals below `k` with their pods, the fresh object at `k`, those above `k` with their pods
  obtain ⟨A, B, hsplit⟩ := List.append_of_mem hk
  have hnd' := hndD
  rw [hsplit] at hnd'
  have hkA : k ∉ A := fun h => (List.nodup_append.1 hnd').2.2 k h k List.mem_cons_self rfl
  have hkB : k ∉ B := (List.nodup_cons.1 (List.nodup_append.1 hnd').2.1).1
  let g : Int → Int × Pod := fun i =>
    (i, (slotOf (maxReplicaAndSlots r v.slots).1 (maxReplicaAndSlots r v.slots).2 pods i).getD (newPod v cur upd i))
  have hreps' : p.reps = A.map g ++ (k, newPod v cur upd k) :: B.map g := by
    rw [hreps, hsplit, List.map_append, List.map_cons, slotOf_eq_none hnok]
    rfl
  have hgoodOf : ∀ (L : List Int), (∀ i ∈ L, i ∈ desired r v.slots ∧ i ≠ k) → ∀ ip ∈ L.map g, ip.2 ∈ pods := by
    intro L hL ip hip
    obtain ⟨i, hi, rfl⟩ := List.mem_map.1 hip
    exact slotOf_getD_mem (mem_desired_iff_inRange.1 (hL i hi).1)
      (hperm.mem_iff.2 (hndD.mem_erase_iff.2 ⟨(hL i hi).2, (hL i hi).1⟩)) _
  have hA : ∀ i ∈ A, i ∈ desired r v.slots ∧ i ≠ k := fun i hi =>
    ⟨by rw [hsplit]; exact List.mem_append_left _ hi, fun h => hkA (h ▸ hi)⟩
  have hB : ∀ i ∈ B, i ∈ desired r v.slots ∧ i ≠ k := fun i hi =>
    ⟨by rw [hsplit]; exact List.mem_append_right _ (List.mem_cons_of_mem _ hi), fun h => hkB (h ▸ hi)⟩
  have hAq : ∀ ip ∈ A.map g, ip.2.healthy = true ∧ ip.2.idOk = true ∧ ip.2.stOk = true := fun ip hip =>
    ⟨(hgood _ (hgoodOf A hA ip hip)).1, (hgood _ (hgoodOf A hA ip hip)).2.2⟩
  have hBq : ∀ ip ∈ B.map g, ip.2.healthy = true ∧ ip.2.idOk = true ∧ ip.2.stOk = true := fun ip hip =>
    ⟨(hgood _ (hgoodOf B hB ip hip)).1, (hgood _ (hgoodOf B hB ip hip)).2.2⟩
  have hallupd : ∀ tp ∈ A.map g ++ (k, newPod v cur upd k) :: B.map g, tp.2.rev = upd := by
    intro tp htp
    rcases List.mem_append.1 htp with h | h
    · exact (hgood _ (hgoodOf A hA tp h)).2.1
    · rcases List.mem_cons.1 h with rfl | h
      · exact hrev
      · exact (hgood _ (hgoodOf B hB tp h)).2.1
  rw [hrun]
  unfold runLoops
  simp only
  rw [hreps', replicaLoop_quiet_append v cur upd f (!v.parallel) _ _ hAq]
  have hloop : ∀ s0 : St, replicaLoop v cur upd f (!v.parallel) s0 ((k, newPod v cur upd k) :: B.map g) =
      match ensurePod cur upd f (!v.parallel) s0 k (newPod v cur upd k) with
      | .next s' => (.next s', (k, newPod v cur upd k) :: B.map g)
      | .done s' o => (.done s' o, (k, newPod v cur upd k) :: B.map g) := by
    intro s0
    rw [replicaLoop, replicaStep_newPod]
    cases he : ensurePod cur upd f (!v.parallel) s0 k (newPod v cur upd k) with
    | next s' => simp only; rw [replicaLoop_quiet v cur upd f (!v.parallel) _ hBq]
    | done s' o => rfl
  have hnr : (newPod v cur upd k).rev = upd := hrev
  rw [hloop]
  rw [L1c.ensurePod_vacant _ _ _ _ _ _ (L1c.newPod_created ..), L1c.stepCreate, hnr]
  cases hf : f.hit 0 k
  · cases hm : v.parallel
    · exact ⟨rfl, fun _ => rfl, fun h => nomatch h⟩
    · simp only [L1c.after, Bool.not_true, Bool.false_eq_true, if_false, hcondemned, List.reverse_nil, condemnedLoop]
      rw [updateStage_allupd v cur upd f _ _ hallupd]
      exact ⟨rfl, fun _ => rfl, fun h => nomatch h⟩
  · exact ⟨rfl, fun h => (nomatch h), fun _ => rfl⟩

end Asts
