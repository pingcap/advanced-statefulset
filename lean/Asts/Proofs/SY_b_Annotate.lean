import Asts.Proofs.SY_b_Scaling

/-! `annotate` (the monitors' reading of the call log: parsed entry, index, injected fault) in closed form, and the notion
    "a successful call with key `k` is in the log". -/
namespace Asts.SYb
open Asts

/-- the fault (if any) that the plan injects into the `occ`-th call with key `k` -/
def look (plan : List Fault) (k : String) (occ : Nat) : Option ErrKind :=
  (plan.find? (fun f => f.key == k && f.occ == occ)).map (·.kind)

theorem call_eq (t : Tr) (plan : List Fault) (k : String) :
    t.call plan k = ({ log := t.log ++ [k] }, look plan k (cnt k t.log)) := rfl

/-- a call with key `k` that no injected fault hit is in the log -/
def Succ (plan : List Fault) (log : List String) (k : String) : Prop :=
  ∃ pre post, log = pre ++ k :: post ∧ look plan k (cnt k pre) = none

theorem Succ.mono {plan : List Fault} {log : List String} {k : String} (h : Succ plan log k) (more : List String) :
    Succ plan (log ++ more) k := by
  obtain ⟨pre, post, rfl, hl⟩ := h
  exact ⟨pre, post ++ more, by simp, hl⟩

/-- `annotate` with the prefix made explicit -/
def annFrom (plan : List Fault) : List String → List String → List (Entry × Nat × Option ErrKind)
  | _, [] => []
  | pre, e :: rest => (parseEntry e, pre.length, look plan e (cnt e pre)) :: annFrom plan (pre ++ [e]) rest

theorem annotate_go_eq (plan : List Fault) (pre rest : List String) :
    annotate.go plan pre.reverse pre.length rest = annFrom plan pre rest := by
  induction rest generalizing pre with
  | nil => rfl
  | cons e rest ih =>
    unfold annotate.go annFrom
    have h1 : (pre.reverse.filter (· == e)).length = cnt e pre := by
      unfold cnt
      rw [List.filter_reverse, List.length_reverse]
    have h2 := ih (pre ++ [e])
    simp only [List.reverse_append, List.reverse_cons, List.reverse_nil, List.nil_append, List.singleton_append,
      List.length_append, List.length_cons, List.length_nil] at h2
    simp only [h1]
    rw [show look plan e (cnt e pre) = (plan.find? (fun f => f.key == e && f.occ == cnt e pre)).map (·.kind) from rfl]
    congr 1

theorem annotate_eq (plan : List Fault) (log : List String) : annotate plan log = annFrom plan [] log := by
  unfold annotate
  exact annotate_go_eq plan [] log

theorem annFrom_map_fst (plan : List Fault) (pre rest : List String) :
    (annFrom plan pre rest).map (·.1) = rest.map parseEntry := by
  induction rest generalizing pre with
  | nil => rfl
  | cons e rest ih => simp [annFrom, ih]

theorem mem_annFrom {plan : List Fault} {pre rest : List String} {x : Entry × Nat × Option ErrKind} :
    x ∈ annFrom plan pre rest ↔
      ∃ a e b, rest = a ++ e :: b ∧ x = (parseEntry e, (pre ++ a).length, look plan e (cnt e (pre ++ a))) := by
  induction rest generalizing pre with
  | nil => simp [annFrom]
  | cons e0 rest ih =>
    simp only [annFrom, List.mem_cons]
    constructor
    · rintro (rfl | hx)
      · exact ⟨[], e0, rest, rfl, by simp⟩
      · obtain ⟨a, e, b, rfl, rfl⟩ := ih.mp hx
        exact ⟨e0 :: a, e, b, rfl, by simp⟩
    · rintro ⟨a, e, b, hr, rfl⟩
      cases a with
      | nil =>
        simp only [List.nil_append, List.cons.injEq] at hr
        obtain ⟨rfl, rfl⟩ := hr
        left; simp
      | cons a0 a =>
        simp only [List.cons_append, List.cons.injEq] at hr
        obtain ⟨rfl, rfl⟩ := hr
        right
        exact ih.mpr ⟨a, e, b, rfl, by simp⟩

theorem mem_annotate {plan : List Fault} {log : List String} {x : Entry × Nat × Option ErrKind} :
    x ∈ annotate plan log ↔ ∃ a e b, log = a ++ e :: b ∧ x = (parseEntry e, a.length, look plan e (cnt e a)) := by
  rw [annotate_eq, mem_annFrom]; simp only [List.nil_append]

theorem annotate_map_fst (plan : List Fault) (log : List String) : (annotate plan log).map (·.1) = log.map parseEntry := by
  rw [annotate_eq, annFrom_map_fst]

/-! ## parsing the shapes back -/

theorem AnyShape.classify {e : String} (h : AnyShape e) :
    e = "list:revs" ∨ e = "get:set" ∨ e = "updatestatus" ∨
    ∃ P V R m, SYa.Pre3 P V R ∧ (R = "rev" ∨ R = "pod") ∧ e = P ++ m := by
  rcases h with (hs | hs) | ⟨c, rfl⟩ | hs | ⟨r, rfl⟩
  · rcases hs with rfl | rfl | ⟨n, rfl | rfl⟩
    · exact Or.inl rfl
    · exact Or.inr (Or.inl rfl)
    · exact Or.inr (Or.inr (Or.inr ⟨_, _, _, n, pre_update_rev, Or.inl rfl, rfl⟩))
    · exact Or.inr (Or.inr (Or.inr ⟨_, _, _, n, pre_patch_rev, Or.inl rfl, rfl⟩))
  · rcases hs with rfl | ⟨n, rfl⟩
    · exact Or.inr (Or.inl rfl)
    · exact Or.inr (Or.inr (Or.inr ⟨_, _, _, n, pre_patch_pod, Or.inr rfl, rfl⟩))
  · cases c with
    | create n => exact Or.inr (Or.inr (Or.inr ⟨_, _, _, n, pre_create_rev, Or.inl rfl, rfl⟩))
    | update n => exact Or.inr (Or.inr (Or.inr ⟨_, _, _, n, pre_update_rev, Or.inl rfl, rfl⟩))
    | get n => exact Or.inr (Or.inr (Or.inr ⟨_, _, _, n, pre_get_rev, Or.inl rfl, rfl⟩))
  · rcases hs with rfl | ⟨n, rfl | rfl | rfl⟩
    · exact Or.inr (Or.inr (Or.inl rfl))
    · exact Or.inr (Or.inr (Or.inr ⟨_, _, _, n, pre_create_pod, Or.inr rfl, rfl⟩))
    · exact Or.inr (Or.inr (Or.inr ⟨_, _, _, n, pre_delete_pod, Or.inr rfl, rfl⟩))
    · exact Or.inr (Or.inr (Or.inr ⟨_, _, _, n, pre_update_pod, Or.inr rfl, rfl⟩))
  · exact Or.inr (Or.inr (Or.inr ⟨_, _, _, r.name, pre_delete_rev, Or.inl rfl, rfl⟩))

theorem eq_of_parse {e P V R n : String} (hs : AnyShape e) (hP : SYa.Pre3 P V R) (hR : R = "rev" ∨ R = "pod")
    (hparse : parseEntry e = { verb := V, res := R, name := n }) : e = P ++ n ∧ NoColon n := by
  have hne1 : R ≠ "revs" := by rcases hR with rfl | rfl <;> decide
  have hne2 : R ≠ "set" := by rcases hR with rfl | rfl <;> decide
  have hne3 : R ≠ "" := by rcases hR with rfl | rfl <;> decide
  rcases hs.classify with rfl | rfl | rfl | ⟨P', V', R', m, hP', _, rfl⟩
  · rw [parseEntry_list_revs] at hparse
    exact absurd (congrArg Entry.res hparse).symm hne1
  · rw [parseEntry_get_set] at hparse
    exact absurd (congrArg Entry.res hparse).symm hne2
  · rw [parseEntry_updatestatus] at hparse
    exact absurd (congrArg Entry.res hparse).symm hne3
  · by_cases hm : NoColon m
    · rw [parseEntry_pre3 hP' m hm] at hparse
      have hv : V' = V := congrArg Entry.verb hparse
      have hr : R' = R := congrArg Entry.res hparse
      have hn : m = n := congrArg Entry.name hparse
      subst hv hr hn
      exact ⟨by rw [hP'.unique hP], hm⟩
    · rw [parseEntry_pre3_colon hP' m hm] at hparse
      exact absurd (congrArg Entry.res hparse).symm hne3

/-- the monitors' "an unfaulted call `V R n` is in the log" is `Succ` of the rendered key -/
theorem any_succ_iff {plan : List Fault} {log : List String} (hlog : ∀ e ∈ log, AnyShape e) {P V R n : String}
    (hP : SYa.Pre3 P V R) (hR : R = "rev" ∨ R = "pod") (hn : NoColon n) :
    (annotate plan log).any (fun x => x.1.verb == V && x.1.res == R && x.1.name == n && x.2.2.isNone) = true ↔
      Succ plan log (P ++ n) := by
  rw [List.any_eq_true]
  constructor
  · rintro ⟨x, hx, hcond⟩
    obtain ⟨a, e, b, rfl, rfl⟩ := mem_annotate.mp hx
    simp only [Bool.and_eq_true, beq_iff_eq, Option.isNone_iff_eq_none] at hcond
    obtain ⟨⟨⟨h1, h2⟩, h3⟩, h4⟩ := hcond
    have hparse : parseEntry e = { verb := V, res := R, name := n } := by
      cases hpe : parseEntry e with
      | mk v r nm => rw [hpe] at h1 h2 h3; simp only at h1 h2 h3; rw [h1, h2, h3]
    obtain ⟨he, _⟩ := eq_of_parse (hlog e (by simp)) hP hR hparse
    subst he
    exact ⟨a, b, rfl, h4⟩
  · rintro ⟨pre, post, rfl, hl⟩
    refine ⟨(parseEntry (P ++ n), pre.length, look plan (P ++ n) (cnt (P ++ n) pre)), mem_annotate.mpr ⟨pre, _, post, rfl, rfl⟩, ?_⟩
    rw [parseEntry_pre3 hP n hn]
    simp [hl]

theorem pre_of_parse {e P V R : String} (hs : AnyShape e) (hP : SYa.Pre3 P V R) (hR : R = "rev" ∨ R = "pod")
    (hv : (parseEntry e).verb = V) (hr : (parseEntry e).res = R) : pre P e = true := by
  have hparse : parseEntry e = { verb := V, res := R, name := (parseEntry e).name } := by rw [← hv, ← hr]
  rw [(eq_of_parse hs hP hR hparse).1]
  exact pre_append_self _ _

def isRevDelete (en : Entry) : Bool := en.res == "rev" && en.verb == "delete"

theorem not_revDelete_of_shape {e : String} (hs : AnyShape e) (hp : pre "delete:rev:" e = false) :
    isRevDelete (parseEntry e) = false := by
  cases hd : isRevDelete (parseEntry e)
  · rfl
  · rw [isRevDelete, Bool.and_eq_true, beq_iff_eq, beq_iff_eq] at hd
    rw [pre_of_parse hs pre_delete_rev (Or.inl rfl) hd.2 hd.1] at hp
    exact absurd hp (by simp)

/-- the names of the revision Deletes the monitor reads out of a log -/
def delNames (log : List String) : List String :=
  (log.map parseEntry).filterMap (fun e => if e.res == "rev" && e.verb == "delete" then some e.name else none)

theorem delNames_append (a b : List String) : delNames (a ++ b) = delNames a ++ delNames b := by
  unfold delNames; rw [List.map_append, List.filterMap_append]

theorem delNames_nil_of {l : List String} (hs : ∀ e ∈ l, AnyShape e) (hp : ∀ e ∈ l, pre "delete:rev:" e = false) :
    delNames l = [] := by
  unfold delNames
  rw [List.filterMap_eq_nil_iff]
  intro en hen
  obtain ⟨e, he, rfl⟩ := List.mem_map.mp hen
  have := not_revDelete_of_shape (hs e he) (hp e he)
  unfold isRevDelete at this
  rw [this]; rfl

theorem delNames_dels (ds : List Rev) (hn : ∀ r ∈ ds, NoColon r.name) : delNames (ds.map delKey) = ds.map (·.name) := by
  induction ds with
  | nil => rfl
  | cons r rs ih =>
    have h1 : parseEntry (delKey r) = { verb := "delete", res := "rev", name := r.name } :=
      parseEntry_pre3 pre_delete_rev r.name (hn r List.mem_cons_self)
    have := ih (fun x hx => hn x (List.mem_cons_of_mem _ hx))
    unfold delNames at this ⊢
    rw [List.map_cons, List.map_cons, List.filterMap_cons, h1, this]
    rfl

end Asts.SYb
