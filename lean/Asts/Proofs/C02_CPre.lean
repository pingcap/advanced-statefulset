import Asts.Proofs.C02_CStep

/-! C02, worlds with non-members: the world after a round is again a world the argument speaks about. -/
namespace Asts.C02p
open Asts Asts.L1c

theorem nextW_setName0 (h : Hashing) (x : SyncIn) : (nextW h x).setName = x.setName := rfl
theorem nextW_replicas0 (h : Hashing) (x : SyncIn) : replicasOf (nextW h x).view = replicasOf x.view := rfl
theorem nextW_slots0 (h : Hashing) (x : SyncIn) : (nextW h x).view.slots = x.view.slots := rfl
theorem nextW_desired0 (h : Hashing) (x : SyncIn) :
    desired (replicasOf (nextW h x).view) (nextW h x).view.slots = desired (replicasOf x.view) x.view.slots := rfl
theorem nextW_fresh0 (h : Hashing) (x : SyncIn) :
    (nextW h x).fresh.gone = false ∧ (nextW h x).fresh.uidOk = true ∧ (nextW h x).fresh.deleting = x.view.deleting :=
  ⟨rfl, rfl, rfl⟩
theorem nextW_spec0 (h : Hashing) (x : SyncIn) (hs : SpecOk x) : SpecOk (nextW h x) :=
  hs.of_eq rfl rfl rfl rfl rfl rfl

section
variable {h : Hashing} {x : SyncIn} {G : List Rev} {upd : Rev} {cc : Int}

theorem StepRaw.memProps (hp : PreM x) (hs : NSC h (prepW h (mOf x))) (hpol : Pol hs.norm) (hr : StepRaw h x hs.norm) :
    ∀ c ∈ (nextW h x).pods, c.member = true →
      c.selMatch = true ∧ c.name = canonicalName x.setName c.pod.ord ∧ 0 ≤ c.pod.ord ∧
      c.pod.stOk = true ∧ c.pod.created = true ∧
      (c.pod.ord ∈ desired (replicasOf x.view) x.view.slots ∨ ∃ c0 ∈ x.pods, c0.member = true ∧ c0.name = c.name) := by
  intro c hc hm
  have hown : own c ∈ (Y (nextW h x)).pods := by rw [Y_pods, mem_ownM]; exact ⟨c, hc, hm, rfl⟩
  obtain ⟨y1, hy1, hky1⟩ := hr.keyPerm.mem hown
  obtain ⟨y, hy, hky2⟩ := (nextW_pods hs hpol).mem hy1
  obtain ⟨k, rfl⟩ := eq_of_key (hky2.trans hky1)
  obtain ⟨_, _, a3, a4, a5, a7, a8, a9, _⟩ := rawNext_pod hs hpol hy
  rw [prepW_setName h (mOf x)] at a4
  have a4' : c.name = canonicalName x.setName c.pod.ord := a4
  refine ⟨a3, a4', a5, a7, a8, ?_⟩
  rcases a9 with h1 | ⟨c1, hc1, hco⟩
  · left
    have hD := (mem_desired_iff hs.norm c.pod.ord).2 h1
    rw [prepW_view h (mOf x)] at hD
    exact hD
  · right
    rw [prepW_pods, mem_ownM] at hc1
    obtain ⟨c0, hc0, hm0, rfl⟩ := hc1
    refine ⟨c0, hc0, hm0, ?_⟩
    have hco' : c0.pod.ord = c.pod.ord := hco
    rw [(hp.mem c0 hc0 hm0).2.2.1, hco', a4']

theorem StepRaw.ords (hs : NSC h (prepW h (mOf x))) (hpol : Pol hs.norm) (hr : StepRaw h x hs.norm) :
    (((nextW h x).pods.filter (·.member)).map (·.pod.ord)).Nodup := by
  have e : ((nextW h x).pods.filter (·.member)).map (·.pod.ord) = (Y (nextW h x)).pods.map (·.pod.ord) := by
    rw [Y_pods, ownM_ords]
  rw [e, hr.keyPerm.ords.nodup_iff]
  exact (nextW_ns hs hpol).norm.ords

theorem StepRaw.cntNm {hn : NormC h (prepW h (mOf x))} (hr : StepRaw h x hn) :
    ((nextW h x).pods.filter (fun c => !c.member)).length ≤ (x.pods.filter (fun c => !c.member)).length := by
  obtain ⟨L, h1, h2⟩ := hr.nmNames
  have e1 := h1.length_eq
  have e2 := h2.length_le
  simp only [List.length_map] at e1 e2
  omega

theorem StepRaw.cntOut (hs : NSC h (prepW h (mOf x))) (hpol : Pol hs.norm) (hr : StepRaw h x hs.norm) :
    (((nextW h x).pods.filter (·.member)).filter
      (fun c => !(desired (replicasOf x.view) x.view.slots).contains c.pod.ord)).length ≤
    ((x.pods.filter (·.member)).filter (fun c => !(desired (replicasOf x.view) x.view.slots).contains c.pod.ord)).length := by
  have e1 := ownM_filter_len (nextW h x).pods (fun c => !(desired (replicasOf x.view) x.view.slots).contains c.pod.ord)
    (fun _ => rfl)
  have e2 := ownM_filter_len x.pods (fun c => !(desired (replicasOf x.view) x.view.slots).contains c.pod.ord)
    (fun _ => rfl)
  rw [← e1, ← e2]
  have e3 := (hr.keyPerm.filter (fun c => !(desired (replicasOf x.view) x.view.slots).contains c.pod.ord) (fun _ => rfl)).length
  rw [Y_pods] at e3
  rw [e3]
  have hview : (prepW h (mOf x)).view = x.view := prepW_view h (mOf x)
  have key := nextW_outside_le hs hpol
  rw [hview, prepW_pods] at key
  exact key

theorem StepRaw.room (hroom : roomM x) (hs : NSC h (prepW h (mOf x))) (hpol : Pol hs.norm) (hr : StepRaw h x hs.norm) :
    roomM (nextW h x) := by
  unfold roomM at hroom ⊢
  rw [nextW_desired0, nextW_replicas0]
  have := hr.cntNm
  have := hr.cntOut hs hpol
  omega

theorem StepRaw.small (hroom : roomM x) (hs : NSC h (prepW h (mOf x))) (hpol : Pol hs.norm) (hr : StepRaw h x hs.norm) :
    (nextW h x).pods.length ≤ freshId := by
  have h1 := List.length_eq_length_filter_add (l := (nextW h x).pods) (fun c => c.member)
  have h2 := length_split_le (D := desired (replicasOf x.view) x.view.slots) (hr.ords hs hpol)
  rw [(desired_isDesired _ _).len] at h2
  have h4 := hr.room hroom hs hpol
  unfold roomM at h4
  rw [nextW_desired0, nextW_replicas0] at h4
  omega

/-- **the world after the round is again a world the argument speaks about** -/
theorem StepRaw.preM (hp : PreM x) (hroom : roomM x)
    (hpick : PickOut h x.template (x.collisionCount.getD 0) (adoptS x.store) G upd cc)
    (hs : NSC h (prepW h (mOf x))) (hpol : Pol hs.norm) (hr : StepRaw h x hs.norm) : PreM (nextW h x) := by
  have hsmall := hr.small hroom hs hpol
  have hmp := hr.memProps hp hs hpol
  have hown := hr.ownP hp
  obtain ⟨L, hL1, hL2⟩ := hr.nmNames
  have hnmOld : ∀ c ∈ (nextW h x).pods, c.member = false → ∃ c0 ∈ x.pods, c0.member = false ∧ c0.name = c.name := by
    intro c hc hm
    have : c.name ∈ ((nextW h x).pods.filter (fun c => !c.member)).map (·.name) :=
      List.mem_map.2 ⟨c, List.mem_filter.2 ⟨hc, by simp [hm]⟩, rfl⟩
    have := hL2.subset (hL1.subset this)
    rw [List.mem_map] at this
    obtain ⟨c0, hc0, hce⟩ := this
    rw [List.mem_filter] at hc0
    exact ⟨c0, hc0.1, by simpa using hc0.2, hce⟩
  refine ⟨nextW_spec0 h x hp.spec, ?_, hr.ords hs hpol, ?_, ?_, ?_, idOk_of_idPos (settle_idPos _) hsmall, hsmall,
    hp.smallR, rfl, rfl, hp.spec.del, fun c hc => (settle_settled _ c hc).1, hp.colon, ?_⟩
  · intro c hc hm
    obtain ⟨b1, b2, b3, b5, b6, _⟩ := hmp c hc hm
    refine ⟨?_, b1, b2, b3, b5, b6⟩
    rcases hown c hc hm with h1 | h1
    · exact Or.inl h1
    · exact Or.inr h1.1
  · have hsplit : (nextW h x).pods.Perm ((nextW h x).pods.filter (fun c => decide (c.member = true)) ++
        (nextW h x).pods.filter (fun c => !decide (c.member = true))) :=
      (List.filter_append_perm _ _).symm
    have e1 : (nextW h x).pods.filter (fun c => decide (c.member = true)) = (nextW h x).pods.filter (·.member) := by
      apply List.filter_congr; intro c _; simp
    have e2 : (nextW h x).pods.filter (fun c => !decide (c.member = true)) = (nextW h x).pods.filter (fun c => !c.member) := by
      apply List.filter_congr; intro c _; simp
    rw [e1, e2] at hsplit
    rw [(hsplit.map _).nodup_iff, List.map_append, List.nodup_append]
    refine ⟨?_, ?_, ?_⟩
    · have : ((nextW h x).pods.filter (·.member)).map (·.name) =
          (((nextW h x).pods.filter (·.member)).map (·.pod.ord)).map (canonicalName x.setName) := by
        rw [List.map_map]
        apply List.map_congr_left
        intro c hc
        rw [List.mem_filter] at hc
        exact (hmp c hc.1 hc.2).2.1
      rw [this]
      exact canon_map_nodup _ (hr.ords hs hpol)
    · rw [hL1.nodup_iff]
      exact hL2.nodup ((List.Sublist.map _ List.filter_sublist).nodup hp.podNames)
    · intro a ha b hb
      rw [List.mem_map] at ha hb
      obtain ⟨c, hc, rfl⟩ := ha
      obtain ⟨d, hd, rfl⟩ := hb
      rw [List.mem_filter] at hc hd
      have hdm : d.member = false := by simpa using hd.2
      obtain ⟨d0, hd0, hd0m, hd0n⟩ := hnmOld d hd.1 hdm
      obtain ⟨_, b2, _, _, _, b7⟩ := hmp c hc.1 hc.2
      intro heq
      rcases b7 with hin | ⟨c0, hc0, hc0m, hc0n⟩
      · exact hp.inertNames d0 hd0 hd0m _ hin (by rw [hd0n, ← heq, b2])
      · have : c0 = d0 := List.inj_on_of_nodup_map hp.podNames hc0 hd0 (by rw [hc0n, hd0n, heq])
        rw [this, hd0m] at hc0m
        cases hc0m
  · intro c hc hm o ho
    obtain ⟨c0, hc0, hc0m, hc0n⟩ := hnmOld c hc hm
    rw [← hc0n]
    rw [nextW_desired0] at ho
    exact hp.inertNames c0 hc0 hc0m o ho
  · intro c hc hm hself
    exact absurd hself (hr.inert c hc hm)
  · have hst : (nextW h x).store = (nextW h (prepW h (mOf x))).store := congrArg (·.store) hr.rest
    rw [hst, nextW_store hs hpol]
    rw [prepW_store hp.preC (mOf_pick hpick)]
    exact (List.Sublist.map _ List.filter_sublist).nodup hpick.names

end

end Asts.C02p
