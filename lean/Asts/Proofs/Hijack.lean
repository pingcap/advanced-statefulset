import Asts.Model.Hijack
import Asts.Spec.Hijack
import Asts.Proofs.Codec
import Mathlib.Tactic

namespace Asts.Hijack
open Asts Asts.Codec Asts.Hijack.Spec

/-! Lemmas about the wrapped verbs of the hijack client (`Model/Hijack`). The conversions themselves are those of
    `Model/Codec`; their losslessness is `Proofs/Codec` (instantiated in `Props/C19`). -/

theorem hijack_ok (S : Schemas) (st : Step) (o : Out) : hijack S st (.ok o) = .ok (wrapOut S o) := rfl

theorem hijack_err (S : Schemas) (st : Step) (k : ErrKind) : hijack S st (.err k) = .err k := rfl

theorem hijack_eq_err_iff (S : Schemas) (st : Step) (r : Res Out) (k : ErrKind) : hijack S st r = .err k ↔ r = .err k := by
  cases r <;> simp [hijack]

theorem hijack_eq_ok_iff (S : Schemas) (st : Step) (r : Res Out) (b : Out) :
    hijack S st r = .ok b ↔ ∃ o, r = .ok o ∧ b = wrapOut S o := by
  cases r <;> simp [hijack, eq_comm]

theorem wrapOut_shape (S : Schemas) (o : Out) : (wrapOut S o).shape = o.shape := by cases o <;> rfl

theorem apiVersionOf_toBuiltin (S : Schemas) {bs : Fields} (hb : S.builtin = .struct bs)
    (hf : (findField "apiVersion" bs).isSome = true) (a : GoVal) : apiVersionOf (toBuiltin S a) = "apps/v1" := by
  unfold apiVersionOf toBuiltin convert
  rw [hb, stamped_typed "apps/v1" hf]

theorem length_encodeList (t : GoTy) : ∀ l : List GoVal, (encodeList t l).length = l.length
  | [] => by simp [encodeList]
  | v :: vs => by simp [encodeList, length_encodeList t vs]

theorem length_decodeList (t : GoTy) : ∀ l : List Json, (decodeList t l).length = l.length
  | [] => by simp [decodeList]
  | j :: js => by simp [decodeList, length_decodeList t js]

theorem jlookup_encodeFields_of_vlookup_none {k : String} {vs : List (String × GoVal)} (hv : vlookup k vs = none) :
    ∀ fs : Fields, jlookup k (encodeFields fs vs) = none
  | [] => by simp [encodeFields, jlookup]
  | (k', o', t') :: rest => by
    have ih := jlookup_encodeFields_of_vlookup_none hv rest
    by_cases hk : k' = k
    · subst hk
      simp only [encodeFields, hv]
      exact ih
    · simp only [encodeFields]
      split
      · split_ifs
        · exact ih
        · simp only [jlookup, hk, if_false]; exact ih
      · exact ih

/-- the stamp `convertList` puts on the items -/
def stampItems (av : String) (v : GoVal) : GoVal :=
  match v with
  | .slice (some items) => .slice (some (items.map (setField "apiVersion" (.str av))))
  | v => v

theorem vlookup_map_items (F : GoVal → GoVal) (k : String) : ∀ fs : List (String × GoVal),
    vlookup k (fs.map fun e => if e.1 = "items" then (e.1, F e.2) else e) =
      (vlookup k fs).map (fun v => if k = "items" then F v else v)
  | [] => rfl
  | (k0, v) :: rest => by
    have ih := vlookup_map_items F k rest
    by_cases h0 : k0 = "items"
    · by_cases hk : k0 = k
      · subst hk; simp [vlookup, h0]
      · have hk' : ¬ "items" = k := fun e => hk (h0.trans e)
        simp only [List.map_cons, h0, if_true, vlookup, hk', if_false]
        exact ih
    · by_cases hk : k0 = k
      · subst hk; simp [vlookup, h0]
      · simp only [List.map_cons, h0, if_false, vlookup, hk]
        exact ih

theorem stamped_items_typed {gs : Fields} (av : String) (hG : (findField "apiVersion" gs).isSome = true) :
    ∀ js : List Json, ∀ x ∈ (decodeList (.struct gs) js).map (setField "apiVersion" (.str av)), topField "apiVersion" x = some (.str av)
  | [], x, hx => by simp [decodeList] at hx
  | j :: js, x, hx => by
    simp only [decodeList, List.map_cons, List.mem_cons] at hx
    rcases hx with rfl | hx
    · exact stamped_typed av hG j
    · exact stamped_items_typed av hG js x hx

def arrItems : Option Json → List Json
  | some (.arr js) => js
  | _ => []

theorem arrItems_encode {fa : Fields} {ta : GoTy} (wfA : wfFields fa = true)
    (itemsA : findField "items" fa = some (false, .slice ta)) (l : GoVal) :
    arrItems (jlookup "items" (objKvs (encode (.struct fa) l))) = encodeList ta (itemsOf l) := by
  cases l with
  | struct vs =>
    simp only [encode, objKvs]
    cases hv : vlookup "items" vs with
    | none =>
      rw [jlookup_encodeFields_of_vlookup_none hv fa]
      simp [arrItems, itemsOf, topField, hv, encodeList]
    | some x =>
      have hj := jlookup_encodeFields (fs := fa) wfA itemsA hv
      simp only [Bool.false_and, Bool.false_eq_true, if_false] at hj
      rw [hj]
      cases x with
      | slice o => cases o <;> simp [arrItems, itemsOf, topField, hv, encode, encodeList]
      | _ => simp [arrItems, itemsOf, topField, hv, encode, encodeList]
  | _ => simp [arrItems, itemsOf, topField, encode, objKvs, jlookup, encodeList]

/-- `ToBuiltinStetefulsetList` between two list types: the list is stamped, every item is stamped, and there are as many
    items as before -/
theorem convertList_spec {fa fb gs : Fields} {ta : GoTy} {ob : Bool} (av : String)
    (wfA : wfFields fa = true)
    (itemsA : findField "items" fa = some (false, .slice ta))
    (itemsB : findField "items" fb = some (ob, .slice (.struct gs)))
    (apiB : (findField "apiVersion" fb).isSome = true)
    (apiG : (findField "apiVersion" gs).isSome = true) (l : GoVal) :
    topField "apiVersion" (convertList (.struct fa) (.struct fb) av l) = some (.str av) ∧
    (∀ x ∈ itemsOf (convertList (.struct fa) (.struct fb) av l), topField "apiVersion" x = some (.str av)) ∧
    (itemsOf (convertList (.struct fa) (.struct fb) av l)).length = (itemsOf l).length := by
  have hJ := arrItems_encode wfA itemsA l
  have hr : convertList (.struct fa) (.struct fb) av l =
      .struct (((decodeFields fb (objKvs (encode (.struct fa) l))).map fun e => if e.1 = "apiVersion" then ("apiVersion", GoVal.str av) else e).map
        fun e => if e.1 = "items" then (e.1, stampItems av e.2) else e) := by
    simp only [convertList, decode_struct, setField]
    rfl
  generalize objKvs (encode (.struct fa) l) = kvs at hJ hr
  rw [hr]
  have hne : ("items" : String) ≠ "apiVersion" := by decide
  have hne' : ¬ ("apiVersion" : String) = "items" := by decide
  refine ⟨?_, ?_⟩
  · -- the list's own stamp
    simp only [topField]
    rw [vlookup_map_items]
    simp only [hne', if_false, Option.map_id']
    exact vlookup_stamp apiB _ _
  · -- the items
    have hI : itemsOf (.struct (((decodeFields fb kvs).map fun e => if e.1 = "apiVersion" then ("apiVersion", GoVal.str av) else e).map
        fun e => if e.1 = "items" then (e.1, stampItems av e.2) else e)) =
        (decodeList (.struct gs) (arrItems (jlookup "items" kvs))).map (setField "apiVersion" (.str av)) := by
      simp only [itemsOf, topField]
      rw [vlookup_map_items, vlookup_map_set_ne hne, vlookup_decodeFields _ itemsB]
      cases hj : jlookup "items" kvs with
      | none => simp [zero, stampItems, arrItems, decodeList]
      | some j => cases j <;> simp [decode, stampItems, arrItems, decodeList]
    rw [hI, hJ]
    exact ⟨stamped_items_typed av apiG _, by simp [length_decodeList, length_encodeList]⟩

theorem foldr_insertS_const (s : String) : ∀ n : Nat, (List.replicate (n + 1) s).foldr insertS [] = [s]
  | 0 => by simp [insertS]
  | n + 1 => by
    rw [List.replicate_succ, List.foldr_cons, foldr_insertS_const s n]
    simp [insertS]

theorem versionsOf_typed (xs : List GoVal) (h : ∀ x ∈ xs, topField "apiVersion" x = some (.str "apps/v1")) :
    versionsOf xs = if xs.length = 0 then "" else "apps/v1" := by
  have hm : (xs.map fun x => let v := apiVersionOf x; if v == "" then "-" else v) = List.replicate xs.length "apps/v1" := by
    apply List.eq_replicate_iff.mpr
    refine ⟨by simp, ?_⟩
    intro b hb
    obtain ⟨x, hx, rfl⟩ := List.mem_map.mp hb
    simp [apiVersionOf, h x hx]
  unfold versionsOf
  rw [hm]
  cases hn : xs.length with
  | zero => simp
  | succ n => rw [foldr_insertS_const]; simp

/-- what the theorems need of the four schemas: the two list types are structs with an `items` slice (never omitted on the
    Advanced side) and an `apiVersion`; the built-in item type and the built-in object type have an `apiVersion` -/
def WellShaped (S : Schemas) : Prop :=
  ∃ fa fb gs bs ta ob, S.asList = .struct fa ∧ S.builtinList = .struct fb ∧ S.builtin = .struct bs ∧ wfFields fa = true ∧
    findField "items" fa = some (false, .slice ta) ∧ findField "items" fb = some (ob, .slice (.struct gs)) ∧
    (findField "apiVersion" fb).isSome = true ∧ (findField "apiVersion" gs).isSome = true ∧ (findField "apiVersion" bs).isSome = true

/-- the inner client answers a step with a result of the step's kind -/
def ShapeOk (st : Step) (inner : Res Out) : Prop := ∀ o, inner = .ok o → o.shape = st.shape

/-- `ToBuiltinStetefulsetList` at well-shaped schemas: the list is stamped, every item is stamped, and there are as many
    items as before -/
theorem toBuiltinList_spec (S : Schemas) (hS : WellShaped S) (l : GoVal) :
    topField "apiVersion" (toBuiltinList S l) = some (.str "apps/v1") ∧
    (∀ x ∈ itemsOf (toBuiltinList S l), topField "apiVersion" x = some (.str "apps/v1")) ∧
    (itemsOf (toBuiltinList S l)).length = (itemsOf l).length := by
  obtain ⟨fa, fb, gs, bs, ta, ob, hA, hB, _, wfA, itemsA, itemsB, apiB, apiG, _⟩ := hS
  unfold toBuiltinList
  rw [hA, hB]
  exact convertList_spec "apps/v1" wfA itemsA itemsB apiB apiG l

theorem observe_stepOk (S : Schemas) (hS : WellShaped S) (st : Step) (inner : Res Out) (hsh : ShapeOk st inner) :
    stepOk (observe st inner (hijack S st inner)) = true := by
  cases inner with
  | err k =>
    cases hst : st.shape <;> simp [stepOk, sentOk, retOk, errOk, observe, hijack, noRet, hst]
  | ok o =>
    have hshape : o.shape = st.shape := hsh o rfl
    cases o with
    | obj a =>
      obtain ⟨_, _, _, bs, _, _, _, _, hb, _, _, _, _, _, apiO⟩ := hS
      simp only [Out.shape] at hshape
      simp [stepOk, sentOk, retOk, errOk, observe, hijack, wrapOut, goodRet, ← hshape, apiVersionOf_toBuiltin S hb apiO]
    | list l =>
      simp only [Out.shape] at hshape
      obtain ⟨htop, hitems, hlen⟩ := toBuiltinList_spec S hS l
      have hvers := versionsOf_typed _ hitems
      rw [hlen] at hvers
      simp only [stepOk, sentOk, retOk, errOk, observe, hijack, wrapOut, goodRet, ← hshape, apiVersionOf, htop, hlen, hvers]
      by_cases h0 : (itemsOf l).length = 0 <;> simp [h0]
    | done =>
      simp only [Out.shape] at hshape
      simp [stepOk, sentOk, retOk, errOk, observe, hijack, wrapOut, goodRet, ← hshape]
    | stream =>
      simp only [Out.shape] at hshape
      simp [stepOk, sentOk, retOk, errOk, observe, hijack, wrapOut, goodRet, ← hshape]

/-- the fake store answers every step with a result of the step's kind -/
theorem innerStep_shape (a : GoVal) (s : Store) (st : Step) (fault : Option ErrKind) : ShapeOk st (innerStep a s st fault).1 := by
  intro o ho
  cases fault with
  | some k => simp [innerStep] at ho
  | none =>
    cases st <;> simp only [innerStep] at ho <;> (try split_ifs at ho) <;>
      simp only [Res.ok.injEq] at ho <;> (try subst ho) <;> rfl

theorem observeRun_ok (S : Schemas) (hS : WellShaped S) (a : GoVal) :
    ∀ (s : Store) (ops : List (Step × Option ErrKind)), runOk (observeRun S a s ops) = true
  | _, [] => by simp [observeRun, runOk]
  | s, (st, fault) :: rest => by
    have h1 := observe_stepOk S hS st (innerStep a s st fault).1 (innerStep_shape a s st fault)
    have h2 := observeRun_ok S hS a (innerStep a s st fault).2 rest
    simp only [runOk] at h2 ⊢
    simp only [observeRun, List.all_cons, h1, h2, Bool.and_self]

theorem stepClauses_of_stepOk (o : StepObs) (h : stepOk o = true) : ∀ c ∈ stepClauses o, c.2 = true := by
  simp only [stepOk, Bool.and_eq_true] at h
  intro c hc
  simp only [stepClauses, List.mem_cons, List.mem_nil_iff, or_false] at hc
  rcases hc with rfl | rfl | rfl
  · exact h.1.1
  · exact h.1.2
  · exact h.2

theorem clauses_of_runOk (steps : List StepObs) (h : runOk steps = true) :
    ∀ c ∈ clauses { conv := convGood, convExtra := convGood, steps := steps }, c.2 = true := by
  intro c hc
  simp only [clauses, List.mem_cons, List.mem_flatMap] at hc
  rcases hc with rfl | ⟨o, ho, hc⟩
  · decide
  · exact stepClauses_of_stepOk o (by simpa [runOk] using (List.all_eq_true.mp h) o ho) c hc

end Asts.Hijack
