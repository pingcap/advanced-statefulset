import Asts.Model.Ordinals
import Mathlib.Data.List.Sort
import Mathlib.Data.Finset.Card
import Mathlib.Tactic

namespace Asts
open List

theorem mem_insertSorted {x y : Int} {l : List Int} : y ∈ insertSorted x l ↔ y = x ∨ y ∈ l := by
  induction l with
  | nil => simp [insertSorted]
  | cons a as ih =>
    unfold insertSorted
    split_ifs with h1 h2
    · exact List.mem_cons
    · rw [h2, List.mem_cons, or_self_left]
    · rw [List.mem_cons, ih, List.mem_cons, or_left_comm]

theorem mem_dedupSort {y : Int} {l : List Int} : y ∈ dedupSort l ↔ y ∈ l := by
  induction l with
  | nil => exact Iff.rfl
  | cons a as ih => rw [dedupSort, List.foldr_cons, mem_insertSorted, List.mem_cons, ← dedupSort, ih]

theorem sorted_insertSorted {x : Int} {l : List Int} (h : l.Pairwise (· < ·)) :
    (insertSorted x l).Pairwise (· < ·) := by
  induction l with
  | nil => exact List.pairwise_singleton _ _
  | cons a as ih =>
    unfold insertSorted
    have h' := List.pairwise_cons.1 h
    split_ifs with h1 h2
    · refine List.pairwise_cons.2 ⟨fun b hb => ?_, h⟩
      rcases List.mem_cons.1 hb with rfl | hb
      · exact h1
      · exact lt_trans h1 (h'.1 b hb)
    · exact h
    · refine List.pairwise_cons.2 ⟨fun b hb => ?_, ih h'.2⟩
      rcases mem_insertSorted.1 hb with rfl | hb
      · omega
      · exact h'.1 b hb

theorem sorted_dedupSort (l : List Int) : (dedupSort l).Pairwise (· < ·) := by
  induction l with
  | nil => exact List.Pairwise.nil
  | cons a as ih => exact sorted_insertSorted ih

theorem length_insertSorted_le (x : Int) (l : List Int) : (insertSorted x l).length ≤ l.length + 1 := by
  induction l with
  | nil => exact le_rfl
  | cons a as ih =>
    unfold insertSorted
    split_ifs
    · exact le_rfl
    · exact Nat.le_succ _
    · exact Nat.succ_le_succ ih

theorem length_dedupSort_le (l : List Int) : (dedupSort l).length ≤ l.length := by
  induction l with
  | nil => exact le_rfl
  | cons a as ih => exact (length_insertSorted_le a (dedupSort as)).trans (Nat.succ_le_succ ih)

theorem extend_cons_pos {b a : Int} (as : List Int) (h : 0 ≤ a ∧ a < b) :
    extend b (a :: as) = ((extend (b + 1) as).1, a :: (extend (b + 1) as).2) := by
  rw [extend, if_pos h]

theorem extend_cons_neg {b a : Int} (as : List Int) (h : ¬ (0 ≤ a ∧ a < b)) : extend b (a :: as) = extend b as := by
  rw [extend, if_neg h]

theorem extend_of_forall_not {b : Int} {l : List Int} (h : ∀ s ∈ l, ¬ (0 ≤ s ∧ s < b)) : extend b l = (b, []) := by
  induction l with
  | nil => rfl
  | cons a as ih =>
    rw [extend_cons_neg as (h a List.mem_cons_self)]
    exact ih (fun s hs => h s (List.mem_cons_of_mem _ hs))

theorem extend_all_ge {b : Int} {l : List Int} (h : ∀ s ∈ l, b ≤ s) : extend b l = (b, []) :=
  extend_of_forall_not (fun s hs hsb => absurd (h s hs) (not_le.2 hsb.2))

/-- Characterisation of the extension loop on a strictly sorted list: the loop keeps exactly the
    non-negative elements below the final bound, and the final bound is the start plus their number. -/
theorem extend_spec {l : List Int} (hs : l.Pairwise (· < ·)) (b : Int) (hb0 : 0 ≤ b) :
    (extend b l).1 = b + (extend b l).2.length ∧
    (extend b l).2 = l.filter (fun s => decide (0 ≤ s) && decide (s < (extend b l).1)) := by
  induction l generalizing b with
  | nil => exact ⟨(add_zero b).symm, rfl⟩
  | cons a as ih =>
    have hs' := List.pairwise_cons.1 hs
    by_cases ha : 0 ≤ a ∧ a < b
    · -- `a` is kept: the bound grows, and `a` stays below the final bound
      obtain ⟨h1, h2⟩ := ih hs'.2 (b + 1) (by omega)
      rw [extend_cons_pos as ha]
      have hlt : a < (extend (b + 1) as).1 := by omega
      refine ⟨by rw [h1, List.length_cons, Nat.cast_succ, add_assoc, add_comm 1], ?_⟩
      rw [List.filter_cons_of_pos (by simp only [ha.1, hlt, decide_true, Bool.and_self])]
      exact congrArg _ h2
    · rw [extend_cons_neg as ha]
      by_cases hneg : a < 0
      · obtain ⟨h1, h2⟩ := ih hs'.2 b hb0
        exact ⟨h1, by rw [List.filter_cons_of_neg (by simp only [not_le.2 hneg, decide_false, Bool.false_and, Bool.false_eq_true, not_false_eq_true]), ← h2]⟩
      · -- `b ≤ a`, and the rest of the sorted list is above `a`: the loop is over
        have hge : ∀ s ∈ a :: as, b ≤ s := by
          intro s hs
          rcases List.mem_cons.1 hs with rfl | hs
          · omega
          · have := hs'.1 s hs; omega
        rw [extend_all_ge (fun s hs => hge s (List.mem_cons_of_mem _ hs))]
        refine ⟨(add_zero b).symm, (List.filter_eq_nil_iff.2 fun s hs => ?_).symm⟩
        have := hge s hs
        simp only [Bool.and_eq_true, decide_eq_true_eq]
        omega

end Asts
