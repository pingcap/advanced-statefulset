import Asts.Model.PatchJson
import Asts.Proofs.JsonToks
import Asts.Proofs.JsonInts
import Mathlib.Tactic
/-! # The lexer inverts `render goEscape` on the token streams `toks` produces; hence `parse (ser goEscape t) = some t` for EVERY tree -/
namespace Asts.Patch

theorem hexVal_hexDigit (n : Nat) (h : n < 16) : hexVal? (hexDigit n) = some n := by
  interval_cases n <;> decide

theorem unesc_u {a b c d : Nat} (ha : a < 16) (hb : b < 16) (hc : c < 16) (hd : d < 16) (r : List Char) :
    unesc ('u' :: hexDigit a :: hexDigit b :: hexDigit c :: hexDigit d :: r)
      = some (Char.ofNat (((a * 16 + b) * 16 + c) * 16 + d), r) := by
  simp [unesc, hexVal_hexDigit, ha, hb, hc, hd]

theorem char_eq_of_toNat {c : Char} {n : Nat} (h : c.toNat = n) : c = Char.ofNat n := by
  rw [← h, Char.ofNat_toNat]

/-- `goEscapeChar c` is `c` itself, where the string lexer takes `c` literally, or a backslash and an escape that `unesc` decodes to `c` -/
theorem goEscapeChar_cases (c : Char) :
    (goEscapeChar c = [c] ∧ c ≠ '"' ∧ c ≠ '\\' ∧ ¬ c.toNat < 32) ∨
    ∃ e, goEscapeChar c = '\\' :: e ∧ ∀ rest, unesc (e ++ rest) = some (c, rest) := by
  rw [goEscapeChar]
  -- branch by branch by hand: `split` and `split_ifs` on this chain are very slow to elaborate
  by_cases h1 : c = '"'
  · rw [if_pos h1, h1]; exact .inr ⟨_, rfl, fun _ => rfl⟩
  rw [if_neg h1]
  by_cases h2 : c = '\\'
  · rw [if_pos h2, h2]; exact .inr ⟨_, rfl, fun _ => rfl⟩
  rw [if_neg h2]
  by_cases h3 : c = '\n'
  · rw [if_pos h3, h3]; exact .inr ⟨_, rfl, fun _ => rfl⟩
  rw [if_neg h3]
  by_cases h4 : c = '\r'
  · rw [if_pos h4, h4]; exact .inr ⟨_, rfl, fun _ => rfl⟩
  rw [if_neg h4]
  by_cases h5 : c = '\t'
  · rw [if_pos h5, h5]; exact .inr ⟨_, rfl, fun _ => rfl⟩
  rw [if_neg h5]
  by_cases h6 : c.toNat = 8
  · rw [if_pos h6, char_eq_of_toNat h6]; exact .inr ⟨_, rfl, fun _ => rfl⟩
  rw [if_neg h6]
  by_cases h7 : c.toNat = 12
  · rw [if_pos h7, char_eq_of_toNat h7]; exact .inr ⟨_, rfl, fun _ => rfl⟩
  rw [if_neg h7]
  by_cases h8 : (c.toNat < 32 || c = '<' || c = '>' || c = '&') = true
  · rw [if_pos h8]
    have hlt : c.toNat < 256 := by
      simp only [Bool.or_eq_true, decide_eq_true_eq] at h8
      rcases h8 with ((h | h) | h) | h
      · omega
      · subst h; decide
      · subst h; decide
      · subst h; decide
    refine .inr ⟨_, rfl, fun rest => ?_⟩
    have e := unesc_u (a := 0) (b := 0) (c := c.toNat / 16) (d := c.toNat % 16) (by omega) (by omega) (by omega) (by omega) rest
    rw [show ((0 * 16 + 0) * 16 + c.toNat / 16) * 16 + c.toNat % 16 = c.toNat by omega, Char.ofNat_toNat] at e
    exact e
  rw [if_neg h8]
  by_cases h9 : c.toNat = 0x2028
  · rw [if_pos h9, char_eq_of_toNat h9]
    exact .inr ⟨_, rfl, unesc_u (a := 2) (b := 0) (c := 2) (d := 8) (by omega) (by omega) (by omega) (by omega)⟩
  rw [if_neg h9]
  by_cases h10 : c.toNat = 0x2029
  · rw [if_pos h10, char_eq_of_toNat h10]
    exact .inr ⟨_, rfl, unesc_u (a := 2) (b := 0) (c := 2) (d := 9) (by omega) (by omega) (by omega) (by omega)⟩
  rw [if_neg h10]
  refine .inl ⟨rfl, h1, h2, fun h => h8 ?_⟩
  simp [h]

theorem lexStr_step (c : Char) (f : Nat) (rest acc : List Char) :
    lexStr (f + 1) (goEscapeChar c ++ rest) acc = lexStr f rest (c :: acc) := by
  rcases goEscapeChar_cases c with ⟨h, hq, hb, h32⟩ | ⟨e, h, he⟩
  · rw [h, List.singleton_append, lexStr, if_neg hq, if_neg hb, if_neg h32]
  · rw [h, List.cons_append, lexStr, if_neg (by decide), if_pos rfl, he]

theorem goEscapeChar_length_pos (c : Char) : 1 ≤ (goEscapeChar c).length := by
  rcases goEscapeChar_cases c with ⟨h, _⟩ | ⟨e, h, _⟩
  · rw [h]; exact Nat.le_refl 1
  · rw [h]; exact Nat.succ_le_succ (Nat.zero_le _)

theorem lexStr_goEscape : ∀ (cs : List Char) (f : Nat) (rest acc : List Char), cs.length + 1 ≤ f →
    lexStr f (goEscape cs ++ '"' :: rest) acc = some (acc.reverse ++ cs, rest)
  | [], f, rest, acc, h => by
    cases f with
    | zero => omega
    | succ f => simp [goEscape, lexStr]
  | c :: cs, f, rest, acc, h => by
    cases f with
    | zero => omega
    | succ f =>
      have ih := lexStr_goEscape cs f rest (c :: acc) (by simp at h; omega)
      simp only [goEscape, List.flatMap_cons, List.append_assoc] at ih ⊢
      rw [lexStr_step, ih]
      simp

theorem goEscape_length (cs : List Char) : cs.length ≤ (goEscape cs).length := by
  induction cs with
  | nil => simp [goEscape]
  | cons c cs ih =>
    have := goEscapeChar_length_pos c
    simp only [goEscape, List.flatMap_cons, List.length_append, List.length_cons] at ih ⊢
    omega

/-- the decimal digits of this model are those of the annotation codec, whose lemmas apply -/
theorem natDigits_eq_digits (n : Nat) : natDigits n = JsonInts.digits n := by
  induction n using Nat.strong_induction_on with
  | _ n ih =>
    rw [natDigits, JsonInts.digits]
    split_ifs with h
    · rfl
    · rw [ih (n / 10) (by omega)]; rfl

theorem isDigit_eq (c : Char) : isDigit c = JsonInts.isDigit c := by
  simp only [isDigit, JsonInts.isDigit, Char.le_def]
  rfl

def digitsVal (ds : List Char) (acc : Nat) : Nat := ds.foldl (fun a c => a * 10 + (c.toNat - 48)) acc

theorem natDigits_allDigits (n : Nat) : ∀ c ∈ natDigits n, isDigit c = true := by
  intro c hc
  rw [isDigit_eq]
  exact JsonInts.digits_all_digit n c (natDigits_eq_digits n ▸ hc)

theorem natDigits_ne_nil (n : Nat) : natDigits n ≠ [] := natDigits_eq_digits n ▸ JsonInts.digits_ne_nil n

theorem digitsVal_natDigits (n : Nat) : digitsVal (natDigits n) 0 = n :=
  natDigits_eq_digits n ▸ JsonInts.digitsToNat_digits n
def NonDigitHead (rest : List Char) : Prop := ∀ c r, rest = c :: r → isDigit c = false

theorem lexDigits_append : ∀ (ds : List Char) (rest : List Char) (acc : Nat), (∀ c ∈ ds, isDigit c = true) → NonDigitHead rest →
    lexDigits (ds ++ rest) acc = (digitsVal ds acc, rest)
  | [], rest, acc, _, hr => by
    cases rest with
    | nil => simp [lexDigits, digitsVal]
    | cons c r => simp [lexDigits, digitsVal, hr c r rfl]
  | d :: ds, rest, acc, hd, hr => by
    have h1 : isDigit d = true := hd d (by simp)
    have ih := lexDigits_append ds rest (acc * 10 + (d.toNat - 48)) (fun c hc => hd c (by simp [hc])) hr
    simp [lexDigits, h1, ih, digitsVal]

theorem lexNum_natDigits (neg : Bool) (n : Nat) (rest : List Char) (hr : NonDigitHead rest) (he : numEnd rest = true) :
    lexNum neg (natDigits n ++ rest) = some (.num (if neg then -(n : Int) else (n : Int)), rest) := by
  have hall := natDigits_allDigits n
  have hval := digitsVal_natDigits n
  have hl := lexDigits_append (natDigits n) rest 0 hall hr
  cases hd : natDigits n with
  | nil => exact absurd hd (natDigits_ne_nil n)
  | cons d ds =>
    have h1 : isDigit d = true := hall d (by simp [hd])
    rw [hd] at hl hval
    simp only [List.cons_append] at hl ⊢
    simp [lexNum, h1, hl, hval, he]

/-- what may follow a number: not a digit, not `.`, `e`, `E` -/
def AfterNum (rest : List Char) : Prop := NonDigitHead rest ∧ numEnd rest = true

theorem digit_not_special (d : Char) (h : isDigit d = true) :
    d ≠ '{' ∧ d ≠ '}' ∧ d ≠ '[' ∧ d ≠ ']' ∧ d ≠ ',' ∧ d ≠ ':' ∧ d ≠ '"' ∧ d ≠ '-' := by
  refine ⟨?_, ?_, ?_, ?_, ?_, ?_, ?_, ?_⟩ <;> (intro e; subst e; revert h; decide)

theorem lexTok_renderTok (tk : Tok) (rest : List Char) (h : ∀ n, tk = .num n → AfterNum rest) :
    lexTok (renderTok goEscape tk ++ rest) = some (tk, rest) := by
  cases tk with
  | lbrace => rfl
  | rbrace => rfl
  | lbrack => rfl
  | rbrack => rfl
  | comma => rfl
  | colon => rfl
  | null => rfl
  | tru => rfl
  | fls => rfl
  | str s =>
    have hl := lexStr_goEscape s.toList ((goEscape s.toList).length + (rest.length + 1)) rest [] (by
      have := goEscape_length s.toList
      omega)
    simp [renderTok, lexTok, hl]
  | num n =>
    obtain ⟨hr, he⟩ := h n rfl
    cases n with
    | ofNat m =>
      have hl := lexNum_natDigits false m rest hr he
      cases hd : natDigits m with
      | nil => exact absurd hd (natDigits_ne_nil m)
      | cons d ds =>
        have h1 : isDigit d = true := natDigits_allDigits m d (by simp [hd])
        obtain ⟨a1, a2, a3, a4, a5, a6, a7, a8⟩ := digit_not_special d h1
        rw [hd] at hl
        simp only [List.cons_append] at hl
        simp [renderTok, intChars, hd, lexTok, a1, a2, a3, a4, a5, a6, a7, a8, h1, hl]
    | negSucc m =>
      have hl := lexNum_natDigits true (m + 1) rest hr he
      simp [renderTok, intChars, lexTok, hl, Int.negSucc_eq]

theorem renderTok_length_pos (tk : Tok) : 1 ≤ (renderTok goEscape tk).length := by
  cases tk with
  | num n =>
    cases n with
    | ofNat m =>
      have := natDigits_ne_nil m
      simp only [renderTok, intChars]
      cases h : natDigits m with
      | nil => exact absurd h this
      | cons d ds => simp
    | negSucc m => exact Nat.succ_le_succ (Nat.zero_le _)
  | _ => exact Nat.succ_le_succ (Nat.zero_le _)

def isNum : Tok → Prop
  | .num _ => True
  | _ => False

def Delim : Tok → Prop
  | .comma => True | .rbrack => True | .rbrace => True
  | _ => False

def SafeHead : List Tok → Prop
  | [] => True
  | t :: _ => Delim t

/-- every number is followed by `,`, `]`, `}` or the end of the stream -/
def numOk : List Tok → Prop
  | [] => True
  | tk :: r => (isNum tk → SafeHead r) ∧ numOk r

theorem render_cons (tk : Tok) (ts : List Tok) : render goEscape (tk :: ts) = renderTok goEscape tk ++ render goEscape ts := by
  simp [render]

theorem afterNum_render (ts : List Tok) (h : SafeHead ts) : AfterNum (render goEscape ts) := by
  cases ts with
  | nil => exact ⟨fun c r e => by simp [render] at e, by simp [render, numEnd]⟩
  | cons t r =>
    cases t <;> simp only [SafeHead, Delim] at h
    all_goals
      refine ⟨fun c r' e => ?_, ?_⟩
      · simp only [render_cons, renderTok, List.cons_append, List.nil_append, List.cons.injEq] at e
        rw [← e.1]; decide
      · simp [render_cons, renderTok, numEnd]

theorem render_length (ts : List Tok) : ts.length ≤ (render goEscape ts).length := by
  induction ts with
  | nil => simp
  | cons t r ih =>
    have := renderTok_length_pos t
    rw [render_cons]
    simp only [List.length_cons, List.length_append]
    omega

theorem lexAll_render : ∀ (ts : List Tok) (f : Nat) (acc : List Tok), numOk ts → ts.length ≤ f →
    lexAll f (render goEscape ts) acc = some (acc.reverse ++ ts)
  | [], f, acc, _, _ => by
    cases f <;> simp [render, lexAll]
  | tk :: ts, f, acc, hok, hf => by
    cases f with
    | zero => simp at hf
    | succ f =>
      obtain ⟨h1, h2⟩ := hok
      have hl := lexTok_renderTok tk (render goEscape ts) (fun n e => afterNum_render ts (h1 (by rw [e]; trivial)))
      have ih := lexAll_render ts f (tk :: acc) h2 (by simp at hf; omega)
      rw [render_cons]
      cases hrt : renderTok goEscape tk ++ render goEscape ts with
      | nil =>
        have := renderTok_length_pos tk
        have hlen := congrArg List.length hrt
        simp only [List.length_append, List.length_nil] at hlen
        omega
      | cons c r =>
        rw [hrt] at hl
        simp only [lexAll, hl, ih]
        simp

mutual
theorem numOk_toks : ∀ (t : Json) (rest : List Tok), numOk rest → SafeHead rest → numOk (toks t ++ rest)
  | .null, rest, h, _ => by simp [toks, numOk, isNum, h]
  | .bool b, rest, h, _ => by cases b <;> simp [toks, numOk, isNum, h]
  | .num n, rest, h, hs => by simp [toks, numOk, h, hs]
  | .str s, rest, h, _ => by simp [toks, numOk, isNum, h]
  | .arr l, rest, h, _ => by
    simp only [toks, List.cons_append, numOk, isNum, false_imp_iff, true_and]
    exact numOk_toksList l rest h
  | .obj kvs, rest, h, _ => by
    simp only [toks, List.cons_append, numOk, isNum, false_imp_iff, true_and]
    exact numOk_toksKvs kvs rest h
theorem numOk_toksList : ∀ (l : List Json) (rest : List Tok), numOk rest → numOk (toksList l ++ rest)
  | [], rest, h => by simp [toksList, numOk, isNum, h]
  | x :: r, rest, h => by
    simp only [toksList, List.append_assoc]
    exact numOk_toks x _ (numOk_toksTail r rest h).1 (numOk_toksTail r rest h).2
theorem numOk_toksTail : ∀ (l : List Json) (rest : List Tok), numOk rest → numOk (toksTail l ++ rest) ∧ SafeHead (toksTail l ++ rest)
  | [], rest, h => by simp [toksTail, numOk, isNum, h, SafeHead, Delim]
  | x :: r, rest, h => by
    simp only [toksTail, List.cons_append, List.append_assoc, numOk, isNum, false_imp_iff, true_and, SafeHead, Delim, and_true]
    exact numOk_toks x _ (numOk_toksTail r rest h).1 (numOk_toksTail r rest h).2
theorem numOk_toksKvs : ∀ (kvs : List (String × Json)) (rest : List Tok), numOk rest → numOk (toksKvs kvs ++ rest)
  | [], rest, h => by simp [toksKvs, numOk, isNum, h]
  | (k, v) :: r, rest, h => by
    simp only [toksKvs, List.cons_append, List.append_assoc, numOk, isNum, false_imp_iff, true_and]
    exact numOk_toks v _ (numOk_toksKvTail r rest h).1 (numOk_toksKvTail r rest h).2
theorem numOk_toksKvTail : ∀ (kvs : List (String × Json)) (rest : List Tok), numOk rest →
    numOk (toksKvTail kvs ++ rest) ∧ SafeHead (toksKvTail kvs ++ rest)
  | [], rest, h => by simp [toksKvTail, numOk, isNum, h, SafeHead, Delim]
  | (k, v) :: r, rest, h => by
    simp only [toksKvTail, List.cons_append, List.append_assoc, numOk, isNum, false_imp_iff, true_and, SafeHead, Delim, and_true]
    exact numOk_toks v _ (numOk_toksKvTail r rest h).1 (numOk_toksKvTail r rest h).2
end

theorem lex_render_toks (t : Json) : lex (render goEscape (toks t)) = some (toks t) := by
  have hok : numOk (toks t) := by
    have := numOk_toks t [] trivial trivial
    simpa using this
  have := lexAll_render (toks t) (render goEscape (toks t)).length [] hok (render_length _)
  simpa [lex] using this

/-- **bytes → tree inverts tree → bytes**, for every tree, with Go's string escaping -/
theorem parse_ser (t : Json) : parse (ser goEscape t) = some t := by
  simp [parse, ser, lex_render_toks, parseToks_toks]

theorem ser_injective (a b : Json) (h : ser goEscape a = ser goEscape b) : a = b := by
  have ha := parse_ser a
  rw [h, parse_ser b] at ha
  exact (Option.some.inj ha).symm

end Asts.Patch
