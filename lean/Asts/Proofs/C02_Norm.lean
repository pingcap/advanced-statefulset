import Asts.Proofs.C02_Faults
import Asts.Proofs.C02_Idem
import Asts.Proofs.C02_Trunc
import Asts.Proofs.SY_b_Log

/-! C02: normal worlds (every pod object belongs to the set; revisions quiet) and the exact form of one sync + apply on
    them: status written if it differs, unused history beyond the limit deleted, the reconcile's calls applied. -/
namespace Asts.C02p
open Asts Asts.L1c

/-- the `rollingUpdate` block with a partition is present, or the strategy is OnDelete (not the legacy boundary mode) -/
def PartOk (v : SetView) : Prop := v.strat = .onDelete ∨ ∃ p, v.ru = some (some p) ∧ 0 ≤ p

/-- a normal world, whatever the pod management policy and the update strategy -/
structure NormC (h : Hashing) (i : SyncIn) : Prop where
  spec : SpecOk i
  pods : ∀ c ∈ i.pods, c.owner = .self ∧ c.member = true ∧ c.selMatch = true ∧ c.name = canonicalName i.setName c.pod.ord ∧
    0 ≤ c.pod.ord ∧ c.pod.stOk = true ∧ c.pod.created = true
  ords : (i.pods.map (·.pod.ord)).Nodup
  rev : ∃ l, (listedRevs i).getLast? = some l ∧ equalRev l (freshRev h i (listedRevs i)) = true
  noOrphanRev : (listRevisions i.store).any (·.owner == .none) = false
  small : i.pods.length ≤ freshId
  smallR : (replicasOf i.view).toNat ≤ freshId
  gone : i.fresh.gone = false

/-- pod ids are pairwise distinct and below the ids the model gives to new pods (what the proofs need of `IdPos`; it also
    holds of a sublist of a reindexed list) -/
structure IdOk (pods : List CPod) : Prop where
  inj : ∀ a ∈ pods, ∀ b ∈ pods, a.pod.id = b.pod.id → a = b
  lt : ∀ c ∈ pods, c.pod.id < freshId

theorem idOk_of_idPos {pods : List CPod} (hp : IdPos pods) (hl : pods.length ≤ freshId) : IdOk pods := by
  refine ⟨?_, ?_⟩
  · intro a ha b hb hab
    obtain ⟨i, hi⟩ := List.mem_iff_getElem?.1 ha
    obtain ⟨k, hk⟩ := List.mem_iff_getElem?.1 hb
    have h1 := hp i a hi
    have h2 := hp k b hk
    have : i = k := by omega
    subst this
    rw [hi] at hk
    exact Option.some.inj hk
  · intro c hc
    obtain ⟨i, hi⟩ := List.mem_iff_getElem?.1 hc
    have h1 := hp i c hi
    have : i < pods.length := by
      by_contra hge
      rw [List.getElem?_eq_none (by omega)] at hi
      cases hi
    omega

theorem IdOk.sublist {A B : List CPod} (hB : IdOk B) (hs : A.Sublist B) : IdOk A :=
  ⟨fun a ha b hb => hB.inj a (hs.subset ha) b (hs.subset hb), fun c hc => hB.lt c (hs.subset hc)⟩

theorem NormC.ownPods {h : Hashing} {i : SyncIn} (hn : NormC h i) : ownPods i = i.pods := by
  unfold Asts.C02p.ownPods
  rw [List.filter_eq_self]
  intro c hc
  simp [(hn.pods c hc).1]

theorem NormC.noClaimWork {h : Hashing} {i : SyncIn} (hn : NormC h i) : NoClaimWork i.pods := by
  intro c hc
  obtain ⟨h1, h2, h3, -⟩ := hn.pods c hc
  exact ⟨fun _ => by simp [claimDecision, h1, h2, h3], fun hne => absurd h1 hne⟩

theorem NormC.snap {h : Hashing} {i : SyncIn} (hn : NormC h i) (hid : IdPos i.pods) : Snap (i.pods.map (·.pod)) := by
  refine ⟨?_, ?_, ?_, ?_⟩
  · intro p hp
    rw [List.mem_map] at hp
    obtain ⟨c, hc, rfl⟩ := hp
    exact (hn.pods c hc).2.2.2.2.2.2
  · rw [List.map_map]; exact hn.ords
  · intro k p hk
    rw [List.getElem?_map] at hk
    cases hc : i.pods[k]? with
    | none => rw [hc] at hk; cases hk
    | some c =>
      rw [hc] at hk
      simp only [Option.map_some, Option.some.injEq] at hk
      rw [← hk]; exact hid k c hc
  · have := hn.small
    rw [List.length_map]; omega

/-- the update revision the sync of a normal world resolves -/
noncomputable def NormC.updRev {h : Hashing} {i : SyncIn} (hn : NormC h i) : Rev := hn.rev.choose

theorem NormC.updRev_spec {h : Hashing} {i : SyncIn} (hn : NormC h i) :
    (listedRevs i).getLast? = some hn.updRev ∧ equalRev hn.updRev (freshRev h i (listedRevs i)) = true := hn.rev.choose_spec

theorem NormC.updName {h : Hashing} {i : SyncIn} (hn : NormC h i) : updName i = hn.updRev.name := by
  unfold Asts.C02p.updName
  rw [hn.updRev_spec.1]; rfl

/-- the current revision the sync of a normal world resolves -/
noncomputable def NormC.curRev {h : Hashing} {i : SyncIn} (hn : NormC h i) : Rev :=
  ((listedRevs i).find? (·.name == i.stored.currentRev)).getD hn.updRev

/-- the reconcile of a normal world, with the faults that cannot hit -/
noncomputable def NormC.recon {h : Hashing} {i : SyncIn} (hn : NormC h i) : St × Outcome :=
  updateStatefulSet i.view hn.curRev.name hn.updRev.name (i.pods.map (·.pod)) []

/-- the revisions the sync of a normal world deletes as unused history beyond the limit -/
noncomputable def NormC.victims {h : Hashing} {i : SyncIn} (hn : NormC h i) : List Rev :=
  victimsOf (i.historyLimit.getD 0) (i.pods.map (·.pod.rev)) (listedRevs i) hn.curRev hn.updRev

/-- the revisions it keeps -/
noncomputable def NormC.keep {h : Hashing} {i : SyncIn} (hn : NormC h i) (x : Rev) : Bool :=
  !(hn.victims.map (·.name)).contains x.name

theorem actLog_noPatch (setName : String) (pods claimed : List CPod) (b : Int) (E : List Int) (a : Action) :
    ∀ e ∈ actLog setName [] pods claimed b E a, NoPatch e :=
  fun e he => (SYb.actLog_shape setName [] pods claimed b E a e he).keyed.noPatch (by simp)

theorem acts_noPatch (setName : String) (pods claimed : List CPod) (b : Int) (E : List Int) (acts : List Action) :
    ∀ e ∈ (acts.map (actLog setName [] pods claimed b E)).flatten, NoPatch e := by
  intro e he
  obtain ⟨l', hl', hel'⟩ := List.mem_flatten.1 he
  obtain ⟨a, _, rfl⟩ := List.mem_map.1 hl'
  exact actLog_noPatch _ _ _ _ _ a e hel'

theorem dels_noPatch (ds : List Rev) : ∀ e ∈ ds.map (fun r => s!"delete:rev:{r.name}"), NoPatch e := by
  intro e he
  obtain ⟨r, _, rfl⟩ := List.mem_map.1 he
  exact SYa.pre_delete_rev.noPatch (Or.inl (by simp)) _

/-- **the reconcile and the tail of the sync when no call fails**, for any list of claimed pods the derived faults do not
    hit -/
theorem finishF_nilM (j : SyncIn) (claimed : List CPod) (L : List Rev) (cur upd : Rev) (cc : Int) (G : List Rev)
    (l0 : List String)
    (hnohit : NoHit (podFaults j.setName [] j.pods claimed (maxReplicaAndSlots (replicasOf j.view) j.view.slots).1
      (maxReplicaAndSlots (replicasOf j.view) j.view.slots).2)
      (idxOf (maxReplicaAndSlots (replicasOf j.view) j.view.slots).1 (maxReplicaAndSlots (replicasOf j.view) j.view.slots).2))
    (hrep : j.view.replicas = some (replicasOf j.view)) (hgone : j.fresh.gone = false)
    (lim : Int) (hlim : j.historyLimit = some lim)
    (hin : ∀ r ∈ L, G.any (·.name == r.name) = true) (hnd : (L.map (·.name)).Nodup)
    (ro : St × Outcome) (hro : updateStatefulSet j.view cur.name upd.name (claimed.map (·.pod)) [] = ro) (hok : ro.2 = .ok) :
    ∃ lgR, (∀ e ∈ lgR, NoPatch e) ∧
      SYa.finishF j [] claimed L cur upd cc { store := G, tr := { log := l0 } } =
        { log := l0 ++ lgR,
          status := (if inconsistentStatus j.stored (completeRollingUpdate j.view ro.1.status)
                     then some (completeRollingUpdate j.view ro.1.status) else none),
          cc := (if inconsistentStatus j.stored (completeRollingUpdate j.view ro.1.status) then some cc else none),
          store := G.filter (fun x => !((victimsOf lim (claimed.map (·.pod.rev)) L cur upd).map (·.name)).contains x.name),
          cur := cur.name, upd := upd.name, claimed := claimed, acts := ro.1.acts, actsDone := ro.1.acts.length,
          outcome := .ok } := by
  have hrec : updateStatefulSet j.view cur.name upd.name (claimed.map (·.pod))
      (podFaults j.setName [] j.pods claimed (maxReplicaAndSlots (j.view.replicas.getD 0) j.view.slots).1
        (maxReplicaAndSlots (j.view.replicas.getD 0) j.view.slots).2) = ro := by
    have hrep' : j.view.replicas.getD 0 = replicasOf j.view := rfl
    rw [hrep', ← hro]
    exact updateStatefulSet_noHit _ _ _ _ _ (replicasOf j.view) hrep hnohit
  unfold SYa.finishF SYa.reconcileOf SYa.rangeOf
  rw [hrec]
  obtain ⟨st, out⟩ := ro
  simp only at hok
  subst hok
  simp only
  rw [finishCore_ok_trunc j _ _ _ _ _ _ _ hgone lim hlim hin hnd]
  have hlog := acts_noPatch j.setName j.pods claimed (maxReplicaAndSlots (j.view.replicas.getD 0) j.view.slots).1
    (maxReplicaAndSlots (j.view.replicas.getD 0) j.view.slots).2 st.acts
  have hdel := dels_noPatch (victimsOf lim (claimed.map (·.pod.rev)) L cur upd)
  cases inconsistentStatus j.stored (completeRollingUpdate j.view st.status)
  · simp only [Bool.false_eq_true, if_false]
    refine ⟨(st.acts.map (actLog j.setName [] j.pods claimed (maxReplicaAndSlots (j.view.replicas.getD 0) j.view.slots).1
        (maxReplicaAndSlots (j.view.replicas.getD 0) j.view.slots).2)).flatten ++
        (victimsOf lim (claimed.map (·.pod.rev)) L cur upd).map (fun r => s!"delete:rev:{r.name}"), ?_, ?_⟩
    · intro e he
      rw [List.mem_append] at he
      rcases he with he | he
      · exact hlog e he
      · exact hdel e he
    · rw [List.append_assoc]
  · simp only [if_true]
    refine ⟨(st.acts.map (actLog j.setName [] j.pods claimed (maxReplicaAndSlots (j.view.replicas.getD 0) j.view.slots).1
        (maxReplicaAndSlots (j.view.replicas.getD 0) j.view.slots).2)).flatten ++ ["updatestatus"] ++
        (victimsOf lim (claimed.map (·.pod.rev)) L cur upd).map (fun r => s!"delete:rev:{r.name}"), ?_, ?_⟩
    · intro e he
      rw [List.mem_append, List.mem_append] at he
      rcases he with (he | he) | he
      · exact hlog e he
      · simp only [List.mem_singleton] at he; rw [he]; exact noPatch_of_few SYa.few_updatestatus
      · exact hdel e he
    · simp only [List.append_assoc]

/-- what `applySync` makes of the output of a sync that ended `.ok` with all its calls done: status and collision count
    are written when the status differs -/
theorem applySync_ok (i : SyncIn) (lg : List String) (s : Status) (cc : Int) (S : List Rev) (cur upd : String)
    (cl : List CPod) (acts : List Action) :
    applySync i [] { log := lg, status := (if inconsistentStatus i.stored s then some s else none),
                     cc := (if inconsistentStatus i.stored s then some cc else none), store := S, cur := cur, upd := upd,
                     claimed := cl, acts := acts, actsDone := acts.length, outcome := .ok } =
      { i with store := S, stored := (if inconsistentStatus i.stored s then s else i.stored),
               collisionCount := (if inconsistentStatus i.stored s then some cc else i.collisionCount),
               view := { i.view with stCurrentReplicas := (if inconsistentStatus i.stored s then s else i.stored).current },
               pods := reindex (sortPods (applyActs i.setName i.pods (applyPatches [] lg i.pods) acts)) } := by
  unfold applySync
  cases inconsistentStatus i.stored s
  · simp only [Bool.false_eq_true, if_false, Option.getD_none, Option.isSome_none, List.take_length]
  · simp only [if_true, Option.getD_some, Option.isSome_some, List.take_length]

/-- **one sync + apply on a normal world**: the collision count is untouched, the status is the one the reconcile computed
    (when it differs), unused history beyond the limit is deleted from the store, the pods are the old pods with the
    reconcile's calls applied -/
theorem applySync_normC (h : Hashing) (i : SyncIn) (hn : NormC h i) (hok : hn.recon.2 = .ok) :
    applySync i [] (syncF h i []) =
      { i with
        store := i.store.filter hn.keep,
        stored := (if inconsistentStatus i.stored (completeRollingUpdate i.view hn.recon.1.status)
                   then completeRollingUpdate i.view hn.recon.1.status else i.stored),
        collisionCount := (if inconsistentStatus i.stored (completeRollingUpdate i.view hn.recon.1.status)
                   then some (i.collisionCount.getD 0) else i.collisionCount),
        view := { i.view with stCurrentReplicas :=
                   (if inconsistentStatus i.stored (completeRollingUpdate i.view hn.recon.1.status)
                    then completeRollingUpdate i.view hn.recon.1.status else i.stored).current },
        pods := reindex (sortPods (applyActs i.setName i.pods i.pods hn.recon.1.acts)) } ∧
    (syncF h i []).outcome = .ok := by
  obtain ⟨hl, heq⟩ := hn.updRev_spec
  obtain ⟨lim, hlim, _⟩ := hn.spec.lim
  have hsync := syncF_quietRevs h i hn.spec hn.noOrphanRev hn.noClaimWork hn.updRev hl heq
  rw [hn.ownPods] at hsync
  obtain ⟨lgR, hlgR, hfin⟩ := finishF_nilM i i.pods (listedRevs i) hn.curRev hn.updRev (i.collisionCount.getD 0) i.store
    ["list:revs", "list:revs", "list:revs", "list:revs"]
    (podFaults_noHit i.setName i.pods _ _ (fun c hc => (hn.pods c hc).2.2.2.1) hn.ords) hn.spec.rep hn.gone lim hlim
    (fun r hr => List.any_eq_true.2 ⟨r, mem_listedRevs hr, by simp⟩) (listedRevs_names_nodup i) hn.recon rfl hok
  have hcur : (((listedRevs i).find? (·.name == i.stored.currentRev)).getD hn.updRev) = hn.curRev := rfl
  rw [hsync, hcur, hfin]
  refine ⟨?_, rfl⟩
  have hkeep : (fun x : Rev => !((victimsOf lim (i.pods.map (·.pod.rev)) (listedRevs i) hn.curRev hn.updRev).map (·.name)).contains x.name)
      = hn.keep := by
    funext x; unfold NormC.keep NormC.victims; rw [hlim]; rfl
  have hlog : ∀ e ∈ ["list:revs", "list:revs", "list:revs", "list:revs"] ++ lgR, NoPatch e := by
    intro e he
    rcases List.mem_append.1 he with he | he
    · simp only [List.mem_cons, List.not_mem_nil, or_false, or_self] at he
      rw [he]; exact noPatch_of_few SYa.few_list_revs
    · exact hlgR e he
  rw [applySync_ok, applyPatches_noPatch [] _ _ hlog, hkeep]

end Asts.C02p
