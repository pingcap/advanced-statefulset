import Asts.Proofs.SY_b_Revs
import Asts.Proofs.Sync_Phases

/-! `truncateF` (`truncateHistory`): a structured twin `truncDeletes` (the revisions for which a Delete call is issued,
    in order), the lemma that the model's string log is its rendering, and the structural facts behind C13. -/
namespace Asts.SYb
open Asts

theorem foldOk_nil {α β} (b : β) (f : β → α → β × Bool) : foldOk [] b f = (b, true) := rfl

def delKey (r : Rev) : String := s!"delete:rev:{r.name}"

/-- does the Delete call for `r` fail (injected fault, or nothing of that name is stored: NotFound)? -/
def delFails (plan : List Fault) (s : RevSt) (r : Rev) : Bool :=
  (s.tr.call plan (delKey r)).2.isSome || !(s.store.any (·.name == r.name))

/-- one iteration of the loop in `truncateHistory` -/
def delStep (plan : List Fault) (s : RevSt) (r : Rev) : RevSt × Bool :=
  if delFails plan s r then ({ s with tr := (s.tr.call plan (delKey r)).1 }, false)
  else ({ store := s.store.filter (·.name != r.name), tr := (s.tr.call plan (delKey r)).1 }, true)

/-- structured twin of the loop: the revisions for which a Delete call is issued, in order (a failed call is the last) -/
def delCalls (plan : List Fault) : List Rev → RevSt → List Rev
  | [], _ => []
  | r :: rs, s => if (delStep plan s r).2 then r :: delCalls plan rs (delStep plan s r).1 else [r]

theorem delStep_log (plan : List Fault) (s : RevSt) (r : Rev) :
    (delStep plan s r).1.tr.log = s.tr.log ++ [delKey r] := by
  unfold delStep
  split <;> rfl

/-- a Delete that succeeds removes the revisions of that name, of which there is at least one (else it fails: NotFound) -/
theorem delStep_store_ok {plan : List Fault} {s : RevSt} {r : Rev} (h : (delStep plan s r).2 = true) :
    (delStep plan s r).1.store = s.store.filter (fun x => x.name != r.name) ∧ ∃ x ∈ s.store, x.name = r.name := by
  unfold delStep at h ⊢
  by_cases hf : delFails plan s r = true
  · rw [if_pos hf] at h; exact absurd h (by simp)
  · rw [if_neg hf]
    rw [Bool.not_eq_true, delFails, Bool.or_eq_false_iff, Bool.not_eq_false'] at hf
    obtain ⟨x, hx, hxe⟩ := List.any_eq_true.mp hf.2
    exact ⟨rfl, x, hx, beq_iff_eq.mp hxe⟩

theorem delStep_store_fail {plan : List Fault} {s : RevSt} {r : Rev} (h : (delStep plan s r).2 = false) :
    (delStep plan s r).1.store = s.store := by
  unfold delStep at h ⊢
  by_cases hf : delFails plan s r = true
  · rw [if_pos hf]
  · rw [if_neg hf] at h; exact absurd h (by simp)

theorem foldOk_del (plan : List Fault) (vs : List Rev) (s : RevSt) :
    let res := foldOk vs s (delStep plan)
    let calls := delCalls plan vs s
    res.1.tr.log = s.tr.log ++ calls.map delKey ∧
    calls <+: vs ∧
    (res.2 = true → calls = vs) ∧
    (∃ d, d ≤ calls.length ∧ calls.length ≤ d + 1 ∧ (res.2 = true → d = calls.length) ∧
          (res.2 = false → d + 1 = calls.length) ∧
          res.1.store = s.store.filter (fun x => !((calls.take d).map (·.name)).contains x.name)) := by
  induction vs generalizing s with
  | nil =>
    refine ⟨by simp [foldOk_nil, delCalls], by simp [delCalls], by simp [delCalls], 0, by simp [foldOk_nil, delCalls]⟩
  | cons r rs ih =>
    simp only [foldOk_cons, delCalls]
    cases hok : (delStep plan s r).2
    · simp only [Bool.false_eq_true, if_false]
      refine ⟨by rw [delStep_log]; rfl, ⟨rs, rfl⟩, by simp, 0, by simp, by simp, by simp, by simp, ?_⟩
      rw [delStep_store_fail hok]; simp
    · simp only [if_true]
      obtain ⟨h1, h2, h3, d, hd1, hd2, hd3, hd4, hd5⟩ := ih (delStep plan s r).1
      refine ⟨?_, ?_, ?_, d + 1, ?_, ?_, ?_, ?_, ?_⟩
      · rw [h1, delStep_log]; simp
      · exact (List.prefix_cons_inj r).mpr h2
      · intro h; rw [h3 h]
      · simpa using hd1
      · simpa using hd2
      · intro h; simp [hd3 h]
      · intro h; simp [hd4 h]
      · rw [hd5, (delStep_store_ok hok).1, List.filter_filter]
        apply List.filter_congr
        intro x _
        simp only [List.take_succ_cons, List.map_cons, List.contains_cons]
        cases hx : x.name == r.name
        · have : (x.name != r.name) = true := by simp [bne, hx]
          simp [this]
        · have : (x.name != r.name) = false := by simp [bne, hx]
          simp [this]

theorem foldOk_del_present (plan : List Fault) (vs : List Rev) (s : RevSt) (hok : (foldOk vs s (delStep plan)).2 = true)
    (hn : (vs.map (·.name)).Nodup) : ∀ v ∈ vs, ∃ x ∈ s.store, x.name = v.name := by
  induction vs generalizing s with
  | nil => intro v hv; cases hv
  | cons r rs ih =>
    rw [foldOk_cons] at hok
    rw [List.map_cons, List.nodup_cons] at hn
    cases h1 : (delStep plan s r).2
    · rw [h1] at hok; exact absurd hok (by simp)
    · rw [h1] at hok; simp only [if_true] at hok
      intro v hv
      rcases List.mem_cons.mp hv with rfl | hv
      · exact (delStep_store_ok h1).2
      · obtain ⟨x, hx, hxe⟩ := ih _ hok hn.2 v hv
        rw [(delStep_store_ok h1).1, List.mem_filter] at hx
        exact ⟨x, hx.1, hxe⟩

/-- the names the reconcile treats as live -/
def liveOf (podRevs : List String) (cur upd : Rev) : List String := cur.name :: upd.name :: podRevs

/-- the unused revisions of this set among `revs`, in the order of `revs` -/
def historyOf (podRevs : List String) (revs : List Rev) (cur upd : Rev) : List Rev :=
  revs.filter (fun r => !(liveOf podRevs cur upd).contains r.name && r.owner == .self)

/-- the revisions `truncateHistory` intends to delete -/
def victimsOf (lim : Int) (podRevs : List String) (revs : List Rev) (cur upd : Rev) : List Rev :=
  (historyOf podRevs revs cur upd).take ((historyOf podRevs revs cur upd).length - lim.toNat)

/-- structured twin of `truncateF`: the revisions for which a Delete call is issued, in order -/
def truncDeletes (plan : List Fault) (limit : Option Int) (podRevs : List String) (revs : List Rev) (cur upd : Rev)
    (s : RevSt) : List Rev :=
  match limit with
  | none => []
  | some lim =>
    if ((historyOf podRevs revs cur upd).length : Int) ≤ lim then []
    else delCalls plan (victimsOf lim podRevs revs cur upd) s

theorem truncateF_some (plan : List Fault) (lim : Int) (podRevs : List String) (revs : List Rev) (cur upd : Rev) (s : RevSt) :
    truncateF plan (some lim) podRevs revs cur upd s =
      if ((historyOf podRevs revs cur upd).length : Int) ≤ lim then (s, .ok)
      else ((foldOk (victimsOf lim podRevs revs cur upd) s (delStep plan)).1,
            if (foldOk (victimsOf lim podRevs revs cur upd) s (delStep plan)).2 then .ok else .err) := rfl

theorem truncateF_none (plan : List Fault) (podRevs : List String) (revs : List Rev) (cur upd : Rev) (s : RevSt) :
    truncateF plan none podRevs revs cur upd s = (s, .panic "nil *Spec.RevisionHistoryLimit (stateful_set_control.go)") := rfl

/-- the model's string log is the rendering of the structured one -/
theorem truncateF_log (plan : List Fault) (limit : Option Int) (podRevs : List String) (revs : List Rev) (cur upd : Rev)
    (s : RevSt) :
    (truncateF plan limit podRevs revs cur upd s).1.tr.log =
      s.tr.log ++ (truncDeletes plan limit podRevs revs cur upd s).map delKey := by
  cases limit with
  | none => simp [truncateF_none, truncDeletes]
  | some lim =>
    rw [truncateF_some]
    unfold truncDeletes
    simp only
    split
    · simp
    · exact (foldOk_del plan _ s).1

theorem truncDeletes_prefix_victims (plan : List Fault) (lim : Int) (podRevs : List String) (revs : List Rev) (cur upd : Rev)
    (s : RevSt) : truncDeletes plan (some lim) podRevs revs cur upd s <+: victimsOf lim podRevs revs cur upd := by
  unfold truncDeletes
  simp only
  split
  · exact List.nil_prefix
  · exact (foldOk_del plan _ s).2.1

theorem victims_prefix_history (lim : Int) (podRevs : List String) (revs : List Rev) (cur upd : Rev) :
    victimsOf lim podRevs revs cur upd <+: historyOf podRevs revs cur upd := List.take_prefix _ _

theorem mem_historyOf {podRevs : List String} {revs : List Rev} {cur upd r : Rev} :
    r ∈ historyOf podRevs revs cur upd ↔ r ∈ revs ∧ r.owner = .self ∧ r.name ∉ cur.name :: upd.name :: podRevs := by
  unfold historyOf liveOf
  rw [List.mem_filter]
  simp only [Bool.and_eq_true, Bool.not_eq_true', beq_iff_eq]
  constructor
  · rintro ⟨h1, h2, h3⟩
    exact ⟨h1, h3, by simpa using h2⟩
  · rintro ⟨h1, h2, h3⟩
    exact ⟨h1, by simpa using h3, h2⟩

theorem historyOf_names_nodup {podRevs : List String} {revs : List Rev} {cur upd : Rev} (hn : (revs.map (·.name)).Nodup) :
    ((historyOf podRevs revs cur upd).map (·.name)).Nodup :=
  List.Nodup.sublist (List.Sublist.map _ List.filter_sublist) hn

theorem historyOf_sorted {podRevs : List String} {revs : List Rev} {cur upd : Rev} (hs : SortedRevs revs) :
    SortedRevs (historyOf podRevs revs cur upd) :=
  List.Pairwise.sublist List.filter_sublist hs

theorem prefix_pairwise {α} {R : α → α → Prop} {p l : List α} (hp : p <+: l) (hl : l.Pairwise R)
    {v r : α} (hv : v ∈ p) (hr : r ∈ l) (hrn : r ∉ p) : R v r := by
  obtain ⟨t, rfl⟩ := hp
  rw [List.pairwise_append] at hl
  rcases List.mem_append.mp hr with h | h
  · exact absurd h hrn
  · exact hl.2.2 v hv r h

theorem prefix_pairwise' {α} {R : α → α → Prop} {p t : List α} (hl : (p ++ t).Pairwise R)
    {v r : α} (hv : v ∈ p) (hr : r ∈ t) : R v r := by
  rw [List.pairwise_append] at hl
  exact hl.2.2 v hv r hr

theorem truncateF_result (plan : List Fault) (lim : Int) (podRevs : List String) (revs : List Rev) (cur upd : Rev) (s : RevSt) :
    let res := truncateF plan (some lim) podRevs revs cur upd s
    let calls := truncDeletes plan (some lim) podRevs revs cur upd s
    (res.2 = .ok ∨ res.2 = .err) ∧
    (res.2 = .ok → calls = if ((historyOf podRevs revs cur upd).length : Int) ≤ lim then [] else victimsOf lim podRevs revs cur upd) ∧
    (∃ d, d ≤ calls.length ∧ calls.length ≤ d + 1 ∧ (res.2 = .ok → d = calls.length) ∧
          (res.2 = .err → d + 1 = calls.length) ∧
          res.1.store = s.store.filter (fun x => !((calls.take d).map (·.name)).contains x.name)) := by
  intro res calls
  by_cases hle : ((historyOf podRevs revs cur upd).length : Int) ≤ lim
  · have hres : res = (s, .ok) := by simp only [res, truncateF_some, if_pos hle]
    have hcalls : calls = [] := by simp only [calls, truncDeletes, if_pos hle]
    rw [hres, hcalls]
    refine ⟨Or.inl rfl, fun _ => by rw [if_pos hle], 0, by simp, by simp, by simp, by simp, by simp⟩
  · have hres : res = ((foldOk (victimsOf lim podRevs revs cur upd) s (delStep plan)).1,
            if (foldOk (victimsOf lim podRevs revs cur upd) s (delStep plan)).2 then .ok else .err) := by
      simp only [res, truncateF_some, if_neg hle]
    have hcalls : calls = delCalls plan (victimsOf lim podRevs revs cur upd) s := by
      simp only [calls, truncDeletes, if_neg hle]
    obtain ⟨_, _, h3, d, hd1, hd2, hd3, hd4, hd5⟩ := foldOk_del plan (victimsOf lim podRevs revs cur upd) s
    rw [hres, hcalls, if_neg hle]
    cases hok : (foldOk (victimsOf lim podRevs revs cur upd) s (delStep plan)).2
    · refine ⟨Or.inr (by simp), by simp, d, hd1, hd2, by simp, fun _ => hd4 hok, hd5⟩
    · refine ⟨Or.inl (by simp), fun _ => h3 hok, d, hd1, hd2, fun _ => hd3 hok, by simp, hd5⟩

theorem truncDeletes_prefix_history (plan : List Fault) (limit : Option Int) (podRevs : List String) (revs : List Rev)
    (cur upd : Rev) (s : RevSt) :
    truncDeletes plan limit podRevs revs cur upd s <+: historyOf podRevs revs cur upd := by
  cases limit with
  | none => exact List.nil_prefix
  | some lim => exact (truncDeletes_prefix_victims plan lim podRevs revs cur upd s).trans (victims_prefix_history _ _ _ _ _)

theorem truncDeletes_mem {plan : List Fault} {limit : Option Int} {podRevs : List String} {revs : List Rev}
    {cur upd : Rev} {s : RevSt} {r : Rev} (h : r ∈ truncDeletes plan limit podRevs revs cur upd s) :
    r ∈ revs ∧ r.owner = .self ∧ r.name ∉ cur.name :: upd.name :: podRevs :=
  mem_historyOf.mp ((truncDeletes_prefix_history plan limit podRevs revs cur upd s).subset h)

theorem truncDeletes_names_nodup {plan : List Fault} {limit : Option Int} {podRevs : List String} {revs : List Rev}
    {cur upd : Rev} {s : RevSt} (hn : (revs.map (·.name)).Nodup) :
    ((truncDeletes plan limit podRevs revs cur upd s).map (·.name)).Nodup :=
  List.Nodup.sublist (List.Sublist.map _ (truncDeletes_prefix_history plan limit podRevs revs cur upd s).sublist)
    (historyOf_names_nodup hn)

theorem victimsOf_length (lim : Int) (podRevs : List String) (revs : List Rev) (cur upd : Rev) :
    (victimsOf lim podRevs revs cur upd).length = (historyOf podRevs revs cur upd).length - lim.toNat := by
  unfold victimsOf
  rw [List.length_take]
  omega

theorem truncDeletes_length_le (plan : List Fault) (lim : Int) (podRevs : List String) (revs : List Rev)
    (cur upd : Rev) (s : RevSt) :
    (truncDeletes plan (some lim) podRevs revs cur upd s).length ≤ (historyOf podRevs revs cur upd).length - lim.toNat := by
  rw [← victimsOf_length]
  exact (truncDeletes_prefix_victims plan lim podRevs revs cur upd s).length_le

theorem truncDeletes_ne_nil {plan : List Fault} {limit : Option Int} {podRevs : List String} {revs : List Rev}
    {cur upd : Rev} {s : RevSt} (h : truncDeletes plan limit podRevs revs cur upd s ≠ []) :
    ∃ lim, limit = some lim ∧ lim < ((historyOf podRevs revs cur upd).length : Int) := by
  cases limit with
  | none => exact absurd rfl h
  | some lim =>
    refine ⟨lim, rfl, ?_⟩
    by_contra hle
    apply h
    unfold truncDeletes
    simp only
    rw [if_pos (not_lt.mp hle)]

theorem count_names_le {l : List Rev} (hn : (l.map (·.name)).Nodup) (N : List String) :
    (l.filter (fun x => N.contains x.name)).length ≤ N.length := by
  have h1 : ((l.filter (fun x => N.contains x.name)).map (·.name)).Nodup :=
    List.Nodup.sublist (List.Sublist.map _ List.filter_sublist) hn
  have h2 : (l.filter (fun x => N.contains x.name)).map (·.name) ⊆ N := by
    intro n hn'
    obtain ⟨x, hx, rfl⟩ := List.mem_map.mp hn'
    rw [List.mem_filter] at hx
    simpa using hx.2
  have := (List.Nodup.subperm h1 h2).length_le
  simpa using this

/-- after a successful `truncateF` at most `lim` (0 for a negative limit) of the history revisions are still stored -/
theorem truncateF_ok_left (plan : List Fault) (lim : Int) (podRevs : List String) (revs : List Rev) (cur upd : Rev) (s : RevSt)
    (hstore : (s.store.map (·.name)).Nodup)
    (hok : (truncateF plan (some lim) podRevs revs cur upd s).2 = .ok) :
    ((truncateF plan (some lim) podRevs revs cur upd s).1.store.filter
        (fun x => ((historyOf podRevs revs cur upd).map (·.name)).contains x.name)).length ≤ lim.toNat := by
  obtain ⟨_, hcalls, d, _, _, hd3, _, hst⟩ := truncateF_result plan lim podRevs revs cur upd s
  have hd := hd3 hok
  have hc := hcalls hok
  rw [hst, hd, List.take_length, hc]
  by_cases hle : ((historyOf podRevs revs cur upd).length : Int) ≤ lim
  · rw [if_pos hle]
    simp only [List.map_nil, List.contains_nil, Bool.not_false, List.filter_true]
    have := count_names_le hstore ((historyOf podRevs revs cur upd).map (·.name))
    rw [List.length_map] at this
    omega
  · rw [if_neg hle, List.filter_filter]
    set H := historyOf podRevs revs cur upd with hH
    set k := H.length - lim.toNat with hk
    have hsplit : H = victimsOf lim podRevs revs cur upd ++ H.drop k := by
      unfold victimsOf; rw [← hH, ← hk]; exact (List.take_append_drop k H).symm
    have hsub : ∀ x : Rev,
        (((H.map (·.name)).contains x.name && !((victimsOf lim podRevs revs cur upd).map (·.name)).contains x.name) = true) →
        (((H.drop k).map (·.name)).contains x.name = true) := by
      intro x hx
      simp only [Bool.and_eq_true, List.contains_iff_mem, Bool.not_eq_true', ← Bool.not_eq_true] at hx
      obtain ⟨h1, h2⟩ := hx
      rw [hsplit, List.map_append, List.mem_append] at h1
      rcases h1 with h1 | h1
      · exact absurd h1 h2
      · simpa using h1
    have hmono : (s.store.filter (fun a => ((H.map (·.name)).contains a.name &&
          !((victimsOf lim podRevs revs cur upd).map (·.name)).contains a.name))).length ≤
        (s.store.filter (fun x => ((H.drop k).map (·.name)).contains x.name)).length := by
      apply List.Sublist.length_le
      apply List.monotone_filter_right
      exact hsub
    have := count_names_le hstore ((H.drop k).map (·.name))
    rw [List.length_map, List.length_drop] at this
    omega

/-- the victims are the oldest: with distinct names they are strictly older than every surviving history revision -/
theorem truncDeletes_oldest_strict {plan : List Fault} {limit : Option Int} {podRevs : List String} {revs : List Rev}
    {cur upd : Rev} {s : RevSt} (hs : SortedRevs revs) (hn : (revs.map (·.name)).Nodup) {v r : Rev}
    (hv : v ∈ truncDeletes plan limit podRevs revs cur upd s) (hr : r ∈ historyOf podRevs revs cur upd)
    (hrn : r ∉ truncDeletes plan limit podRevs revs cur upd s) : revLt v r = true :=
  prefix_pairwise (R := fun a b => revLt a b = true) (truncDeletes_prefix_history plan limit podRevs revs cur upd s)
    (sorted_strict (historyOf_sorted hs) (historyOf_names_nodup hn)) hv hr hrn

/-- the store only shrinks, and only by names for which a Delete was issued -/
theorem truncateF_store (plan : List Fault) (limit : Option Int) (podRevs : List String) (revs : List Rev) (cur upd : Rev)
    (s : RevSt) :
    (truncateF plan limit podRevs revs cur upd s).1.store.Sublist s.store ∧
    ∀ x ∈ s.store, x.name ∉ (truncDeletes plan limit podRevs revs cur upd s).map (·.name) →
      x ∈ (truncateF plan limit podRevs revs cur upd s).1.store := by
  cases limit with
  | none => rw [truncateF_none]; exact ⟨List.Sublist.refl _, fun x hx _ => hx⟩
  | some lim =>
    obtain ⟨_, _, d, _, _, _, _, hst⟩ := truncateF_result plan lim podRevs revs cur upd s
    rw [hst]
    refine ⟨List.filter_sublist, ?_⟩
    intro x hx hxn
    rw [List.mem_filter]
    refine ⟨hx, ?_⟩
    simp only [Bool.not_eq_true', ← Bool.not_eq_true, List.contains_iff_mem]
    intro hmem
    apply hxn
    obtain ⟨y, hy, hye⟩ := List.mem_map.mp hmem
    exact List.mem_map.mpr ⟨y, List.mem_of_mem_take hy, hye⟩

/-- never loses a live revision: whatever is named by `cur`, `upd` or a pod label is still stored afterwards -/
theorem truncateF_keeps_live (plan : List Fault) (limit : Option Int) (podRevs : List String) (revs : List Rev) (cur upd : Rev)
    (s : RevSt) {x : Rev} (hx : x ∈ s.store) (hlive : x.name ∈ cur.name :: upd.name :: podRevs) :
    x ∈ (truncateF plan limit podRevs revs cur upd s).1.store := by
  apply (truncateF_store plan limit podRevs revs cur upd s).2 x hx
  intro hmem
  obtain ⟨y, hy, hye⟩ := List.mem_map.mp hmem
  exact (truncDeletes_mem hy).2.2 (hye ▸ hlive)

/-- … nor one that is not this set's, or not listed -/
theorem truncateF_keeps_foreign (plan : List Fault) (limit : Option Int) (podRevs : List String) (revs : List Rev) (cur upd : Rev)
    (s : RevSt) {x : Rev} (hx : x ∈ s.store) (hf : ∀ r ∈ revs, r.name = x.name → r.owner ≠ .self) :
    x ∈ (truncateF plan limit podRevs revs cur upd s).1.store := by
  apply (truncateF_store plan limit podRevs revs cur upd s).2 x hx
  intro hmem
  obtain ⟨y, hy, hye⟩ := List.mem_map.mp hmem
  exact hf y (truncDeletes_mem hy).1 hye (truncDeletes_mem hy).2.1

end Asts.SYb
