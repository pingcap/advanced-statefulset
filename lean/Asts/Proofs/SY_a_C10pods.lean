import Mathlib.Tactic
import Asts.Proofs.SY_a_Check
import Asts.Proofs.SY_a_Annot
import Asts.Proofs.SY_a_Reconcile

/-! # SY_a — the monitor `C10pods` holds on the model -/

namespace Asts.SYa
open Asts

/-- well-formedness of the pod snapshot that `C10pods` needs -/
structure PodsWf (i : SyncIn) : Prop where
  /-- pod names are unique (one namespace of the API) -/
  names : (i.pods.map (·.name)).Nodup
  /-- the ordinal recorded for a pod is the one its name shows (the model carries name and ordinal separately) -/
  ordOfName : ∀ c ∈ i.pods, ∀ o, c.name = canonicalName i.setName o → c.pod.ord = o
  /-- a pod this set may claim (member, matching, not controlled by somebody else) has its canonical name -/
  canonical : ∀ c ∈ i.pods, c.member = true → c.selMatch = true → c.owner ≠ .other →
    c.name = canonicalName i.setName c.pod.ord

/-- the common case: every pod of the snapshot carries the canonical name of its ordinal, names distinct -/
theorem PodsWf.of_canonical {i : SyncIn} (hn : (i.pods.map (·.name)).Nodup)
    (hc : ∀ c ∈ i.pods, c.name = canonicalName i.setName c.pod.ord) : PodsWf i where
  names := hn
  ordOfName := fun c hcm o h => canonicalName_injective i.setName (by rw [← hc c hcm, h])
  canonical := fun c hcm _ _ _ => hc c hcm

/-- the body of `C10pods` for one annotated entry -/
def podCheck (i : SyncIn) (ann : List (Entry × Nat × Option ErrKind)) (e : Entry) (idx : Nat) : Bool :=
    if e.res == "pod" && e.verb == "patch" then
      match i.pods.find? (·.name == e.name) with
      | none => false
      | some c =>
        match c.owner with
        | .other => false
        | .none =>
          c.selMatch && c.member && !c.pod.terminating && !i.view.deleting && freshOk i.fresh &&
          ann.any (fun (g, j, k) => g.verb == "get" && g.res == "set" && j < idx && k.isNone)
        | .self => !(c.selMatch && c.member) && !i.view.deleting
    else if e.res == "pod" && (e.verb == "delete" || e.verb == "update") then
      match i.pods.find? (·.name == e.name) with
      | none => true
      | some c =>
        c.owner != .other && c.selMatch && c.member &&
        (c.owner == .self || ann.any (fun (g, j, k) => g.verb == "patch" && g.res == "pod" && g.name == e.name && j < idx && k.isNone))
    else true

theorem C10pods_eq (i : SyncIn) (plan : List Fault) (o : SyncObs) :
    C10pods i plan o = (annotate plan o.log).all (fun x => podCheck i (annotate plan o.log) x.1 x.2.1) := rfl

theorem podCheck_not_pod (i : SyncIn) (ann) (e : Entry) (idx : Nat) (h : e.res ≠ "pod") :
    podCheck i ann e idx = true := by
  simp [podCheck, h]

theorem podCheck_key_not_pod (i : SyncIn) (ann) (idx : Nat) {pre v r : String} (h : Pre3 pre v r) (hr : r ≠ "pod")
    (n : String) : podCheck i ann (parseEntry (pre ++ n)) idx = true :=
  check_key h n (fun e => podCheck i ann e idx) (fun _ => podCheck_not_pod i ann _ idx hr)
    (fun _ => podCheck_not_pod i ann _ idx (show ("" : String) ≠ "pod" by decide))

theorem annotate_any {plan : List Fault} {log : List String} {Q : Entry × Nat × Option ErrKind → Bool}
    {pre g post} (hlog : log = pre ++ g :: post)
    (hq : Q (parseEntry g, pre.length, look plan g (occIn pre g)) = true) : (annotate plan log).any Q = true :=
  List.any_eq_true.2 ⟨_, (mem_annotate plan log _).2 ⟨pre, g, post, hlog, rfl⟩, hq⟩

theorem find_name_eq {i : SyncIn} (wf : PodsWf i) {c : CPod} (hc : c ∈ i.pods) :
    i.pods.find? (·.name == c.name) = some c := by
  cases hf : i.pods.find? (fun x => x.name == c.name) with
  | none =>
    have := List.find?_eq_none.1 hf c hc
    simp at this
  | some x =>
    have hx : x ∈ i.pods := List.mem_of_find?_eq_some hf
    have hn : x.name = c.name := by simpa using List.find?_some hf
    rw [List.inj_on_of_nodup_map wf.names hx hc hn]

/-- where an element of `A ++ B ++ C` lies -/
theorem split3 {α : Type _} {A B C pre post : List α} {e : α} (h : A ++ B ++ C = pre ++ e :: post) :
    (∃ b, A = pre ++ e :: b) ∨ (∃ a b, B = a ++ e :: b ∧ pre = A ++ a) ∨
    (∃ a b, C = a ++ e :: b ∧ pre = A ++ B ++ a) := by
  rw [List.append_assoc] at h
  rcases List.append_eq_append_iff.1 h with ⟨a', hpre, hBC⟩ | ⟨c', hA, hc'⟩
  · -- pre = A ++ a'
    rcases List.append_eq_append_iff.1 hBC with ⟨a'', ha', hC⟩ | ⟨c'', hB, hc''⟩
    · -- a' = B ++ a''
      right; right
      exact ⟨a'', post, hC, by rw [hpre, ha', List.append_assoc]⟩
    · cases c'' with
      | nil =>
        simp only [List.append_nil] at hB
        simp only [List.nil_append] at hc''
        right; right
        exact ⟨[], post, hc''.symm ▸ rfl, by rw [hpre, hB]; simp⟩
      | cons x xs =>
        simp only [List.cons_append, List.cons.injEq] at hc''
        right; left
        exact ⟨a', xs, by rw [hB, hc''.1], hpre⟩
  · cases c' with
    | nil =>
      simp only [List.append_nil] at hA
      simp only [List.nil_append] at hc'
      -- e is the head of B ++ C
      cases B with
      | nil =>
        right; right
        exact ⟨[], post, by simpa using hc'.symm, by simp [hA]⟩
      | cons x xs =>
        simp only [List.cons_append, List.cons.injEq] at hc'
        right; left
        exact ⟨[], xs, by simp [hc'.1], by simp [hA]⟩
    | cons x xs =>
      simp only [List.cons_append, List.cons.injEq] at hc'
      left
      exact ⟨xs, by rw [hA, hc'.1]⟩

/-- what is known of a claimed pod, seen from position `idx` of `log` -/
def ClaimedFact (i : SyncIn) (plan : List Fault) (log : List String) (idx : Nat) (q : CPod) : Prop :=
  q ∈ i.pods ∧ q.selMatch = true ∧ q.member = true ∧ q.owner ≠ .other ∧
  (q.owner = .self ∨ ∃ pre' post', log = pre' ++ ("patch:pod:" ++ q.name) :: post' ∧ pre'.length < idx ∧
      look plan ("patch:pod:" ++ q.name) (occIn pre' ("patch:pod:" ++ q.name)) = none)

theorem podCheck_write_of_claimed {i : SyncIn} (wf : PodsWf i) {plan : List Fault} {log : List String} {idx : Nat}
    {c0 : CPod} (hn : NoColon c0.name) (hfact : ClaimedFact i plan log idx c0) (v : String)
    (hv : v = "delete" ∨ v = "update") :
    podCheck i (annotate plan log) { verb := v, res := "pod", name := c0.name } idx = true := by
  obtain ⟨hc0, hsel, hmem, hown, hpatch⟩ := hfact
  have hv1 : (v == "patch") = false := by rcases hv with rfl | rfl <;> decide
  have hv2 : (v == "delete" || v == "update") = true := by rcases hv with rfl | rfl <;> decide
  unfold podCheck
  simp only [hv1, hv2, beq_self_eq_true, Bool.and_false, Bool.false_eq_true, if_false, Bool.and_true, if_true,
    find_name_eq wf hc0, hsel, hmem]
  have h1 : (c0.owner != Owner.other) = true := by simpa using hown
  rw [h1]
  simp only [Bool.true_and]
  rcases hpatch with hs | ⟨pre', post', hlog, hlt, hlook⟩
  · simp [hs]
  · rw [Bool.or_eq_true]; right
    refine annotate_any hlog ?_
    rw [parseEntry_pre3 pre_patch_pod _ hn, hlook]
    simp [hlt]

theorem hit_of_mem {f : Faults} {verb : Nat} {o : Int} (h : (verb, o) ∈ f) : f.hit verb o = true := by
  simp [Faults.hit, h]

theorem squat_mem (setName : String) (plan : List Fault) (pods claimed : List CPod) (b : Int) (E : List Int)
    {c : CPod} (hc : c ∈ pods) (hname : c.name = canonicalName setName c.pod.ord)
    (hnot : (claimed.any (·.pod.id == c.pod.id) &&
      ((occupantAt claimed b E c.pod.ord).map (·.pod.id)) == some c.pod.id) = false) :
    (0, c.pod.ord) ∈ podFaults setName plan pods claimed b E := by
  unfold podFaults
  simp only
  refine List.mem_append_right _ (List.mem_map.2 ⟨c, List.mem_filter.2 ⟨hc, ?_⟩, rfl⟩)
  simp only [hname, beq_self_eq_true, Bool.true_and, Bool.not_eq_true']
  exact hnot

theorem occupantAt_some {claimed : List CPod} {b : Int} {E : List Int} {o : Int} {q : CPod}
    (h : occupantAt claimed b E o = some q) : q ∈ claimed ∧ q.pod.ord = o := by
  unfold occupantAt at h
  have hm := List.mem_of_getLast? h
  obtain ⟨h1, h2⟩ := List.mem_filter.1 hm
  simp only [Bool.and_eq_true, beq_iff_eq] at h2
  exact ⟨h1, h2.1⟩

theorem reconcileOf_eq (i : SyncIn) (plan : List Fault) (claimed : List CPod) (cur upd : Rev) :
    reconcileOf i plan claimed cur upd =
      updateStatefulSet i.view cur.name upd.name (claimed.map (·.pod))
        (podFaults i.setName plan i.pods claimed (rangeOf i).1 (rangeOf i).2) := rfl

/-- **pod-control entries**: every `delete:pod:` / `update:pod:` entry whose name is held by a pod of the snapshot names
    a claimed pod -/
theorem podCheck_act {i : SyncIn} (wf : PodsWf i) (plan : List Fault) (claimed : List CPod) (cur upd : Rev)
    (log : List String) (idx : Nat) (hcl : ∀ q ∈ claimed, ClaimedFact i plan log idx q)
    {a : Action} (ha : a ∈ (reconcileOf i plan claimed cur upd).1.acts) {e : String}
    (he : e ∈ actLog i.setName plan i.pods claimed (rangeOf i).1 (rangeOf i).2 a) :
    podCheck i (annotate plan log) (parseEntry e) idx = true := by
  rw [reconcileOf_eq] at ha
  -- a name held by a snapshot pod that turns out to be claimed
  have key : ∀ (v : String), v = "delete" ∨ v = "update" → ∀ n : String, NoColon n →
      (∀ c0 ∈ i.pods, c0.name = n → c0 ∈ claimed) →
      podCheck i (annotate plan log) { verb := v, res := "pod", name := n } idx = true := by
    intro v hv n hn hcl'
    cases hf : i.pods.find? (fun x => x.name == n) with
    | none =>
      have hv1 : (v == "patch") = false := by rcases hv with rfl | rfl <;> decide
      have hv2 : (v == "delete" || v == "update") = true := by rcases hv with rfl | rfl <;> decide
      unfold podCheck
      simp [hv1, hv2, hf]
    | some c0 =>
      have hc0 : c0 ∈ i.pods := List.mem_of_find?_eq_some hf
      have hn0 : c0.name = n := by simpa using List.find?_some hf
      subst hn0
      exact podCheck_write_of_claimed wf hn (hcl c0 (hcl' c0 hc0 rfl)) v hv
  cases a with
  | create o rv =>
    simp only [actLog, List.mem_singleton] at he
    subst he
    refine check_key pre_create_pod _ (fun e => podCheck i (annotate plan log) e idx) ?_
      (fun _ => podCheck_not_pod i _ _ idx (show ("" : String) ≠ "pod" by decide))
    intro _
    simp [podCheck]
  | update o =>
    simp only [actLog] at he
    obtain rfl := (List.mem_replicate.1 he).2
    refine check_key pre_update_pod _ (fun e => podCheck i (annotate plan log) e idx) ?_
      (fun _ => podCheck_not_pod i _ _ idx (show ("" : String) ≠ "pod" by decide))
    intro hn
    refine key "update" (Or.inr rfl) _ hn ?_
    intro c0 hc0 hname
    replace hname : c0.name = canonicalName i.setName o := hname
    -- the reconcile updates only an ordinal held by a claimed pod
    obtain ⟨p, hp, hpo⟩ := uss_update_has_pod _ _ _ _ _ ha
    obtain ⟨q, hq, rfl⟩ := List.mem_map.1 hp
    obtain ⟨hqm, hqs, hqmem, hqo, _⟩ := hcl q hq
    have hqn : q.name = canonicalName i.setName o := by rw [wf.canonical q hqm hqmem hqs hqo, hpo]
    have : q = c0 := List.inj_on_of_nodup_map wf.names hqm hc0 (by rw [hqn, hname])
    rw [← this]; exact hq
  | delete o id w =>
    simp only [actLog, List.mem_singleton] at he
    subst he
    refine check_key pre_delete_pod _ (fun e => podCheck i (annotate plan log) e idx) ?_
      (fun _ => podCheck_not_pod i _ _ idx (show ("" : String) ≠ "pod" by decide))
    intro hn
    refine key "delete" (Or.inl rfl) _ hn ?_
    intro c0 hc0 hname
    replace hname : c0.name = actName i.setName claimed (.delete o id w) := hname
    simp only [actName] at hname
    cases hfind : claimed.find? (fun x => x.pod.id == id) with
    | some q' =>
      rw [hfind] at hname
      simp only [Option.map_some, Option.getD_some] at hname
      have hq' : q' ∈ claimed := List.mem_of_find?_eq_some hfind
      have : q' = c0 := List.inj_on_of_nodup_map wf.names (hcl q' hq').1 hc0 hname.symm
      rw [← this]; exact hq'
    | none =>
      rw [hfind] at hname
      simp only [Option.map_none, Option.getD_none] at hname
      -- no claimed pod has this id: the delete targets the object created earlier in this reconcile
      obtain ⟨pre, post, hl⟩ := List.append_of_mem ha
      have h0 := uss_seg i.view cur.name upd.name (claimed.map (·.pod))
        (podFaults i.setName plan i.pods claimed (rangeOf i).1 (rangeOf i).2)
      have hJ := SegOK.at h0 hl
      have hno : ¬ ∃ p ∈ claimed.map (·.pod), p.id = id := by
        rintro ⟨p, hp, hpid⟩
        obtain ⟨q, hq, rfl⟩ := List.mem_map.1 hp
        have := List.find?_eq_none.1 hfind q hq
        simp [hpid] at this
      have hcreate : ∃ rev, Action.create o rev ∈ pre := by
        cases w with
        | replaceFailed =>
          obtain ⟨⟨p, hp, hpid, _⟩, _⟩ := hJ
          exact absurd ⟨p, hp, hpid⟩ hno
        | scaleDown =>
          obtain ⟨p, hp, hpid, _⟩ := hJ
          exact absurd ⟨p, hp, hpid⟩ hno
        | update =>
          obtain ⟨_, _, _, h4⟩ := hJ
          rcases h4 with ⟨p, hp, hpid, _⟩ | ⟨_, rev, _, hmem⟩
          · exact absurd ⟨p, hp, hpid⟩ hno
          · exact ⟨rev, by simpa using hmem⟩
      obtain ⟨rev, hrev⟩ := hcreate
      obtain ⟨pre1, post1, rfl⟩ := List.append_of_mem hrev
      have hunf := uss_faulted_create_last i.view cur.name upd.name (claimed.map (·.pod))
        (podFaults i.setName plan i.pods claimed (rangeOf i).1 (rangeOf i).2)
        (pre := pre1) (post := post1 ++ Action.delete o id w :: post) (o := o) (rev := rev)
        (by rw [hl]; simp) (by simp)
      -- the snapshot pod holding the canonical name either squats (then the create was faulted) or is the claimed occupant
      have hord : c0.pod.ord = o := wf.ordOfName c0 hc0 o hname
      by_contra hnc
      have hsquat : (claimed.any (·.pod.id == c0.pod.id) &&
          ((occupantAt claimed (rangeOf i).1 (rangeOf i).2 c0.pod.ord).map (·.pod.id)) == some c0.pod.id) = false := by
        by_contra hcon
        have hcon' : (claimed.any (·.pod.id == c0.pod.id) &&
          ((occupantAt claimed (rangeOf i).1 (rangeOf i).2 c0.pod.ord).map (·.pod.id)) == some c0.pod.id) = true := by
          simpa only [Bool.not_eq_false] using hcon
        simp only [Bool.and_eq_true, beq_iff_eq] at hcon'
        cases hocc : occupantAt claimed (rangeOf i).1 (rangeOf i).2 c0.pod.ord with
        | none => rw [hocc] at hcon'; simp at hcon'
        | some q =>
          obtain ⟨hq, hqo⟩ := occupantAt_some hocc
          obtain ⟨hqm, hqs, hqmem, hqown, _⟩ := hcl q hq
          have hqn : q.name = c0.name := by
            rw [wf.canonical q hqm hqmem hqs hqown, hqo, hord, hname]
          have : q = c0 := List.inj_on_of_nodup_map wf.names hqm hc0 hqn
          exact hnc (this ▸ hq)
      have hm := squat_mem i.setName plan i.pods claimed (rangeOf i).1 (rangeOf i).2 hc0
        (by rw [hord]; exact hname) hsquat
      rw [hord] at hm
      rw [hit_of_mem hm] at hunf
      cases hunf

/-- the patch of a pod in the claim pass passes the check -/
theorem podCheck_claim_patch {i : SyncIn} (wf : PodsWf i) (plan : List Fault) (L0 : List String) (evs : List CEv)
    (tail : List String) {claimed : List CPod} {memo : Option Bool}
    (I : ClaimInv plan i.view.deleting i.fresh i.pods L0 (L0 ++ evs.map CEv.key) claimed memo evs)
    {a' b' : List CEv} {c : CPod} (hev : evs = a' ++ .patch c :: b') :
    podCheck i (annotate plan (L0 ++ evs.map CEv.key ++ tail)) { verb := "patch", res := "pod", name := c.name }
      (L0 ++ a'.map CEv.key).length = true := by
  have hmem : CEv.patch c ∈ evs := by rw [hev]; simp
  obtain ⟨hc, hdec⟩ : c ∈ i.pods ∧ (claimDecision i.view.deleting c = .release ∨ claimDecision i.view.deleting c = .adopt) := by
    rcases I.shape _ hmem with h | ⟨c', hc', heq, hdec⟩
    · cases h
    · obtain rfl : c = c' := by simpa using heq
      exact ⟨hc', hdec⟩
  unfold podCheck
  simp only [beq_self_eq_true, Bool.and_self, if_true, find_name_eq wf hc]
  rcases hdec with hdec | hdec
  · obtain ⟨ho, hnm, hd⟩ := (claimDecision_release_iff _ c).1 hdec
    simp only [ho, hd]
    have : (c.selMatch && c.member) = false := by
      simpa using hnm
    simp [this]
  · obtain ⟨ho, hsel, hmm, hterm, hd⟩ := (claimDecision_adopt_iff _ c).1 hdec
    obtain ⟨_, p1, p2, hp, hlook, hg, hu, hdl⟩ := I.adopt_confirmed hev ho
    simp only [ho, hsel, hmm, hterm, hd, freshOk, hg, hu, hdl, Bool.not_false, Bool.and_self, Bool.true_and]
    refine annotate_any (pre := L0 ++ p1.map CEv.key) (g := "get:set")
      (post := p2.map CEv.key ++ (CEv.patch c).key :: b'.map CEv.key ++ tail) ?_ ?_
    · rw [hev, hp]; simp [CEv.key]
    · rw [parseEntry_get_set, hlook, hp]
      simp

theorem C10pods_holds (h : Hashing) (i : SyncIn) (plan : List Fault) (wf : PodsWf i) :
    C10pods i plan (syncF h i plan).observe = true := by
  rw [C10pods_eq]
  show (annotate plan (syncF h i plan).log).all
    (fun x => podCheck i (annotate plan (syncF h i plan).log) x.1 x.2.1) = true
  rw [List.all_eq_true]
  intro x hx
  obtain ⟨pre, e, post, hlog, rfl⟩ := (mem_annotate plan _ x).1 hx
  simp only
  obtain ⟨L0, evs, tail, st1, hS⟩ := syncF_split h i plan
  rw [hS.log_eq] at hlog ⊢
  have hnp : ∀ p : Entry, p.res ≠ "pod" →
      podCheck i (annotate plan (L0 ++ evs.map CEv.key ++ tail)) p pre.length = true :=
    fun p hp => podCheck_not_pod i _ p _ hp
  rcases split3 hlog with ⟨b, hA⟩ | ⟨a, b, hB, hpre⟩ | ⟨a, b, hC, hpre⟩
  · -- an entry of the adoption phase
    rcases (hS.head e (by rw [hA]; simp)).2 with rfl | rfl | ⟨r, _, _, _, rfl⟩ | ⟨r, _, _, rfl⟩
    · rw [parseEntry_list_revs]; exact hnp _ (by decide)
    · rw [parseEntry_get_set]; exact hnp _ (by decide)
    · exact podCheck_key_not_pod i _ _ pre_update_rev (by decide) r.name
    · exact podCheck_key_not_pod i _ _ pre_patch_rev (by decide) r.name
  · -- an entry of the claim pass
    obtain ⟨a', rest, hev, ha', hrest⟩ := List.map_eq_append_iff.1 hB
    obtain ⟨ev, b', rfl, hkey, hb'⟩ := List.map_eq_cons_iff.1 hrest
    have hne : ¬(evs = []) := by rw [hev]; simp
    rcases hS.claim with ⟨h1, _⟩ | ⟨I, _⟩
    · exact absurd h1 hne
    cases ev with
    | getSet =>
      rw [← hkey]
      show podCheck i _ (parseEntry "get:set") _ = true
      rw [parseEntry_get_set]; exact hnp _ (by decide)
    | patch c =>
      rw [← hkey]
      show podCheck i _ (parseEntry ("patch:pod:" ++ c.name)) _ = true
      refine check_key pre_patch_pod c.name (fun p => podCheck i _ p pre.length) ?_
        (fun _ => hnp _ (show ("" : String) ≠ "pod" by decide))
      intro _
      rw [hpre, ← ha']
      exact podCheck_claim_patch wf plan L0 evs tail I hev
  · -- an entry after the claim pass
    rcases hS.tail_ok e (by rw [hC]; simp) with rfl | hg | rfl | ⟨r, _, _, rfl⟩ | ⟨act, hact, he⟩
    · rw [parseEntry_list_revs]; exact hnp _ (by decide)
    · rcases hg with ⟨r, _, rfl⟩ | ⟨n, rfl⟩ | ⟨n, rfl⟩
      · exact podCheck_key_not_pod i _ _ pre_update_rev (by decide) r.name
      · exact podCheck_key_not_pod i _ _ pre_get_rev (by decide) n
      · exact podCheck_key_not_pod i _ _ pre_create_rev (by decide) n
    · rw [parseEntry_updatestatus]; exact hnp _ (by decide)
    · exact podCheck_key_not_pod i _ _ pre_delete_rev (by decide) r.name
    · -- a pod-control call
      have hane : (syncF h i plan).acts ≠ [] := by intro h0; rw [h0] at hact; cases hact
      obtain ⟨cur, upd, hacts⟩ : ∃ cur upd, (syncF h i plan).acts =
          (reconcileOf i plan (syncF h i plan).claimed cur upd).1.acts := by
        rcases hS.hacts with h0 | h0
        · exact absurd h0 hane
        · exact h0
      rcases hS.claim with ⟨_, _, _, h0⟩ | ⟨I, hclaimed⟩
      · exact absurd h0 hane
      rw [hacts] at hact
      refine podCheck_act wf plan (syncF h i plan).claimed cur upd _ pre.length ?_ hact he
      -- what is known of the claimed pods at this position
      intro q hq
      rcases hclaimed with h0 | h0
      · rw [h0] at hq; cases hq
      rw [h0] at hq
      obtain ⟨hqm, hqd⟩ := I.claimed_ok q hq
      rcases hqd with hk | ⟨hadopt, pq, postq, hevq, hlook⟩
      · obtain ⟨ho, hs, hm⟩ := (claimDecision_keep_iff _ q).1 hk
        exact ⟨hqm, hs, hm, by rw [ho]; simp, Or.inl ho⟩
      · obtain ⟨ho, hs, hm, _, _⟩ := (claimDecision_adopt_iff _ q).1 hadopt
        refine ⟨hqm, hs, hm, by rw [ho]; simp, Or.inr ⟨L0 ++ pq.map CEv.key, postq.map CEv.key ++ tail, ?_, ?_, hlook⟩⟩
        · rw [hevq]; simp [CEv.key]; rfl
        · rw [hpre, hevq]; simp

end Asts.SYa
