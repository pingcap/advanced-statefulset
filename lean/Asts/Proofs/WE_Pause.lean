import Mathlib.Tactic
import Asts.Proofs.WE_Edits
import Asts.Proofs.SY_a_Pause
import Asts.Proofs.C02_Idem

/-! # WE — a pause interval is lossless, on the round semantics (`Model/World.lean`, `Model/WorldEdits.lean`)

A round of a paused world does nothing but the environment's `settle`; further paused rounds are the identity on the world;
the round that follows the un-pause is, component for component, the round the never-paused world would have run. -/
namespace Asts.WE
open Asts Asts.SYa Asts.C02p

/-- the derived field of a world is in step with the stored status (true of every world a case describes and of every world
    a round leaves) -/
def ViewInStep (i : SyncIn) : Prop := i.view.stCurrentReplicas = i.stored.current

/-- **one round of a paused world is `settle`** and is silent -/
theorem paused_round_is_settle (h : Hashing) (i : SyncIn) (plan : List Fault) (hp : i.paused = true)
    (hv : ViewInStep i) (hn : ((settle i).pods.map (·.name)).Nodup) :
    (round h i plan).1 = settle i ∧ (round h i plan).2.writes = 0 ∧ (round h i plan).2.out = "ok" ∧
    (round h i plan).2.revs = i.store ∧ (round h i plan).2.status = i.stored := by
  have hw : (round h i plan).1 = settle i := applySync_paused_id h (settle i) plan hp hv (settled_pods_fixed i hn)
  obtain ⟨a, b, _⟩ := round_paused h i plan hp
  refine ⟨hw, a, b, ?_, ?_⟩
  · show (round h i plan).1.store = i.store
    rw [hw]; rfl
  · show (round h i plan).1.stored = i.stored
    rw [hw]; rfl

theorem settle_viewInStep' (w : SyncIn) (hv : ViewInStep w) : ViewInStep (settle w) := hv

theorem round_viewInStep (h : Hashing) (i : SyncIn) (p : List Fault) : ViewInStep (round h i p).1 := rfl

/-- a round reads the world through `settle` only -/
theorem round_congr (h : Hashing) {i i' : SyncIn} (p : List Fault) (hs : settle i = settle i') : round h i p = round h i' p := by
  unfold round
  rw [hs]

/-- a round starts by settling: it cannot tell a settled world from the world before `settle` -/
theorem round_settle (h : Hashing) (i : SyncIn) (p : List Fault) (hn : ((settle i).pods.map (·.name)).Nodup) :
    round h (settle i) p = round h i p :=
  round_congr h p (settle_idem i hn)

theorem paused_settled_fixed (h : Hashing) (i : SyncIn) (p : List Fault) (hp : i.paused = true) (hv : ViewInStep i)
    (hn : ((settle i).pods.map (·.name)).Nodup) : (round h (settle i) p).1 = settle i := by
  rw [round_settle h i p hn]
  exact (paused_round_is_settle h i p hp hv hn).1

/-- the world after `n` rounds of pause, the first of them under the fault plan `plan` -/
def pausedFor (h : Hashing) (plan : List Fault) : Nat → SyncIn → SyncIn
  | 0, i => applyEdit (.pause true) i
  | n + 1, i => (round h (pausedFor h plan n i) (if n = 0 then plan else [])).1

/-- **while paused the world only settles**: after one or more paused rounds the world is the settled world with the flag up -/
theorem pausedFor_eq (h : Hashing) (plan : List Fault) (i : SyncIn) (hv : ViewInStep i) (hn : (i.pods.map (·.name)).Nodup) :
    ∀ n, pausedFor h plan (n + 1) i = settle (applyEdit (.pause true) i)
  | 0 => (paused_round_is_settle h (applyEdit (.pause true) i) plan rfl hv (settle_names_nodup _ hn)).1
  | n + 1 => by
    show (round h (pausedFor h plan (n + 1) i) (if n + 1 = 0 then plan else [])).1 = _
    rw [pausedFor_eq h plan i hv hn n]
    exact paused_settled_fixed h (applyEdit (.pause true) i) _ rfl hv (settle_names_nodup _ hn)

theorem unpause_settled (i : SyncIn) :
    applyEdit (.pause false) (settle (applyEdit (.pause true) i)) = settle (applyEdit (.pause false) i) := rfl

/-- **the pause is lossless**: the round that follows the un-pause — after any number `n ≥ 1` of paused rounds — is the round
    the world would have run had it never been paused: the same next world, the same observation (calls, pods, revisions,
    status) -/
theorem unpause_round_eq (h : Hashing) (plan p : List Fault) (i : SyncIn) (hv : ViewInStep i)
    (hn : (i.pods.map (·.name)).Nodup) (n : Nat) :
    round h (applyEdit (.pause false) (pausedFor h plan (n + 1) i)) p = round h (applyEdit (.pause false) i) p := by
  rw [pausedFor_eq h plan i hv hn n, unpause_settled]
  exact round_settle h _ p (settle_names_nodup _ hn)

end Asts.WE
