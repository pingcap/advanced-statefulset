import Asts.Proofs.GL_Faults
import Asts.Proofs.GL_Lists
import Asts.Proofs.L1_c_C14

/-! # GL — C14 (Parallel burst) for every reconcile that ended `.ok`, whatever its fault list

`Props/C14.lean` is about the fault-free reconcile on pods numbered by position. Inside a sync the reconcile runs on the
claimed pods (a sublist: ids distinct and below `freshId`, not positions) with the fault list `podFaults` builds, which is
rarely empty. Two observations bridge the gap: the lemmas of `L1_c_C14` on deletes only need ids to identify the pods (`L1c.SnapI`, `snapI_of_wf_ids`), and a
reconcile that ended `.ok` hit no fault, hence ran as the fault-free one (`updateStatefulSet_of_ok`). -/
namespace Asts.GL
open Asts Asts.L1c

/-- **C14 for every Parallel reconcile that ended `.ok`** — any fault list, ids identifying the pods. -/
theorem C14_of_ok (v : SetView) (cur upd : String) (pods : List Pod) (f : Faults) (h0 : 0 ≤ replicasOf v)
    (hpar : v.parallel = true) (hdel : v.deleting = false) (hwf : wfSnapshot pods = true) (hids : IdsOk pods)
    (hok : (updateStatefulSet v cur upd pods f).2 = .ok) :
    C14 v pods (observe (updateStatefulSet v cur upd pods f).1.acts) = true := by
  have he := updateStatefulSet_of_ok v cur upd pods f hok
  rw [he] at hok ⊢
  have hs : L1c.SnapI pods := L1c.snapI_of_wf_ids hwf (idsOkB_of_idsOk hids).inj hids.small
  cases hr : v.replicas with
  | none =>
    rw [updateStatefulSet_none hr] at hok
    cases hok
  | some r =>
    have h0r : 0 ≤ r := by rw [replicasOf, hr] at h0; exact h0
    rw [updateStatefulSet_run [] hr hdel]
    obtain ⟨s, l, h1, h2, h3⟩ := L1c.runLoops_par v cur upd (prepOf v cur upd r pods) hpar
    rw [h1]
    simp only [h2]
    exact L1c.C14_of_acts v cur upd pods r hr h0r hs l h3

end Asts.GL
