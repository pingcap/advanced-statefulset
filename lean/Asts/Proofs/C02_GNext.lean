import Asts.Proofs.C02_NextWorld

/-! C02, policy-independent: the pods after one reconcile and the next fairness step, for ANY list of pod-control calls that
    satisfies `ActFacts` (what both policies guarantee: only Failed/Succeeded pods that are replaced, pods outside the desired
    set, and pods the rolling update has to replace are deleted; creates go to vacant desired ordinals, once each). -/
namespace Asts.C02p
open Asts Asts.L1c

structure ActFacts (v : SetView) (cur upd : String) (b : Int) (E : List Int) (P : List CPod) (acts : List Action) : Prop where
  fresh : ∀ id, freshId ≤ id → ¬ DelHits acts id
  creNodup : (createsOf acts).Nodup
  cre : ∀ o rev, Action.create o rev ∈ acts → inRange b E o = true ∧ rev = newPodRev v cur upd o ∧
          ((∀ c ∈ P, c.pod.ord ≠ o) ∨ ∃ c ∈ P, c.pod.ord = o ∧ c.pod.fs = true ∧ DelHits acts c.pod.id)
  delFs : ∀ c ∈ P, DelHits acts c.pod.id → c.pod.fs = true → inRange b E c.pod.ord = true →
          ∃ rev, Action.create c.pod.ord rev ∈ acts
  delLive : ∀ c ∈ P, DelHits acts c.pod.id → c.pod.fs = false → inRange b E c.pod.ord = true →
          v.strat = .rolling ∧ partOf v ≤ c.pod.ord ∧ c.pod.rev ≠ upd

theorem SameBody.fs {c x : CPod} (h : SameBody c x) : x.pod.fs = c.pod.fs := by
  unfold Pod.fs Pod.failed Pod.succeeded
  rw [h.phase]

theorem SameBody.settled {c x : CPod} (h : SameBody c x) (hs : c.pod.fs = true ∨ c.pod.runningAndReady = true) :
    x.pod.fs = true ∨ x.pod.runningAndReady = true := by
  unfold Pod.fs Pod.failed Pod.succeeded Pod.runningAndReady at hs ⊢
  rw [h.phase, h.ready]
  exact hs

/-- the condemned loop visits pods of the list outside the desired set -/
theorem mem_condemned_rev {b : Int} {E : List Int} {P : List CPod} {q : Pod}
    (hq : q ∈ (condemnedOf b E (P.map (·.pod))).reverse) : ∃ c ∈ P, c.pod = q ∧ inRange b E c.pod.ord = false := by
  rw [List.mem_reverse, L1c.mem_condemnedOf, List.mem_map] at hq
  obtain ⟨⟨c, hcm, rfl⟩, hcond⟩ := hq
  refine ⟨c, hcm, rfl, ?_⟩
  by_contra hr
  rw [inRange_not_condemned (by simpa using hr)] at hcond
  cases hcond

/-- and it visits every such pod -/
theorem PodsCtx.condemned_of_out {setName : String} {P : List CPod} (hc : PodsCtx setName P) {b : Int} {E : List Int}
    (hb0 : 0 ≤ b) (hE : ∀ e ∈ E, 0 ≤ e) {c : CPod} (hcm : c ∈ P) (hr : inRange b E c.pod.ord = false) :
    c.pod ∈ (condemnedOf b E (P.map (·.pod))).reverse := by
  rw [List.mem_reverse, L1c.mem_condemnedOf]
  refine ⟨List.mem_map.2 ⟨c, hcm, rfl⟩, ?_⟩
  rw [isCondemned_eq hb0 hE, contains_idxOf, hr]
  simp [(hc.own c hcm).2.2.2.2.1]

theorem walkActs_no_create (t : Option (Int × Pod)) (o : Int) (rev : String) : Action.create o rev ∉ walkActs t := by
  cases t <;> simp [walkActs]

theorem walkActs_no_update (t : Option (Int × Pod)) (o : Int) : Action.update o ∉ walkActs t := by
  cases t <;> simp [walkActs]

theorem delHits_append_walk {A : List Action} {tg : Option (Int × Pod)} {id : Nat} :
    DelHits (A ++ walkActs tg) id ↔ DelHits A id ∨ ∃ t q, tg = some (t, q) ∧ q.id = id := by
  constructor
  · rintro ⟨o, w, hm⟩
    rcases List.mem_append.1 hm with hm | hm
    · exact Or.inl ⟨o, w, hm⟩
    · cases tg with
      | none => cases hm
      | some tq =>
        simp only [walkActs, List.mem_singleton, Action.delete.injEq] at hm
        exact Or.inr ⟨tq.1, tq.2, rfl, hm.2.1.symm⟩
  · rintro (⟨o, w, hm⟩ | ⟨t, q, rfl, rfl⟩)
    · exact ⟨o, w, List.mem_append_left _ hm⟩
    · exact ⟨t, .update, List.mem_append_right _ List.mem_cons_self⟩

/-- calls satisfying `ActFacts` still do after the update walk's delete, when the walk takes down a live pod of the list that
    the rolling update has to replace (what `target_is_pod` says when the `rollingUpdate` block is present) -/
theorem ActFacts.append_walk {v : SetView} {cur upd : String} {b : Int} {E : List Int} {setName : String} {P : List CPod}
    {A : List Action} (hf : ActFacts v cur upd b E P A) (hc : PodsCtx setName P) {tg : Option (Int × Pod)}
    (ht : ∀ t q, tg = some (t, q) →
      ∃ c ∈ P, c.pod = q ∧ c.pod.fs = false ∧ v.strat = .rolling ∧ partOf v ≤ c.pod.ord ∧ c.pod.rev ≠ upd) :
    ActFacts v cur upd b E P (A ++ walkActs tg) := by
  have hcre : ∀ {o rev}, Action.create o rev ∈ A ++ walkActs tg → Action.create o rev ∈ A := fun hm =>
    (List.mem_append.1 hm).resolve_right (walkActs_no_create _ _ _)
  have hdel : ∀ c ∈ P, DelHits (A ++ walkActs tg) c.pod.id →
      DelHits A c.pod.id ∨ (c.pod.fs = false ∧ v.strat = .rolling ∧ partOf v ≤ c.pod.ord ∧ c.pod.rev ≠ upd) := by
    intro c hcm hd
    rcases delHits_append_walk.1 hd with hd | ⟨t, q, htg, hid⟩
    · exact Or.inl hd
    · obtain ⟨c', hc', rfl, hlive⟩ := ht t q htg
      rw [hc.id_inj hc' hcm hid] at hlive
      exact Or.inr hlive
  refine ⟨?_, ?_, ?_, ?_, ?_⟩
  · intro id hid hd
    rcases delHits_append_walk.1 hd with hd | ⟨t, q, htg, rfl⟩
    · exact hf.fresh id hid hd
    · obtain ⟨c, hcm, rfl, _⟩ := ht t q htg
      have := hc.id_lt hcm
      omega
  · rw [createsOf_append, createsOf_walkActs, List.append_nil]
    exact hf.creNodup
  · intro o rev hcr
    obtain ⟨hr, hrev, hcase⟩ := hf.cre o rev (hcre hcr)
    refine ⟨hr, hrev, hcase.imp_right ?_⟩
    rintro ⟨c, hcm, hco, hfs, hd⟩
    exact ⟨c, hcm, hco, hfs, delHits_append_walk.2 (Or.inl hd)⟩
  · intro c hcm hd hfs hr
    rcases hdel c hcm hd with hd | ⟨hlive, _⟩
    · obtain ⟨rev, hm⟩ := hf.delFs c hcm hd hfs hr
      exact ⟨rev, List.mem_append_left _ hm⟩
    · rw [hfs] at hlive; cases hlive
  · intro c hcm hd hfs hr
    rcases hdel c hcm hd with hd | ⟨_, hlive⟩
    · exact hf.delLive c hcm hd hfs hr
    · exact hlive

/-- the pods after the calls took effect and the next fairness step, before sorting and renumbering -/
def nextRawG (setName : String) (P : List CPod) (acts : List Action) : List CPod :=
  ((applyActs setName P P acts).filter (fun c => !c.pod.terminating)).map settleOne

section
variable {v : SetView} {cur upd : String} {b : Int} {E : List Int} {setName : String} {P : List CPod} {acts : List Action}

theorem settleOne_settled {c : CPod} (hnt : c.pod.terminating = false) (h : c.pod.fs = true ∨ c.pod.runningAndReady = true) :
    settleOne c = c := by
  rcases h with h | h
  · unfold settleOne
    have : (c.pod.failed || c.pod.succeeded) = true := h
    simp [this]
  · exact settleOne_healthy (by simp [Pod.healthy, h, hnt])

/-- a pod of the next list is a survivor (no delete hit it) or a new pod -/
theorem nextRawG_mem (hc : PodsCtx setName P) (hf : ActFacts v cur upd b E P acts) {x : CPod} (hx : x ∈ nextRawG setName P acts) :
    (∃ c ∈ P, ¬ DelHits acts c.pod.id ∧ SameBody c x ∧ x.owner = .self ∧ x.pod.terminating = false ∧
        (∀ o, Action.update o ∈ acts → c.name = canonicalName setName o → x.pod.idOk = true)) ∨
    (∃ o rev, Action.create o rev ∈ acts ∧ x = settleOne (mkPod setName o rev)) := by
  have hno := wasOrphan_false hc
  unfold nextRawG at hx
  rw [applyActs_eq, List.mem_map] at hx
  obtain ⟨c1, hc1, rfl⟩ := hx
  rw [List.mem_filter, List.mem_append] at hc1
  obtain ⟨hsrc, hnt⟩ := hc1
  have hnt1 : c1.pod.terminating = false := by simpa using hnt
  rcases hsrc with hsrc | hsrc
  · left
    rw [List.mem_filterMap] at hsrc
    obtain ⟨c, hcm, heff⟩ := hsrc
    have hsame := eff_same _ _ _ _ _ heff
    have hown := eff_owner _ _ hno _ _ _ heff
    have hnd : ¬ DelHits acts c.pod.id := by
      intro hd
      have := (eff_del setName P _ c hd).2 c1 heff
      rw [hnt1] at this; cases this
    rw [settleOne_settled hnt1 (hsame.settled (hc.settled c hcm).2)]
    refine ⟨c, hcm, hnd, hsame, by rw [hown]; exact (hc.own c hcm).1, hnt1, ?_⟩
    intro o hu hname
    exact eff_upd setName P _ c c1 o hu hname heff
  · right
    rw [mem_news setName P hno _ hf.fresh] at hsrc
    obtain ⟨o, rev, hcr, rfl⟩ := hsrc
    exact ⟨o, rev, hcr, rfl⟩

theorem nextRawG_survivor (hc : PodsCtx setName P) {c : CPod} (hcm : c ∈ P) (hnd : ¬ DelHits acts c.pod.id) :
    ∃ x ∈ nextRawG setName P acts, SameBody c x ∧ x.pod.terminating = false ∧
      (∀ o, Action.update o ∈ acts → c.name = canonicalName setName o → x.pod.idOk = true) := by
  obtain ⟨c1, h1, h2⟩ := eff_noDel setName P acts c hnd
  have hsame := eff_same _ _ _ _ _ h1
  have hnt1 : c1.pod.terminating = false := by rw [h2]; exact (hc.settled c hcm).1
  refine ⟨c1, ?_, hsame, hnt1, fun o hu hname => eff_upd setName P _ c c1 o hu hname h1⟩
  unfold nextRawG
  rw [applyActs_eq, List.mem_map]
  refine ⟨c1, ?_, settleOne_settled hnt1 (hsame.settled (hc.settled c hcm).2)⟩
  rw [List.mem_filter, List.mem_append]
  exact ⟨Or.inl (List.mem_filterMap.2 ⟨c, hcm, h1⟩), by simp [hnt1]⟩

theorem nextRawG_new (hc : PodsCtx setName P) (hf : ActFacts v cur upd b E P acts) {o : Int} {rev : String}
    (hcr : Action.create o rev ∈ acts) : settleOne (mkPod setName o rev) ∈ nextRawG setName P acts := by
  have hno := wasOrphan_false hc
  unfold nextRawG
  rw [applyActs_eq, List.mem_map]
  refine ⟨mkPod setName o rev, ?_, rfl⟩
  rw [List.mem_filter, List.mem_append]
  refine ⟨Or.inr ?_, rfl⟩
  rw [mem_news setName P hno _ hf.fresh]
  exact ⟨o, rev, hcr, rfl⟩

theorem nextRawG_ords_nodup (hc : PodsCtx setName P) (hf : ActFacts v cur upd b E P acts) :
    ((nextRawG setName P acts).map (·.pod.ord)).Nodup := by
  have hno := wasOrphan_false hc
  unfold nextRawG
  rw [map_settleOne (f := (·.pod.ord)) settleOne_ord, applyActs_eq]
  apply (List.Sublist.map _ List.filter_sublist).nodup
  rw [List.map_append, List.nodup_append]
  refine ⟨?_, ?_, ?_⟩
  · apply (filterMap_map_sublist (eff setName P acts) (·.pod.ord) ?_ P).nodup hc.ords
    intro a a' h
    exact (eff_same _ _ _ _ _ h).ord
  · rw [news_ords setName P hno _ hf.fresh]
    exact hf.creNodup
  · intro o ho1 o' ho2 heq
    subst heq
    rw [List.mem_map] at ho1
    obtain ⟨c1, hc1, hco⟩ := ho1
    rw [List.mem_filterMap] at hc1
    obtain ⟨c, hcm, heff⟩ := hc1
    have hord : c.pod.ord = o := by rw [← hco, (eff_same _ _ _ _ _ heff).ord]
    rw [news_ords setName P hno _ hf.fresh, mem_createsOf] at ho2
    obtain ⟨rev, hcr⟩ := ho2
    obtain ⟨_, _, hcase⟩ := hf.cre o rev hcr
    rcases hcase with hnone | ⟨c', hc', hco', hfs, hd⟩
    · exact hnone c hcm hord
    · have : c' = c := hc.ord_inj hc' hcm (by rw [hco', hord])
      subst this
      have := (eff_del setName P _ c' hd).1 hfs
      rw [this] at heff; cases heff

end

end Asts.C02p
