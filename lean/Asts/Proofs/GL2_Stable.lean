import Mathlib.Tactic
import Asts.Spec.Glue2
import Asts.Proofs.GL2_Store
import Asts.Proofs.GL_World

/-! # GL2 — `C18.stable`: rounds add no second revision recording the template

Only `createRevLoopF` adds a revision, it records the current template, and it probes the names
`h.nameOf template cc` from `cc = collisionCount.getD 0` upwards, moving on only past a name that holds OTHER data. So when
every revision on the first probed name records the template (`ProbeOk`), one sync
* adds at most one revision, on that very name (when the name had become free), recording the template;
* leaves `ProbeOk` true (data never changes under a name, new revisions record the template);
* resolves the collision count it started from, so a status it writes carries that count.
These three facts are an invariant of rounds (`StableInv`), for EVERY fault plan of the first round. -/
namespace Asts.GL2
open Asts Asts.SYb

/-- every revision on the name `nm` records `T` -/
def ProbeOk (nm T : String) (st : List Rev) : Prop := ∀ x ∈ st, x.name = nm → x.data = T

/-- `y` is a revision of `st` up to owner, labels and number, or a revision recording `T` on the name `nm` -/
def FromOrProbe (nm T : String) (st : List Rev) (y : Rev) : Prop :=
  (∃ x ∈ st, y.name = x.name ∧ y.data = x.data) ∨ (y.name = nm ∧ y.data = T)

theorem fromOrProbe_of_mem {nm T : String} {st : List Rev} {y : Rev} (hy : y ∈ st) : FromOrProbe nm T st y :=
  Or.inl ⟨y, hy, rfl, rfl⟩

/-! ## the create loop and the choice of the update revision -/

theorem createLoop_probe (h : Hashing) (plan : List Fault) (fresh : Rev) (fuel : Nat) (cc0 : Int) (s : RevSt)
    (hP : ProbeOk (h.nameOf fresh.data cc0) fresh.data s.store) :
    (∀ y ∈ (createRevLoopF h plan fresh (fuel + 1) cc0 s).1.store,
        FromOrProbe (h.nameOf fresh.data cc0) fresh.data s.store y) ∧
    (∀ u cc, (createRevLoopF h plan fresh (fuel + 1) cc0 s).2 = some (u, cc) → cc = cc0) := by
  rw [createRevLoopF_succ]
  split
  · refine ⟨?_, ?_⟩
    · intro y hy
      simp only at hy
      rw [mem_insertByName] at hy
      rcases hy with rfl | hy
      · exact Or.inr ⟨rfl, rfl⟩
      · exact fromOrProbe_of_mem hy
    · intro u cc hu
      simp only [Option.some.injEq, Prod.mk.injEq] at hu
      exact hu.2.symm
  · split
    · rename_i ex _ hfind
      have hex : ex ∈ s.store := List.mem_of_find?_eq_some hfind
      have hexn : ex.name = h.nameOf fresh.data cc0 := by simpa using List.find?_some hfind
      have hexd : ex.data = fresh.data := hP ex hex hexn
      rw [if_pos (by simpa using hexd)]
      refine ⟨fun y hy => fromOrProbe_of_mem hy, ?_⟩
      intro u cc hu
      simp only [Option.some.injEq, Prod.mk.injEq] at hu
      exact hu.2.symm
    · exact ⟨fun y hy => fromOrProbe_of_mem hy, fun u cc hu => by simp at hu⟩
  · exact ⟨fun y hy => fromOrProbe_of_mem hy, fun u cc hu => by simp at hu⟩

theorem setNumber_data' (name : String) (n : Int) (r : Rev) : (setNumber name n r).data = r.data := by
  unfold setNumber; split <;> rfl

theorem pickF_probe (h : Hashing) (plan : List Fault) (T : String) (cc0 : Int) (revs : List Rev) (s : RevSt)
    (hP : ProbeOk (h.nameOf T cc0) T s.store) :
    (∀ y ∈ (pickF h plan T cc0 revs s).1.store, FromOrProbe (h.nameOf T cc0) T s.store y) ∧
    (∀ u cc, (pickF h plan T cc0 revs s).2 = some (u, cc) → cc = cc0) := by
  have hloop := createLoop_probe h plan (freshOf h T cc0 revs) (s.store.length + 7) cc0 s hP
  have hsame : ∀ (u : Rev), (∀ y ∈ s.store, FromOrProbe (h.nameOf T cc0) T s.store y) ∧
      (∀ u' cc, some (u, cc0) = some (u', cc) → cc = cc0) :=
    fun u => ⟨fun y hy => fromOrProbe_of_mem hy, fun u' cc hu => (Prod.mk.inj (Option.some.inj hu)).2.symm⟩
  unfold pickF
  cases (equalsOf h T cc0 revs).getLast? with
  | none => exact hloop
  | some e =>
    cases revs.getLast? with
    | none => exact hloop
    | some l =>
      dsimp only
      by_cases h1 : equalRev l e = true
      · rw [if_pos h1]; exact hsame l
      rw [if_neg h1]
      by_cases h2 : (e.number == (freshOf h T cc0 revs).number) = true
      · rw [if_pos h2]; exact hsame e
      rw [if_neg h2]
      obtain ⟨_, hst, _⟩ := renumberF_spec plan e.name (freshOf h T cc0 revs).number 4 s
      refine ⟨?_, ?_⟩
      · intro y hy
        rw [hst] at hy
        split at hy
        · obtain ⟨x, hx, rfl⟩ := List.mem_map.mp hy
          exact Or.inl ⟨x, hx, setNumber_name _ _ _, setNumber_data' _ _ _⟩
        · exact fromOrProbe_of_mem hy
      · intro u cc hu
        split at hu
        · exact (Prod.mk.inj (Option.some.inj hu)).2.symm
        · cases hu

theorem probeOk_adopted {nm T : String} {s t : List Rev} (ht : AdoptedFrom s t) (hP : ProbeOk nm T s) : ProbeOk nm T t := by
  intro y hy hyn
  obtain ⟨x, hx, hc, _⟩ := ht.mem hy
  rw [core_data hc]
  exact hP x hx (by rw [← core_name hc]; exact hyn)

theorem fromOrProbe_adopted {nm T : String} {s t : List Rev} (ht : AdoptedFrom s t) {y : Rev}
    (hy : FromOrProbe nm T t y) : FromOrProbe nm T s y := by
  rcases hy with ⟨x, hx, h1, h2⟩ | h
  · obtain ⟨x0, hx0, hc, _⟩ := ht.mem hx
    exact Or.inl ⟨x0, hx0, h1.trans (core_name hc), h2.trans (core_data hc)⟩
  · exact Or.inr h

theorem finishCore_cc (i : SyncIn) (plan : List Fault) (claimed : List CPod) (revs : List Rev) (cur upd : Rev) (cc : Int)
    (s : RevSt) (st : St) (out : Outcome) :
    (SYa.finishCore i plan claimed revs cur upd cc s st out).status = none ∨
    (SYa.finishCore i plan claimed revs cur upd cc s st out).cc = some cc := by
  rcases SYa.finishCore_cases i plan claimed revs cur upd cc s st out with
    ⟨_, e⟩ | ⟨_, _, _, e⟩ | ⟨_, _, _, t, _, e⟩ | ⟨_, _, t, _, e⟩
  · rw [e]; exact Or.inl rfl
  · rw [e]; exact Or.inl rfl
  · rw [e]; exact Or.inr rfl
  · rw [e]; exact Or.inl rfl

/-- **one sync, when every revision on the first probed name records the template**: every revision of the final store is
    a revision of the input store (same name, same data) or records the template on that very name; and a status the sync
    writes carries the collision count it started from — every hashing, world and fault plan -/
theorem sync_probe (h : Hashing) (i : SyncIn) (plan : List Fault)
    (hP : ProbeOk (h.nameOf i.template (i.collisionCount.getD 0)) i.template i.store) :
    (∀ y ∈ (syncF h i plan).store, FromOrProbe (h.nameOf i.template (i.collisionCount.getD 0)) i.template i.store y) ∧
    ((syncF h i plan).status.isSome = true → (syncF h i plan).cc = some (i.collisionCount.getD 0)) := by
  rw [SYb.syncF_eq]
  by_cases hrun : (i.paused || !i.selectorOk) = true
  · rw [if_pos hrun]
    exact ⟨fun y hy => fromOrProbe_of_mem hy, fun hs => by simp at hs⟩
  · rw [if_neg hrun]
    have hAd := adoptedStore_adopted plan i
    have hPA := probeOk_adopted hAd hP
    cases hh : syncHead h i plan with
    | inl o =>
      simp only
      obtain ⟨_, hst, _⟩ := syncHead_inl hh
      refine ⟨?_, fun hs => by rw [hst] at hs; simp at hs⟩
      intro y hy
      rcases (syncHead_inl hh).2.2.2 with ⟨h1, _⟩ | ⟨sL, h1, _, h2, _⟩
      · rw [h1] at hy
        exact fromOrProbe_adopted hAd (fromOrProbe_of_mem hy)
      · rw [h2] at hy
        have := (pickF_probe h plan i.template (i.collisionCount.getD 0) _ sL (by rw [h1]; exact hPA)).1 y hy
        rw [h1] at this
        exact fromOrProbe_adopted hAd this
    | inr t =>
      obtain ⟨claimed, revs, cur, upd, cc, s⟩ := t
      simp only
      obtain ⟨A, sL, hA, _, _, _, _, hsLs, _, _, hpick, _⟩ := syncHead_inr hh
      have hAs : adoptedStore plan i = A.store := by unfold adoptedStore; rw [hA]
      obtain ⟨p1, p2⟩ := pickF_probe h plan i.template (i.collisionCount.getD 0) revs sL (by rw [hsLs, ← hAs]; exact hPA)
      rw [hpick] at p1 p2
      have hcc : cc = i.collisionCount.getD 0 := p2 upd cc rfl
      refine ⟨?_, ?_⟩
      · intro y hy
        have := p1 y (finishF_store_subset i plan claimed revs cur upd cc s hy)
        rw [hsLs, ← hAs] at this
        exact fromOrProbe_adopted hAd this
      · intro hs
        have hw : (SYa.finishF i plan claimed revs cur upd cc s).status = none ∨
            (SYa.finishF i plan claimed revs cur upd cc s).cc = some cc := finishCore_cc i plan claimed revs cur upd cc _ _ _
        rcases hw with hn | hc
        · rw [hn] at hs; cases hs
        · rw [hc, hcc]

/-- the invariant of rounds: template and resolved collision count as at the start, every revision on the first probed name
    records the template, every revision recording the template bears one of the names `N0` -/
structure StableInv (h : Hashing) (T : String) (cc0 : Int) (N0 : List String) (W : SyncIn) : Prop where
  tmpl : W.template = T
  cc : W.collisionCount.getD 0 = cc0
  probe : ProbeOk (h.nameOf T cc0) T W.store
  names : ∀ x ∈ W.store, x.data = T → x.name ∈ N0

theorem round_revs (h : Hashing) (W : SyncIn) (plan : List Fault) : (round h W plan).2.revs = (round h W plan).1.store := rfl

theorem round_inv {h : Hashing} {T : String} {cc0 : Int} {N0 : List String} {W : SyncIn}
    (hN : h.nameOf T cc0 ∈ N0) (inv : StableInv h T cc0 N0 W) (plan : List Fault) :
    StableInv h T cc0 N0 (round h W plan).1 := by
  have hP : ProbeOk (h.nameOf (settle W).template ((settle W).collisionCount.getD 0)) (settle W).template (settle W).store := by
    show ProbeOk (h.nameOf W.template (W.collisionCount.getD 0)) W.template W.store
    rw [inv.tmpl, inv.cc]; exact inv.probe
  obtain ⟨s1, s2⟩ := sync_probe h (settle W) plan hP
  have s1' : ∀ y ∈ (syncF h (settle W) plan).store, FromOrProbe (h.nameOf T cc0) T W.store y := by
    intro y hy
    have := s1 y hy
    have e1 : (settle W).template = T := inv.tmpl
    have e2 : (settle W).collisionCount.getD 0 = cc0 := inv.cc
    rw [e1, e2] at this
    exact this
  have s2' : (syncF h (settle W) plan).status.isSome = true → (syncF h (settle W) plan).cc = some cc0 := by
    intro hs
    have e2 : (settle W).collisionCount.getD 0 = cc0 := inv.cc
    rw [← e2]; exact s2 hs
  refine ⟨inv.tmpl, ?_, ?_, ?_⟩
  · show (if (syncF h (settle W) plan).status.isSome then (syncF h (settle W) plan).cc else W.collisionCount).getD 0 = cc0
    by_cases hs : (syncF h (settle W) plan).status.isSome = true
    · rw [if_pos hs, s2' hs]; rfl
    · rw [if_neg hs]; exact inv.cc
  · intro y hy hyn
    have hy' : y ∈ (syncF h (settle W) plan).store := hy
    rcases s1' y hy' with ⟨x, hx, h1, h2⟩ | ⟨_, h2⟩
    · rw [h2]; exact inv.probe x hx (by rw [← h1]; exact hyn)
    · exact h2
  · intro y hy hyd
    have hy' : y ∈ (syncF h (settle W) plan).store := hy
    rcases s1' y hy' with ⟨x, hx, h1, h2⟩ | ⟨h1, _⟩
    · rw [h1]; exact inv.names x hx (by rw [← h2]; exact hyd)
    · rw [h1]; exact hN

/-- every round of every run leaves only revisions recording the template that bear a name of `N0`: a round of a run is
    a round on a world reached by rounds (`GL.runRounds_obs`), and rounds keep the invariant -/
theorem runRounds_stable {h : Hashing} {T : String} {cc0 : Int} {N0 : List String} (hN : h.nameOf T cc0 ∈ N0)
    (fuel silent : Nat) (W : SyncIn) (plan : List Fault) (inv : StableInv h T cc0 N0 W) :
    ∀ r ∈ runRounds h fuel silent W plan, ∀ d ∈ r.revs, d.data = T → d.name ∈ N0 := by
  intro r hr
  obtain ⟨ps, p, rfl⟩ := GL.runRounds_obs h fuel silent W plan r hr
  have inv' := round_inv hN (GL.roundsWith_induction (P := StableInv h T cc0 N0) (fun _ q hW => round_inv hN hW q) ps W inv) p
  intro d hd
  rw [round_revs] at hd
  exact inv'.names d hd

/-- the probe hypothesis from unique revision names and the clause's own guard -/
theorem probeOk_of_held {h : Hashing} {i : SyncIn} (hnd : SYa.StoreNamesOk i)
    (hheld : (i.store.any fun r => r.name == h.nameOf i.template (i.collisionCount.getD 0) && r.data == i.template) = true) :
    ProbeOk (h.nameOf i.template (i.collisionCount.getD 0)) i.template i.store := by
  rw [List.any_eq_true] at hheld
  obtain ⟨r, hr, hc⟩ := hheld
  simp only [Bool.and_eq_true, beq_iff_eq] at hc
  intro x hx hxn
  have : x = r := List.inj_on_of_nodup_map hnd hx hr (by rw [hxn, hc.1])
  rw [this]; exact hc.2

/-- **`C18.stable`** on the model, from the probe hypothesis under the clause's own guard `held`: every revision of the
    initial store that sits on the first probed name records the template. Every hashing, world, fuel, silence counter and
    fault plan; none of the other guards of the clause (not paused, selector valid, not deleting, empty plan) is needed,
    and `held` only to know that the probed name is a name of the initial store. -/
theorem C18stable_of_probe (h : Hashing) (i : SyncIn) (plan : List Fault) (fuel silent : Nat)
    (hP : (i.store.any fun r => r.name == h.nameOf i.template (i.collisionCount.getD 0) && r.data == i.template) = true →
      ProbeOk (h.nameOf i.template (i.collisionCount.getD 0)) i.template i.store) :
    C18stable h i plan (runRounds h fuel silent i plan) = true := by
  unfold C18stable
  dsimp only
  by_cases hheld : (i.store.any fun r => r.name == h.nameOf i.template (i.collisionCount.getD 0) && r.data == i.template) = true
  swap
  · rw [Bool.eq_false_iff.2 hheld]; rfl
  have hN : h.nameOf i.template (i.collisionCount.getD 0) ∈ i.store.map (·.name) := by
    rw [List.any_eq_true] at hheld
    obtain ⟨r, hr, hc⟩ := hheld
    rw [Bool.and_eq_true, beq_iff_eq] at hc
    exact List.mem_map.mpr ⟨r, hr, hc.1⟩
  have key := runRounds_stable hN fuel silent i plan ⟨rfl, rfl, hP hheld, fun x hx _ => List.mem_map_of_mem hx⟩
  have hall : ((runRounds h fuel silent i plan).all fun r => r.revs.all fun d =>
      d.data != i.template || i.store.any fun q => q.name == d.name) = true := by
    rw [List.all_eq_true]
    intro r hr
    rw [List.all_eq_true]
    intro d hd
    rw [Bool.or_eq_true, bne_iff_ne, List.any_eq_true]
    refine (ne_or_eq d.data i.template).imp_right fun hdd => ?_
    obtain ⟨q, hq, hqn⟩ := List.mem_map.mp (key r hr d hd hdd)
    exact ⟨q, hq, beq_iff_eq.2 hqn⟩
  rw [hall, Bool.or_true]

end Asts.GL2
