import Asts.Proofs.C02_GConverge

/-! C02: the Parallel policy. The calls of a reconcile without its final update-walk delete (`actsA`) satisfy `ActFacts`
    and, while something is to do, contain an `LEvent` together with the walk's target — in either mode. With the
    `rollingUpdate` block present the walk takes down a pod of the list, so the whole list of calls has both properties and
    the policy is a `PolicyClass`. -/
namespace Asts.C02p
open Asts Asts.L1c

section
variable {v : SetView} {cur upd : String} {b : Int} {E : List Int} {setName : String} {P : List CPod}

theorem parA_facts (hc : PodsCtx setName P) (hb0 : 0 ≤ b) (hE : ∀ e ∈ E, 0 ≤ e) :
    ActFacts v cur upd b E P (actsA v cur upd b E P) := by
  refine ⟨fun id hid => parA_fresh hc hid, ?_, ?_, ?_, ?_⟩
  · have := createsOf_actsOf_nodup v cur upd b E P
    rw [actsOf_split, createsOf_append, createsOf_walkActs, List.append_nil] at this
    exact this
  · intro o rev hcr
    obtain ⟨hr, hrev, hcase⟩ := (parA_create_iff hc).1 hcr
    refine ⟨hr, hrev, ?_⟩
    rcases hcase with hnone | ⟨c, hcm, hco, hfs⟩
    · exact Or.inl hnone
    · exact Or.inr ⟨c, hcm, hco, hfs, (parA_del_iff hc hb0 hE hcm).2 (Or.inl ⟨by rw [hco]; exact hr, hfs⟩)⟩
  · intro c hcm _ hfs hr
    exact ⟨_, (parA_create_iff hc).2 ⟨hr, rfl, Or.inr ⟨c, hcm, rfl, hfs⟩⟩⟩
  · intro c hcm hd hfs hr
    exfalso
    rcases (parA_del_iff hc hb0 hE hcm).1 hd with ⟨_, h2⟩ | h2
    · rw [hfs] at h2; cases h2
    · rw [hr] at h2; cases h2

end

/-- the class: normal, settled, Parallel, with the `rollingUpdate` block present (or OnDelete) -/
def ParK (h : Hashing) (j : SyncIn) : Prop := NSC h j ∧ j.view.parallel = true ∧ PartOk j.view

section
variable {h : Hashing} {j : SyncIn}

theorem par_recon_ok (hs : NSC h j) (hpar : j.view.parallel = true) : hs.norm.recon.2 = .ok := by
  have hn := hs.norm
  unfold NormC.recon
  rw [updateStatefulSet_run _ hn.spec.rep hn.spec.del]
  obtain ⟨s, l, h1, _, _⟩ := runLoops_par j.view hn.curRev.name hn.updRev.name _ hpar
  rw [h1]

theorem par_recon_acts (hs : NSC h j) (hpar : j.view.parallel = true) :
    hs.norm.recon.1.acts = actsOf j.view hs.norm.curRev.name hs.norm.updRev.name (bOf j) (EOf j) j.pods := by
  have hn := hs.norm
  exact recon_acts j.view _ _ _ (replicasOf j.view) hn.spec.rep hpar hn.spec.del

theorem par_facts (hs : NSC h j) (hpart : PartOk j.view) :
    ActFacts j.view hs.norm.curRev.name hs.norm.updRev.name (bOf j) (EOf j) j.pods
      (actsOf j.view hs.norm.curRev.name hs.norm.updRev.name (bOf j) (EOf j) j.pods) := by
  rw [actsOf_split]
  apply (parA_facts hs.ctx (bOf_nonneg hs.norm) (EOf_nonneg hs.norm)).append_walk hs.ctx
  intro t q htg
  obtain ⟨c, hcm, hcp, hco, _, hfs, hrev, hpt, hnod⟩ := target_is_pod hs.ctx hpart htg
  exact ⟨c, hcm, hcp, hfs, hs.norm.spec.strat.resolve_right hnod, by rw [hco]; exact hpt, by rw [hcp]; exact hrev⟩

theorem par_pol (hs : NSC h j) (hpar : j.view.parallel = true) (hpart : PartOk j.view) : Pol hs.norm :=
  Pol.of_facts (par_recon_ok hs hpar) (by rw [par_recon_acts hs hpar]; exact par_facts hs hpart)

/-- what a positive measure says, in either mode: a pod outside the desired set, or a desired ordinal that is vacant, holds a
    Failed/Succeeded pod, a pod without identity, or a pod RollingUpdate has to replace -/
def Todo (j : SyncIn) (upd : String) : Prop :=
  (∃ c ∈ j.pods, inRange (bOf j) (EOf j) c.pod.ord = false) ∨
  (∃ o, inRange (bOf j) (EOf j) o = true ∧ ∀ c ∈ j.pods, c.pod.ord ≠ o) ∨
  (∃ c ∈ j.pods, inRange (bOf j) (EOf j) c.pod.ord = true ∧ c.pod.fs = true) ∨
  (∃ c ∈ j.pods, inRange (bOf j) (EOf j) c.pod.ord = true ∧ c.pod.fs = false ∧ c.pod.idOk = false) ∨
  (∃ c ∈ j.pods, inRange (bOf j) (EOf j) c.pod.ord = true ∧ c.pod.fs = false ∧ j.view.strat = .rolling ∧
    partOf j.view ≤ c.pod.ord ∧ c.pod.rev ≠ upd)

theorem mu_pos_cases (hs : NSC h j) (hpos : 0 < muPods j) : Todo j hs.norm.updRev.name := by
  have hn := hs.norm
  rw [muPods_eq, hn.updName] at hpos
  rcases mu_pos_split hpos with ⟨c, hcm, hout⟩ | ⟨o, ho, hw⟩
  · rw [mem_desired_iff hn] at hout
    exact Or.inl ⟨c, hcm, by simpa using hout⟩
  · right
    have hr := (mem_desired_iff hn o).1 ho
    by_cases hat : ∃ c ∈ j.pods, c.pod.ord = o
    · obtain ⟨c, hcm, rfl⟩ := hat
      by_cases hfs : c.pod.fs = true
      · exact Or.inr (Or.inl ⟨c, hcm, hr, hfs⟩)
      · have hfs' : c.pod.fs = false := by simpa using hfs
        rw [wOf_some hn.ords hcm, wPod_live hfs' (hs.settled c hcm).1] at hw
        by_cases hid : c.pod.idOk = true
        · right; right; right
          rw [hid] at hw
          simp only [if_true, Nat.add_zero] at hw
          unfold outW at hw
          split_ifs at hw with hcond
          · simp only [Bool.and_eq_true, beq_iff_eq, decide_eq_true_eq, bne_iff_ne, ne_eq] at hcond
            exact ⟨c, hcm, hr, hfs', hcond.1.1, hcond.1.2, hcond.2⟩
          · omega
        · exact Or.inr (Or.inr (Or.inl ⟨c, hcm, hr, hfs', by simpa using hid⟩))
    · exact Or.inl ⟨o, hr, fun c hcm hco => hat ⟨c, hcm, hco⟩⟩

/-- something the legacy measure counts happens -/
def LEvent (j : SyncIn) (A : List Action) (tg : Option (Int × Pod)) : Prop :=
  (∃ o rev, Action.create o rev ∈ A) ∨ (∃ c ∈ j.pods, DelHits A c.pod.id) ∨
  (∃ c ∈ j.pods, inRange (bOf j) (EOf j) c.pod.ord = true ∧ c.pod.fs = false ∧ c.pod.idOk = false ∧
    Action.update c.pod.ord ∈ A) ∨ tg.isSome = true

/-- with the walk's delete appended, it is an `Event`, provided the walk takes down a pod of the list -/
theorem LEvent.event {A : List Action} {tg : Option (Int × Pod)} (he : LEvent j A tg)
    (ht : ∀ t q, tg = some (t, q) → ∃ c ∈ j.pods, c.pod.id = q.id) :
    Event (bOf j) (EOf j) j.pods (A ++ walkActs tg) := by
  rcases he with ⟨o, rev, hm⟩ | ⟨c, hcm, hd⟩ | ⟨c, hcm, hr, hfs, hid, hu⟩ | hsome
  · exact Or.inl ⟨o, rev, List.mem_append_left _ hm⟩
  · exact Or.inr (Or.inl ⟨c, hcm, delHits_append_walk.2 (Or.inl hd)⟩)
  · exact Or.inr (Or.inr ⟨c, hcm, hr, hfs, hid, List.mem_append_left _ hu⟩)
  · cases tg with
    | none => cases hsome
    | some tq =>
      obtain ⟨c, hcm, hid⟩ := ht tq.1 tq.2 rfl
      exact Or.inr (Or.inl ⟨c, hcm, delHits_append_walk.2 (Or.inr ⟨tq.1, tq.2, rfl, hid.symm⟩)⟩)

/-- when every desired ordinal holds a live pod, the slots are these pods -/
theorem reps_live (hs : NSC h j) (cur upd : String)
    (hall : ∀ o, inRange (bOf j) (EOf j) o = true → ∃ c ∈ j.pods, c.pod.ord = o ∧ c.pod.fs = false) :
    ∀ ip ∈ repsOf j.view cur upd (bOf j) (EOf j) (j.pods.map (·.pod)), ∃ c ∈ j.pods, ip = (c.pod.ord, c.pod) ∧ c.pod.fs = false := by
  intro ip hip
  obtain ⟨hr, hq0⟩ := mem_repsOf.1 hip
  obtain ⟨c, hcm, hco, hfs⟩ := hall ip.1 hr
  have hsl := hs.ctx.slot_of_mem hcm (by rw [hco]; exact hr)
  rw [hco] at hsl
  rw [hsl] at hq0
  simp only [Option.getD_some] at hq0
  exact ⟨c, hcm, by ext <;> simp [hco, hq0], hfs⟩

theorem repNew_id_of_live {v : SetView} {cur upd : String} {reps : List (Int × Pod)} (hl : ∀ ip ∈ reps, ip.2.fs = false) :
    reps.map (repNew v cur upd) = reps := by
  conv_rhs => rw [← List.map_id reps]
  apply List.map_congr_left
  intro ip hip
  unfold repNew
  rw [hl ip hip]
  rfl

/-- when every desired ordinal holds a live pod and one of them still has to be replaced, the update walk takes one down -/
theorem tgt_isSome (hs : NSC h j) (hroll : j.view.strat = .rolling)
    (hall : ∀ o, inRange (bOf j) (EOf j) o = true → ∃ c ∈ j.pods, c.pod.ord = o ∧ c.pod.fs = false)
    {c0 : CPod} (hc0 : c0 ∈ j.pods) (hr0 : inRange (bOf j) (EOf j) c0.pod.ord = true)
    (hpt : partOf j.view ≤ c0.pod.ord) (hrev : c0.pod.rev ≠ hs.norm.updRev.name) :
    (walkTarget j.view hs.norm.updRev.name
      (repsOf j.view hs.norm.curRev.name hs.norm.updRev.name (bOf j) (EOf j) (j.pods.map (·.pod)))).isSome = true := by
  unfold walkTarget
  have : (j.view.strat == StratType.onDelete) = false := by rw [hroll]; rfl
  simp only [this, Bool.false_eq_true, if_false]
  apply walkFind_healthy
  · intro ip hip
    unfold walkList at hip
    rw [List.mem_reverse, List.mem_filter] at hip
    obtain ⟨c, hcm, rfl, hfs⟩ := reps_live hs _ _ hall ip hip.1
    have hrr : c.pod.runningAndReady = true := by
      rcases (hs.settled c hcm).2 with h1 | h1
      · rw [hfs] at h1; cases h1
      · exact h1
    unfold Pod.healthy
    simp [hrr, (hs.settled c hcm).1]
  · refine ⟨(c0.pod.ord, c0.pod), ?_, hrev⟩
    unfold walkList
    rw [List.mem_reverse, List.mem_filter]
    exact ⟨mem_repsOf.2 ⟨hr0, by simp [hs.ctx.slot_of_mem hc0 hr0]⟩, by simpa using hpt⟩

/-- **Parallel: while something is to do, the reconcile does some of it** (either mode) -/
theorem par_event (hs : NSC h j) (htodo : Todo j hs.norm.updRev.name) :
    LEvent j (actsA j.view hs.norm.curRev.name hs.norm.updRev.name (bOf j) (EOf j) j.pods)
      (tgtOf j.view hs.norm.curRev.name hs.norm.updRev.name (bOf j) (EOf j) j.pods) := by
  have hn := hs.norm
  have hctx := hs.ctx
  have hb0 := bOf_nonneg hn
  have hE := EOf_nonneg hn
  -- vacancies and Failed/Succeeded pods in range, and pods out of range, are handled at once
  have hvac : ∀ o, inRange (bOf j) (EOf j) o = true → (∀ c ∈ j.pods, c.pod.ord ≠ o) →
      LEvent j (actsA j.view hn.curRev.name hn.updRev.name (bOf j) (EOf j) j.pods)
        (tgtOf j.view hn.curRev.name hn.updRev.name (bOf j) (EOf j) j.pods) :=
    fun o hr hnone => Or.inl ⟨o, _, (parA_create_iff hctx).2 ⟨hr, rfl, Or.inl hnone⟩⟩
  have hfsE : ∀ c ∈ j.pods, inRange (bOf j) (EOf j) c.pod.ord = true → c.pod.fs = true →
      LEvent j (actsA j.view hn.curRev.name hn.updRev.name (bOf j) (EOf j) j.pods)
        (tgtOf j.view hn.curRev.name hn.updRev.name (bOf j) (EOf j) j.pods) :=
    fun c hcm hr hfs => Or.inr (Or.inl ⟨c, hcm, (parA_del_iff hctx hb0 hE hcm).2 (Or.inl ⟨hr, hfs⟩)⟩)
  rcases htodo with ⟨c, hcm, hr⟩ | ⟨o, hr, hnone⟩ | ⟨c, hcm, hr, hfs⟩ | ⟨c, hcm, hr, hfs, hid⟩ |
      ⟨c, hcm, hr, hfs, hroll, hpt, hrev⟩
  · exact Or.inr (Or.inl ⟨c, hcm, (parA_del_iff hctx hb0 hE hcm).2 (Or.inr hr)⟩)
  · exact hvac o hr hnone
  · exact hfsE c hcm hr hfs
  · exact Or.inr (Or.inr (Or.inl ⟨c, hcm, hr, hfs, hid, parA_update_mem hctx hcm hr hfs hid⟩))
  · by_cases hall : ∀ o, inRange (bOf j) (EOf j) o = true → ∃ c ∈ j.pods, c.pod.ord = o ∧ c.pod.fs = false
    · right; right; right
      unfold tgtOf
      rw [repNew_id_of_live (fun ip hip => by obtain ⟨c', _, rfl, hfs'⟩ := reps_live hs _ _ hall ip hip; exact hfs')]
      exact tgt_isSome hs hroll hall hcm hr hpt hrev
    · push_neg at hall
      obtain ⟨o, hro, hbad⟩ := hall
      by_cases hat : ∃ c ∈ j.pods, c.pod.ord = o
      · obtain ⟨c', hc', hco'⟩ := hat
        have := hbad c' hc' hco'
        exact hfsE c' hc' (by rw [hco']; exact hro) (by simpa using this)
      · exact hvac o hro (fun c hcm hco => hat ⟨c, hcm, hco⟩)

theorem par_progress (hs : NSC h j) (hpar : j.view.parallel = true) (hpart : PartOk j.view) (hpos : 0 < muPods j) :
    Event (bOf j) (EOf j) j.pods hs.norm.recon.1.acts := by
  rw [par_recon_acts hs hpar, actsOf_split]
  apply (par_event hs (mu_pos_cases hs hpos)).event
  intro t q htg
  obtain ⟨c, hcm, hcp, _⟩ := target_is_pod hs.ctx hpart htg
  exact ⟨c, hcm, by rw [hcp]⟩

end

theorem par_class (h : Hashing) : PolicyClass h (ParK h) where
  ns := fun _ hk => hk.1
  part := fun _ hk => hk.2.2
  pol := fun _ hk => par_pol hk.1 hk.2.1 hk.2.2
  facts := fun _ hk => by rw [par_recon_acts hk.1 hk.2.1]; exact par_facts hk.1 hk.2.2
  next := fun j hk => ⟨nextW_ns hk.1 (par_pol hk.1 hk.2.1 hk.2.2), by rw [nextW_view hk.1 (par_pol hk.1 hk.2.1 hk.2.2)]; exact hk.2.1,
    by rw [nextW_view hk.1 (par_pol hk.1 hk.2.1 hk.2.2)]; exact hk.2.2⟩
  progress := fun _ hk hpos => par_progress hk.1 hk.2.1 hk.2.2 hpos

end Asts.C02p
