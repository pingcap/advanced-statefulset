import Asts.Proofs.C02_Round
import Asts.Proofs.GL_Faults

/-! C02: faults that hit no call the reconcile makes do not change it; and the reconcile-level faults `podFaults` derives
    from the empty API-level plan in a world where every pod object belongs to the set hit nothing. -/
namespace Asts.C02p
open Asts Asts.L1c

structure NoHit (f : Faults) (idx : List Int) : Prop where
  del : ∀ o, f.hit 1 o = false
  upd : ∀ o, f.hit 2 o = false
  cre : ∀ o ∈ idx, f.hit 0 o = false

/-- such faults fail none of the calls a reconcile issues: creates are issued at slot ordinals only -/
theorem updateStatefulSet_noHit (v : SetView) (cur upd : String) (pods : List Pod) (f : Faults) (r : Int)
    (hr : v.replicas = some r)
    (hn : NoHit f (idxOf (maxReplicaAndSlots r v.slots).1 (maxReplicaAndSlots r v.slots).2)) :
    updateStatefulSet v cur upd pods f = updateStatefulSet v cur upd pods [] := by
  refine GL.updateStatefulSet_agree v cur upd f [] pods fun a ha => ?_
  rw [GL.hitAct_nil]
  cases a with
  | delete o _ _ => exact hn.del o
  | update o => exact hn.upd o
  | create o rev =>
    refine hn.cre o ?_
    obtain ⟨r', hr', ⟨ip, hip, hmem⟩ | ⟨_, _, _, hd⟩⟩ := updateStatefulSet_acts ha
    · obtain rfl : r' = r := Option.some.inj (hr'.symm.trans hr)
      rw [create_mem_slotActs hmem, ← repsOf_fst v cur upd _ _ pods]
      exact List.mem_map.2 ⟨ip, hip, rfl⟩
    · cases hd

end Asts.C02p

namespace Asts.C02p
open Asts Asts.L1c

theorem ord_inj_of_nodup {pods : List CPod} (hnd : (pods.map (·.pod.ord)).Nodup) {a b : CPod} (ha : a ∈ pods) (hb : b ∈ pods)
    (h : a.pod.ord = b.pod.ord) : a = b :=
  List.inj_on_of_nodup_map hnd ha hb h

theorem occupantAt_self {pods : List CPod} (hnd : (pods.map (·.pod.ord)).Nodup) {b : Int} {E : List Int} {c : CPod}
    (hc : c ∈ pods) (hr : inRange b E c.pod.ord = true) : occupantAt pods b E c.pod.ord = some c := by
  unfold occupantAt
  have hmem : c ∈ pods.filter (fun q => q.pod.ord == c.pod.ord && inRange b E q.pod.ord) := by
    rw [List.mem_filter]; exact ⟨hc, by simp [hr]⟩
  cases hg : (pods.filter (fun q => q.pod.ord == c.pod.ord && inRange b E q.pod.ord)).getLast? with
  | none =>
    rw [List.getLast?_eq_none_iff] at hg
    rw [hg] at hmem; cases hmem
  | some c' =>
    have hc' := List.mem_of_getLast? hg
    rw [List.mem_filter] at hc'
    have h2 := hc'.2
    simp only [Bool.and_eq_true, beq_iff_eq] at h2
    have : c'.pod.ord = c.pod.ord := h2.1
    rw [ord_inj_of_nodup hnd hc'.1 hc this]

theorem occupantAt_mem {claimed : List CPod} {b : Int} {E : List Int} {o : Int} {c : CPod}
    (h : occupantAt claimed b E o = some c) : c ∈ claimed ∧ c.pod.ord = o := by
  unfold occupantAt at h
  have := List.mem_of_getLast? h
  rw [List.mem_filter] at this
  have h2 := this.2
  simp only [Bool.and_eq_true, beq_iff_eq] at h2
  exact ⟨this.1, h2.1⟩

/-- the reconcile-level faults derived from the empty plan hit no call the reconcile makes, when the claimed pods carry
    the canonical names of their distinct ordinals and no other pod object holds the canonical name of a desired ordinal -/
theorem podFaults_noHitM (setName : String) (pods claimed : List CPod) (b : Int) (E : List Int)
    (hname : ∀ c ∈ claimed, c.name = canonicalName setName c.pod.ord) (hnd : (claimed.map (·.pod.ord)).Nodup)
    (hother : ∀ c ∈ pods, c ∉ claimed → c.name = canonicalName setName c.pod.ord → inRange b E c.pod.ord = false) :
    NoHit (podFaults setName [] pods claimed b E) (idxOf b E) := by
  have hupd : ∀ o, (updateResult setName [] pods claimed b E o).2 = true := by
    intro o
    unfold updateResult
    cases ho : occupantAt claimed b E o with
    | none => simp only [SYa.updateAttempts_nil]
    | some c =>
      obtain ⟨hc, hco⟩ := occupantAt_mem ho
      have : (c.name != canonicalName setName o) = false := by
        rw [hname c hc, hco]; simp
      simp only [this, Bool.false_eq_true, if_false, SYa.updateAttempts_nil]
  have hmem : ∀ verb o, (verb, o) ∈ podFaults setName [] pods claimed b E →
      verb = 0 ∧ ∃ c ∈ pods, c.pod.ord = o ∧ c.name = canonicalName setName c.pod.ord ∧
        (!(claimed.any (·.pod.id == c.pod.id) && ((occupantAt claimed b E c.pod.ord).map (·.pod.id)) == some c.pod.id)) = true := by
    intro verb o hm
    unfold podFaults at hm
    simp only [List.filterMap_nil, List.nil_append, List.mem_append, List.mem_filterMap, List.mem_map, List.mem_filter] at hm
    rcases hm with ⟨o', _, ho'⟩ | ⟨c, ⟨hc, hcond⟩, hco⟩
    · rw [hupd o'] at ho'
      simp at ho'
    · simp only [Prod.mk.injEq] at hco
      simp only [Bool.and_eq_true, beq_iff_eq] at hcond
      exact ⟨hco.1.symm, c, hc, hco.2, hcond.1, hcond.2⟩
  have hverb : ∀ verb o, verb ≠ 0 → (podFaults setName [] pods claimed b E).hit verb o = false := by
    intro verb o hv
    unfold Faults.hit
    rw [Bool.eq_false_iff]
    intro hcon
    rw [List.contains_iff_mem] at hcon
    exact hv (hmem verb o hcon).1
  refine ⟨fun o => hverb 1 o Nat.one_ne_zero, fun o => hverb 2 o (Nat.succ_ne_zero 1), ?_⟩
  · intro o ho
    unfold Faults.hit
    rw [Bool.eq_false_iff]
    intro hcon
    rw [List.contains_iff_mem] at hcon
    obtain ⟨-, c, hc, hco, hcn, hbad⟩ := hmem 0 o hcon
    have hr : inRange b E c.pod.ord = true := by rw [hco]; exact mem_idxOf.1 ho
    by_cases hcl : c ∈ claimed
    · rw [occupantAt_self hnd hcl hr] at hbad
      have hany : claimed.any (·.pod.id == c.pod.id) = true := List.any_eq_true.2 ⟨c, hcl, by simp⟩
      simp [hany] at hbad
    · rw [hother c hc hcl hcn] at hr
      cases hr

/-- the same in a world where every pod object is claimed -/
theorem podFaults_noHit (setName : String) (pods : List CPod) (b : Int) (E : List Int)
    (hname : ∀ c ∈ pods, c.name = canonicalName setName c.pod.ord) (hnd : (pods.map (·.pod.ord)).Nodup) :
    NoHit (podFaults setName [] pods pods b E) (idxOf b E) :=
  podFaults_noHitM setName pods pods b E hname hnd fun _ hc hn => absurd hc hn

end Asts.C02p
