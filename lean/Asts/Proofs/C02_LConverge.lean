import Asts.Proofs.C02_LMono
import Asts.Proofs.C02_Policies

/-! C02, legacy boundary mode: the descent classes of both pod management policies, reached from the decidable reading;
    the measure stays within the monitor's round bound. -/
namespace Asts.C02p
open Asts Asts.L1c

section
variable {h : Hashing} {j : SyncIn}

theorem wPod_le_wLPod {v : SetView} {upd : String} {o : Int} {c : CPod} (hnt : c.pod.terminating = false) :
    wPod v upd o c ≤ wLPod upd c := by
  unfold wPod wLPod
  rw [hnt]
  simp only [Bool.false_eq_true, if_false, Nat.add_zero]
  cases hfs : (c.pod.failed || c.pod.succeeded)
  · simp only [Bool.false_eq_true, if_false]
    cases h2 : (c.pod.rev != upd)
    · simp
    · simp only [Bool.and_true, if_true]
      split_ifs <;> omega
  · simp

theorem wOf_le_wLOf {v : SetView} {cur upd : String} {D : List Int} {pods : List CPod}
    (hnt : ∀ c ∈ pods, c.pod.terminating = false) (o : Int) : wOf v upd pods o ≤ wLOf v cur upd pods D o := by
  unfold wOf wLOf
  cases hf : pods.find? (·.pod.ord == o) with
  | none => simp only; split_ifs <;> omega
  | some c => exact wPod_le_wLPod (hnt c (List.mem_of_find?_eq_some hf))

theorem sum_map_le {α : Type} (f g : α → Nat) (l : List α) (hle : ∀ x ∈ l, f x ≤ g x) : (l.map f).sum ≤ (l.map g).sum := by
  induction l with
  | nil => simp
  | cons a t ih =>
    simp only [List.map_cons, List.sum_cons]
    have := hle a List.mem_cons_self
    have := ih (fun x hx => hle x (List.mem_cons_of_mem _ hx))
    omega

/-- the legacy measure dominates the ordinary one on settled worlds -/
theorem muPods_le_muL (hs : NSC h j) : muPods j ≤ muL j := by
  rw [muPods_eq, muL_eq hs.norm, ← hs.norm.updName]
  unfold muOf muLOf
  have := sum_map_le (wOf j.view (updName j) j.pods)
    (wLOf j.view hs.norm.curRev.name (updName j) j.pods (desired (replicasOf j.view) j.view.slots))
    (desired (replicasOf j.view) j.view.slots) (fun o _ => wOf_le_wLOf (fun c hc => (hs.settled c hc).1) o)
  omega

end

/-- a class of legacy-mode worlds on which a pod management policy works -/
structure LClass (h : Hashing) (K : SyncIn → Prop) : Prop where
  ns : ∀ j, K j → NSC h j
  step : ∀ j (hk : K j), ∃ A tg, LPol (ns j hk) A tg ∧ (0 < muL j → LEvent j A tg)
  next : ∀ j, K j → K (nextW h j)

theorem LClass.descent {h : Hashing} {K : SyncIn → Prop} (hK : LClass h K) : Descent h K muL where
  ns := hK.ns
  dom := fun j hk => muPods_le_muL (hK.ns j hk)
  next := hK.next
  step := fun j hk hpos => by
    obtain ⟨A, tg, hl, hev⟩ := hK.step j hk
    exact (muL_step hl).2 (hev hpos)

theorem lpar_class (h : Hashing) : LClass h (LParK h) where
  ns := fun _ hk => hk.1
  step := fun _ hk => ⟨_, _, lpar_pol hk, lpar_progress hk⟩
  next := fun _ hk => lpar_next hk

theorem lmono_class (h : Hashing) : LClass h (LMonoK h) where
  ns := fun _ hk => hk.1.1
  step := fun _ hk => ⟨_, _, lmono_pol hk, lmono_progress hk⟩
  next := fun _ hk => lmono_next hk

theorem legacy_of_legacyB {v : SetView} (hb : legacyB v = true) : v.strat = .rolling ∧ v.ru = none := by
  unfold legacyB at hb
  simp only [Bool.and_eq_true, beq_iff_eq, Option.isNone_iff_eq_none] at hb
  exact hb

/-- the decidable reading: `normLB` on the world (or on its settled form) puts the settled world in a legacy class -/
theorem lclass_of_normLB {h : Hashing} {i : SyncIn} (hb : normLB h i = true) :
    (i.view.parallel = true ∧ LParK h (settle i)) ∨ (i.view.parallel = false ∧ LMonoK h (settle i)) := by
  unfold normLB at hb
  simp only [Bool.and_eq_true, Bool.or_eq_true] at hb
  obtain ⟨⟨⟨h1, hl⟩, h2⟩, h3⟩ := hb
  obtain ⟨hroll, hru⟩ := legacy_of_legacyB hl
  have hn := normC_of_normCB h1
  cases hp : i.view.parallel with
  | true => exact Or.inl ⟨rfl, nsc_settle hn (by simpa [roomB] using h2), hp, hroll, hru⟩
  | false =>
    rw [hp] at h3
    exact Or.inr ⟨rfl, monoK0_settle hn h2 hp (by simpa using h3), hroll, hru⟩

theorem lclass_of_normLB_settled {h : Hashing} {i : SyncIn} (hb : normLB h (settle i) = true) :
    (i.view.parallel = true ∧ LParK h (settle i)) ∨ (i.view.parallel = false ∧ LMonoK h (settle i)) := by
  unfold normLB at hb
  simp only [Bool.and_eq_true, Bool.or_eq_true] at hb
  obtain ⟨⟨⟨h1, hl⟩, h2⟩, h3⟩ := hb
  obtain ⟨hroll, hru⟩ := legacy_of_legacyB hl
  have hn := normC_of_normCB h1
  cases hp : i.view.parallel with
  | true => exact Or.inl ⟨rfl, ⟨hn, idOk_of_idPos (settle_idPos i) hn.small, settle_settled i, by simpa [roomB] using h2⟩, hp, hroll, hru⟩
  | false =>
    have hp' : (settle i).view.parallel = false := hp
    rw [hp'] at h3
    exact Or.inr ⟨rfl, monoK0_settled hn h2 hp (by simpa using h3), hroll, hru⟩

end Asts.C02p

namespace Asts.C02p
open Asts Asts.L1c

theorem wLPod_le_five (upd : String) (c : CPod) : wLPod upd c ≤ 5 := by
  unfold wLPod; split_ifs <;> omega

theorem wLOf_le_count (v : SetView) (cur upd : String) (pods : List CPod) (D : List Int) (o : Int) :
    wLOf v cur upd pods D o ≤ 4 + (pods.filter (fun c => c.pod.ord == o)).length := by
  unfold wLOf
  cases hf : pods.find? (·.pod.ord == o) with
  | none => simp only; split_ifs <;> omega
  | some c =>
    have hm := List.mem_of_find?_eq_some hf
    have hp := List.find?_some hf
    have : 0 < (pods.filter (fun c => c.pod.ord == o)).length :=
      List.length_pos_of_mem (List.mem_filter.2 ⟨hm, hp⟩)
    have := wLPod_le_five upd c
    simp only
    omega

theorem sum_count_le (D : List Int) (hD : D.Nodup) (l : List CPod) :
    (D.map (fun o => (l.filter (fun c => c.pod.ord == o)).length)).sum ≤ l.length := by
  induction l with
  | nil => simp
  | cons c t ih =>
    have hsplit : ∀ D' : List Int, (D'.map (fun o => ((c :: t).filter (fun c => c.pod.ord == o)).length)).sum =
        D'.count c.pod.ord + (D'.map (fun o => (t.filter (fun c => c.pod.ord == o)).length)).sum := by
      intro D'
      induction D' with
      | nil => simp
      | cons a D' ih' =>
        rw [List.map_cons, List.sum_cons, ih', List.map_cons, List.sum_cons, List.count_cons]
        have hh : ((c :: t).filter (fun c => c.pod.ord == a)).length =
            (if (a == c.pod.ord) = true then 1 else 0) + (t.filter (fun c => c.pod.ord == a)).length := by
          rw [List.filter_cons]
          by_cases hca : c.pod.ord = a
          · simp [hca]; omega
          · have : (a == c.pod.ord) = false := by simp [Ne.symm hca]
            simp [hca, this]
        rw [hh]
        split_ifs <;> omega
    rw [hsplit]
    have := List.nodup_iff_count_le_one.1 hD c.pod.ord
    simp only [List.length_cons]
    omega

/-- **the legacy measure is within the bound the monitor `C02converges` allows** -/
theorem muL_le_roundBound (i : SyncIn) : muL (settle i) + 3 ≤ roundBound i := by
  have hlen : (desired (replicasOf i.view) i.view.slots).length = (replicasOf i.view).toNat := (desired_isDesired _ _).len
  have hnd : (desired (replicasOf i.view) i.view.slots).Nodup := (desired_isDesired _ _).sorted.nodup
  have e1 : replicasOf (settle i).view = replicasOf i.view := rfl
  have e2 : (settle i).view.slots = i.view.slots := rfl
  unfold muL muLOf
  rw [e1, e2]
  generalize desired (replicasOf i.view) i.view.slots = D at hlen hnd
  have hsum : (D.map (wLOf (settle i).view (curNameOf (settle i)) (updName (settle i)) (settle i).pods D)).sum ≤
      (D.map (fun o => 4 + ((settle i).pods.filter (fun c => c.pod.ord == o)).length)).sum :=
    sum_map_le _ _ D (fun o _ => wLOf_le_count _ _ _ _ _ o)
  have hadd : ∀ D' : List Int, (D'.map (fun o => 4 + ((settle i).pods.filter (fun c => c.pod.ord == o)).length)).sum =
      4 * D'.length + (D'.map (fun o => ((settle i).pods.filter (fun c => c.pod.ord == o)).length)).sum := by
    intro D'
    induction D' with
    | nil => simp
    | cons a D' ih => simp only [List.map_cons, List.sum_cons, ih, List.length_cons]; omega
  rw [hadd] at hsum
  have h1 := sum_count_le D hnd (settle i).pods
  have h2 : ((settle i).pods.filter (fun c => !D.contains c.pod.ord)).length ≤ (settle i).pods.length := List.length_filter_le _ _
  have h3 := settle_length_le i
  unfold roundBound
  omega

end Asts.C02p
