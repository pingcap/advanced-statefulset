import Mathlib.Tactic
import Asts.Proofs.WE_Pause
import Asts.Proofs.WE_Monitor

/-! # WE — the history that never stops, and the pause interval on it

`runHistory` stops after two silent rounds; its rounds are a prefix of the rounds of `histRoundAt`, the same recursion without
the stop rule (`runHistory_get`). On that trajectory a script that is one pause interval gives: the rounds before the pause
are those of the never-paused run, the rounds of the pause are silent, and the rounds from the un-pause on are, one for one,
the rounds the never-paused run shows from the round in which the pause began (`pause_interval_trajectory`). -/
namespace Asts.WE
open Asts Asts.SYa Asts.C02p

/-- the fault plan of the `n`-th round of a run whose first round has plan `p` -/
def planAt (p : List Fault) (n : Nat) : List Fault := if n = 0 then p else []

theorem planAt_succ (p : List Fault) (n : Nat) : planAt p (n + 1) = [] := by unfold planAt; simp
theorem planAt_nil (n : Nat) : planAt [] n = [] := by unfold planAt; split_ifs <;> rfl

/-- the world before the edits of the `n`-th round (0-based) of the history started in round `j0` on world `w` -/
def worldFrom (h : Hashing) (script : Script) (j0 : Nat) (p : List Fault) (w : SyncIn) : Nat → SyncIn
  | 0 => w
  | n + 1 => (round h (applyEdits (editsAt script (j0 + n)) (worldFrom h script j0 p w n)) (planAt p n)).1

/-- the `n`-th round of that history -/
def histRoundAt (h : Hashing) (script : Script) (j0 : Nat) (p : List Fault) (w : SyncIn) (n : Nat) : HistRound :=
  { edits := editsAt script (j0 + n), world := applyEdits (editsAt script (j0 + n)) (worldFrom h script j0 p w n),
    obs := (round h (applyEdits (editsAt script (j0 + n)) (worldFrom h script j0 p w n)) (planAt p n)).2 }

theorem worldFrom_succ (h : Hashing) (script : Script) (j0 : Nat) (p : List Fault) (w : SyncIn) (n : Nat) :
    worldFrom h script j0 p w (n + 1) =
      (round h (histRoundAt h script j0 p w n).world (planAt p n)).1 := rfl

theorem worldFrom_shift (h : Hashing) (script : Script) (j : Nat) (p : List Fault) (w : SyncIn) :
    ∀ n, worldFrom h script j p w (n + 1) = worldFrom h script (j + 1) [] (worldFrom h script j p w 1) n
  | 0 => rfl
  | n + 1 => by
    show (round h (applyEdits (editsAt script (j + (n + 1))) (worldFrom h script j p w (n + 1))) (planAt p (n + 1))).1 =
      (round h (applyEdits (editsAt script (j + 1 + n)) (worldFrom h script (j + 1) [] (worldFrom h script j p w 1) n)) (planAt [] n)).1
    rw [worldFrom_shift h script j p w n, planAt_succ, planAt_nil]
    have : j + (n + 1) = j + 1 + n := by omega
    rw [this]

theorem histRoundAt_shift (h : Hashing) (script : Script) (j : Nat) (p : List Fault) (w : SyncIn) (n : Nat) :
    histRoundAt h script j p w (n + 1) = histRoundAt h script (j + 1) [] (worldFrom h script j p w 1) n := by
  unfold histRoundAt
  rw [worldFrom_shift h script j p w n, planAt_succ, planAt_nil]
  have : j + (n + 1) = j + 1 + n := by omega
  rw [this]

/-- **`runHistory` is a prefix of the never-stopping history**: its `n`-th round, when it has one, is `histRoundAt … n` -/
theorem runHistory_get (h : Hashing) (script : Script) :
    ∀ (fuel j silent : Nat) (w : SyncIn) (p : List Fault) (n : Nat) (hr : HistRound),
      (runHistory h script fuel j silent w p)[n]? = some hr → hr = histRoundAt h script j p w n
  | 0, _, _, _, _, n, hr, hg => by simp [runHistory] at hg
  | fuel + 1, j, silent, w, p, n, hr, hg => by
    have h0 : histRoundAt h script j p w 0 =
        { edits := editsAt script j, world := applyEdits (editsAt script j) w,
          obs := (round h (applyEdits (editsAt script j) w) p).2 } := rfl
    rcases runHistory_shape h script fuel j silent w p with e | ⟨s', e⟩
    · rw [e] at hg
      cases n with
      | zero => simp at hg; rw [h0]; exact hg.symm
      | succ n => simp at hg
    · rw [e] at hg
      cases n with
      | zero => simp at hg; rw [h0]; exact hg.symm
      | succ n =>
        rw [List.getElem?_cons_succ] at hg
        have := runHistory_get h script fuel (j + 1) s' _ [] n hr hg
        rw [this, histRoundAt_shift]
        rfl

theorem editsAt_nil (j : Nat) : editsAt [] j = [] := rfl

theorem editsAt_pair (x y : Nat) (e1 e2 : Edit) (j : Nat) :
    editsAt [(x, e1), (y, e2)] j = (if x = j then [e1] else []) ++ (if y = j then [e2] else []) := by
  unfold editsAt
  by_cases hx : x = j <;> by_cases hy : y = j <;> simp [List.filter_cons, hx, hy]

theorem worldFrom_step (h : Hashing) (script : Script) (j0 : Nat) (p : List Fault) (w : SyncIn) (n : Nat) :
    worldFrom h script j0 p w (n + 1) =
      (round h (applyEdits (editsAt script (j0 + n)) (worldFrom h script j0 p w n)) (planAt p n)).1 := rfl

theorem histRoundAt_obs (h : Hashing) (script : Script) (j0 : Nat) (p : List Fault) (w : SyncIn) (n : Nat) :
    (histRoundAt h script j0 p w n).obs =
      (round h (applyEdits (editsAt script (j0 + n)) (worldFrom h script j0 p w n)) (planAt p n)).2 := rfl

theorem worldFrom_paused_nil (h : Hashing) (p : List Fault) (w : SyncIn) (hnp : w.paused = false) :
    ∀ n, (worldFrom h [] 1 p w n).paused = false
  | 0 => hnp
  | n + 1 => by
    rw [worldFrom_step, round_keeps_paused, editsAt_nil, applyEdits_nil]
    exact worldFrom_paused_nil h p w hnp n

theorem unpause_self (i : SyncIn) (hnp : i.paused = false) : applyEdit (.pause false) i = i := by
  rw [applyEdit_pause_eq, ← hnp]

/-- the un-pause after a pause that found the world `W` un-paused: `W`, settled -/
theorem unpause_after_pause (W : SyncIn) (hnp : W.paused = false) :
    applyEdits [.pause false] (settle (applyEdit (.pause true) W)) = settle W := by
  rw [applyEdits_cons, applyEdits_nil, unpause_settled, unpause_self W hnp]

/-- the script of one pause interval: paused before round `a + 2`, un-paused before round `a + d + 3` (so `d + 1` rounds of pause) -/
def pauseScript (a d : Nat) : Script := [(a + 2, .pause true), (a + d + 3, .pause false)]

theorem pauseScript_interval (a d : Nat) : pauseInterval (pauseScript a d) = some (a + 2, a + d + 3) := by
  unfold pauseInterval pauseScript
  simp only
  rw [if_pos (by omega)]

theorem editsAt_pauseScript (a d j : Nat) :
    editsAt (pauseScript a d) j =
      if j = a + 2 then [.pause true] else if j = a + d + 3 then [.pause false] else [] := by
  unfold pauseScript
  rw [editsAt_pair]
  by_cases h1 : j = a + 2
  · rw [if_pos h1, if_pos h1.symm, if_neg (by omega)]; rfl
  · rw [if_neg h1, if_neg (Ne.symm h1)]
    by_cases h2 : j = a + d + 3
    · rw [if_pos h2, if_pos h2.symm]; rfl
    · rw [if_neg h2, if_neg (Ne.symm h2)]; rfl

/-- before the pause: the worlds of the never-paused run -/
theorem pause_before (h : Hashing) (p : List Fault) (w : SyncIn) (a d : Nat) :
    ∀ n, n ≤ a + 1 → worldFrom h (pauseScript a d) 1 p w n = worldFrom h [] 1 p w n
  | 0, _ => rfl
  | n + 1, hle => by
    rw [worldFrom_step, worldFrom_step, pause_before h p w a d n (by omega), editsAt_nil, editsAt_pauseScript,
      if_neg (by omega), if_neg (by omega)]

/-- during the pause: the settled world with the flag up, whatever the number of paused rounds already run. (Distinct pod
    names are asked of the settled form of the world the pause finds; the pause edit leaves the pods alone.) -/
theorem pause_during (h : Hashing) (p : List Fault) (w : SyncIn) (a d : Nat)
    (hn : ((settle (applyEdit (.pause true) (worldFrom h [] 1 p w (a + 1)))).pods.map (·.name)).Nodup) :
    ∀ n, a + 2 ≤ n → n ≤ a + d + 2 →
      worldFrom h (pauseScript a d) 1 p w n = settle (applyEdit (.pause true) (worldFrom h [] 1 p w (a + 1)))
  | 0, h0, _ => by omega
  | n + 1, h1, h2 => by
    rw [worldFrom_step h (pauseScript a d), editsAt_pauseScript]
    by_cases e : n = a + 1
    · rw [if_pos (by omega), e, pause_before h p w a d (a + 1) le_rfl]
      exact (paused_round_is_settle h (applyEdit (.pause true) (worldFrom h [] 1 p w (a + 1))) _ rfl
        (round_viewInStep h _ _) hn).1
    · rw [if_neg (by omega), if_neg (by omega), pause_during h p w a d hn n (by omega) (by omega), applyEdits_nil]
      exact paused_settled_fixed h (applyEdit (.pause true) (worldFrom h [] 1 p w (a + 1))) _ rfl
        (round_viewInStep h _ _) hn

/-- every round of the pause is silent and shows the revisions and the status the never-paused run had when the pause began -/
theorem pause_rounds' (h : Hashing) (p : List Fault) (w : SyncIn) (a d : Nat)
    (hn : ((settle (worldFrom h [] 1 p w (a + 1))).pods.map (·.name)).Nodup) (k : Nat) (hk : k ≤ d) :
    (histRoundAt h (pauseScript a d) 1 p w (a + 1 + k)).obs.writes = 0 ∧
    (histRoundAt h (pauseScript a d) 1 p w (a + 1 + k)).obs.out = "ok" ∧
    (histRoundAt h (pauseScript a d) 1 p w (a + 1 + k)).obs.revs = (worldFrom h [] 1 p w (a + 1)).store ∧
    (histRoundAt h (pauseScript a d) 1 p w (a + 1 + k)).obs.status = (worldFrom h [] 1 p w (a + 1)).stored := by
  have hn' : ((settle (applyEdit (.pause true) (worldFrom h [] 1 p w (a + 1)))).pods.map (·.name)).Nodup := hn
  -- the first round of the pause runs on the paused world, the later ones on its settled form: the same round
  have key : (histRoundAt h (pauseScript a d) 1 p w (a + 1 + k)).obs =
      (round h (applyEdit (.pause true) (worldFrom h [] 1 p w (a + 1))) (planAt p (a + 1 + k))).2 := by
    rw [histRoundAt_obs, editsAt_pauseScript]
    cases k with
    | zero => rw [if_pos (by omega), pause_before h p w a d (a + 1) le_rfl]; rfl
    | succ k =>
      rw [if_neg (by omega), if_neg (by omega), pause_during h p w a d hn' _ (by omega) (by omega), applyEdits_nil,
        round_settle h _ _ hn']
  rw [key]
  exact (paused_round_is_settle h (applyEdit (.pause true) (worldFrom h [] 1 p w (a + 1))) _ rfl
    (round_viewInStep h _ _) hn').2

theorem traj_round_congr (h : Hashing) {s s' : Script} {j j' : Nat} {p p' : List Fault} {w w' : SyncIn} {n n' : Nat}
    (hw : worldFrom h s j p w (n + 1) = worldFrom h s' j' p' w' (n' + 1))
    (he : editsAt s (j + (n + 1)) = editsAt s' (j' + (n' + 1))) :
    (histRoundAt h s j p w (n + 1)).obs = (histRoundAt h s' j' p' w' (n' + 1)).obs ∧
    worldFrom h s j p w (n + 1 + 1) = worldFrom h s' j' p' w' (n' + 1 + 1) := by
  have hr : round h (applyEdits (editsAt s (j + (n + 1))) (worldFrom h s j p w (n + 1))) (planAt p (n + 1)) =
      round h (applyEdits (editsAt s' (j' + (n' + 1))) (worldFrom h s' j' p' w' (n' + 1))) (planAt p' (n' + 1)) := by
    rw [hw, he, planAt_succ, planAt_succ]
  exact ⟨congrArg Prod.snd hr, congrArg Prod.fst hr⟩

/-- **after the un-pause, round for round the never-paused run**: the `m`-th round from the un-pause on is the `m`-th round
    the never-paused run shows from the round in which the pause began — the same observation, the same next world -/
theorem pause_after' (h : Hashing) (p : List Fault) (w : SyncIn) (a d : Nat) (hnp : w.paused = false)
    (hn : ((settle (worldFrom h [] 1 p w (a + 1))).pods.map (·.name)).Nodup) :
    ∀ m, (histRoundAt h (pauseScript a d) 1 p w (a + d + 2 + m)).obs = (histRoundAt h [] 1 p w (a + 1 + m)).obs ∧
         worldFrom h (pauseScript a d) 1 p w (a + d + 2 + m + 1) = worldFrom h [] 1 p w (a + 1 + m + 1)
  | 0 => by
    -- the un-pause round runs on the settled form of the world the pause found
    have hr : round h (applyEdits (editsAt (pauseScript a d) (1 + (a + d + 2))) (worldFrom h (pauseScript a d) 1 p w (a + d + 2)))
          (planAt p (a + d + 2)) =
        round h (applyEdits (editsAt [] (1 + (a + 1))) (worldFrom h [] 1 p w (a + 1))) (planAt p (a + 1)) := by
      rw [pause_during h p w a d hn _ (by omega) le_rfl, editsAt_pauseScript, if_neg (by omega), if_pos (by omega),
        unpause_after_pause _ (worldFrom_paused_nil h p w hnp (a + 1)), round_settle h _ _ hn, editsAt_nil, applyEdits_nil,
        planAt_succ p (a + d + 1), planAt_succ p a]
    exact ⟨congrArg Prod.snd hr, congrArg Prod.fst hr⟩
  | m + 1 =>
    traj_round_congr h (n := a + d + 2 + m) (n' := a + 1 + m) (pause_after' h p w a d hnp hn m).2
      (by rw [editsAt_nil, editsAt_pauseScript, if_neg (by omega), if_neg (by omega)])

end Asts.WE
