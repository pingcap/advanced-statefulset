import Asts.Proofs.C02_Transfer
import Asts.Proofs.LogEntries
import Asts.Proofs.World_Pods

/-! C02: `Final` is stable under `settle` and under a whole round without faults. -/
namespace Asts.C02p
open Asts Asts.L1c

def setId (c : CPod) (k : Nat) : CPod := { c with pod := { c.pod with id := k } }

theorem key_setId (c : CPod) (k : Nat) : key (setId c k) = key c := rfl

theorem reindex_key (l : List CPod) : (reindex l).map key = l.map key := by
  unfold reindex
  rw [List.map_map]
  exact (List.map_map (g := key) (f := Prod.fst) (l := l.zipIdx)).symm.trans (congrArg _ (List.zipIdx_map_fst 0 l))

theorem keyPerm_reindex_sort (l : List CPod) : KeyPerm (reindex (sortPods l)) l := by
  unfold KeyPerm
  rw [reindex_key]
  exact List.Perm.map _ (sortPods_perm l)

def settleOne (c : CPod) : CPod :=
  if c.pod.failed || c.pod.succeeded then c else { c with pod := { c.pod with phase := .running, ready := true } }

theorem settle_pods (i : SyncIn) :
    (settle i).pods = reindex (sortPods ((i.pods.filter (fun c => !c.pod.terminating)).map settleOne)) := rfl

theorem settle_kp (i : SyncIn) : KeyPerm (settle i).pods ((i.pods.filter (fun c => !c.pod.terminating)).map settleOne) := by
  rw [settle_pods]; exact keyPerm_reindex_sort _

/-- what `settleOne` leaves alone is read off the list before it -/
theorem map_settleOne {β : Type} {f : CPod → β} (hf : ∀ c, f (settleOne c) = f c) (L : List CPod) :
    (L.map settleOne).map f = L.map f := by
  rw [List.map_map]
  exact List.map_congr_left (fun c _ => hf c)

theorem filter_settleOne {q : CPod → Bool} (hq : ∀ c, q (settleOne c) = q c) (L : List CPod) :
    (L.map settleOne).filter q = (L.filter q).map settleOne := by
  rw [List.filter_map, show (q ∘ settleOne) = q from funext hq]

/-- the fairness step adds no pods of a kind `q` that neither `settleOne` nor the id changes -/
theorem settle_filter_length_le (i : SyncIn) (q : CPod → Bool) (hq : ∀ c, q (settleOne c) = q c) (hk : ∀ c, q (key c) = q c) :
    ((settle i).pods.filter q).length ≤ (i.pods.filter q).length := by
  rw [((settle_kp i).filter q hk).length, filter_settleOne hq, List.length_map, List.filter_filter]
  apply List.Sublist.length_le
  apply List.monotone_filter_right
  intro c hc
  simp only [Bool.and_eq_true] at hc
  exact hc.1

/-- every pod the fairness step leaves comes, up to its id, from a non-terminating pod of the world -/
theorem settle_src (i : SyncIn) {x : CPod} (hx : x ∈ (settle i).pods) :
    ∃ c0 ∈ i.pods, c0.pod.terminating = false ∧ key (settleOne c0) = key x := by
  obtain ⟨y, hy, hk⟩ := (settle_kp i).mem hx
  rw [List.mem_map] at hy
  obtain ⟨c0, hc0, rfl⟩ := hy
  rw [List.mem_filter] at hc0
  exact ⟨c0, hc0.1, by simpa using hc0.2, hk⟩

theorem settleOne_healthy {c : CPod} (h : c.pod.healthy = true) : settleOne c = c := by
  obtain ⟨hrr, -, -, hf, hs⟩ := healthy_facts h
  unfold settleOne
  simp only [hf, hs, Bool.or_self, Bool.false_eq_true, if_false]
  unfold Pod.runningAndReady at hrr
  simp only [Bool.and_eq_true, beq_iff_eq] at hrr
  obtain ⟨name, pod, owner, sel, mem⟩ := c
  obtain ⟨id, ord, phase, ready, term, rev, idOk, stOk⟩ := pod
  simp only at hrr
  simp [hrr.1, hrr.2]

theorem settleOne_owner (c : CPod) : (settleOne c).owner = c.owner := by unfold settleOne; split_ifs <;> rfl
theorem settleOne_sel (c : CPod) : (settleOne c).selMatch = c.selMatch := by unfold settleOne; split_ifs <;> rfl
theorem settleOne_member (c : CPod) : (settleOne c).member = c.member := by unfold settleOne; split_ifs <;> rfl

theorem final_settle (h : Hashing) (i : SyncIn) (hf : Final h i) : Final h (settle i) := by
  have hp := (podsFinal_iff i).1 hf.pods
  have key1 := final_transfer h i i.view.stCurrentReplicas { gone := false, uidOk := true, deleting := i.view.deleting }
    (settle i).pods ?_ ?_ hf
  · exact key1
  · rw [settle_pods]
    refine ((keyPerm_reindex_sort _).filter (fun c => c.owner == .self) (fun _ => rfl)).trans ?_
    have : ((i.pods.filter (fun c => !c.pod.terminating)).map settleOne).filter (fun c => c.owner == .self) = ownPods i := by
      rw [filter_settleOne (q := fun c => c.owner == .self) (fun c => by simp only [settleOne_owner]), List.filter_filter]
      have hfe : (i.pods.filter (fun c => (c.owner == .self) && !c.pod.terminating)) = ownPods i := by
        unfold ownPods
        apply List.filter_congr
        intro c hc
        by_cases hs : c.owner = .self
        · have := (hp.own c hc hs).2.2.2.2.1
          simp [hs, (healthy_facts this).2.1]
        · have : (c.owner == Owner.self) = false := by simpa using hs
          simp [this]
      rw [hfe]
      conv_rhs => rw [← List.map_id (ownPods i)]
      apply List.map_congr_left
      intro c hc
      rw [mem_ownPods] at hc
      exact settleOne_healthy (hp.own c hc.1 hc.2).2.2.2.2.1
    rw [this]
    exact List.Perm.refl _
  · intro c hc hnone
    obtain ⟨c0, hc0, ht, hk⟩ := settle_src i hc
    obtain ⟨k, rfl⟩ := eq_of_key hk.symm
    exact ⟨c0, hc0, (settleOne_owner c0).symm.trans hnone, (settleOne_sel c0).symm, (settleOne_member c0).symm,
      fun ht' => absurd (ht.symm.trans ht') Bool.false_ne_true⟩

theorem applySync_final (h : Hashing) (j : SyncIn) (hf : Final h j) :
    applySync j [] (syncF h j []) =
      { j with view := { j.view with stCurrentReplicas := j.stored.current }, fresh := j.fresh,
               pods := reindex (sortPods j.pods) } := by
  rw [syncF_final h j hf]
  unfold applySync applyPatches
  simp only [List.take_zero, applyActs, Option.getD_none, Option.isSome_none, Bool.false_eq_true, if_false]
  rw [applyPatches_go_noPatch]
  intro e he
  simp only [List.mem_cons, List.not_mem_nil, or_false, or_self] at he
  rw [he]
  exact noPatch_of_few SYa.few_list_revs

theorem final_applySync (h : Hashing) (j : SyncIn) (hf : Final h j) : Final h (applySync j [] (syncF h j [])) := by
  rw [applySync_final h j hf]
  exact final_keyPerm h j _ _ (keyPerm_reindex_sort _) hf

theorem final_round (h : Hashing) (i : SyncIn) (hf : Final h i) : Final h (round h i []).1 := by
  rw [round_fst]
  exact final_applySync h _ (final_settle h i hf)

end Asts.C02p
