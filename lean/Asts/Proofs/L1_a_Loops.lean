import Asts.Proofs.L1_a_Prepare
import Asts.Spec.Reconcile
import Mathlib.Tactic

/-! # What each loop of `updateStatefulSet` appends to the action list

`J b pre a next` is the justification of one action `a` given the actions `pre` issued before it and the action `next`
issued right after it (`b` = "the reconcile ended without error"). `SegOK b L l` says every action of the segment `l`,
appended after `L`, is justified. Each loop appends a justified segment; `uss_seg` is the composition:
the whole action list of `updateStatefulSet` is justified, for every input. -/
namespace Asts
open List
open L1c (newPod_created)

section
variable (v : SetView) (cur upd : String) (pods : List Pod) (D : List Int)

/-- Justification of one action of the model, from the snapshot alone. -/
def J (b : Bool) (pre : List Action) (a : Action) (n : Option Action) : Prop :=
  match a with
  | .create o _ =>
    o ∈ D ∧ ((∀ q ∈ pods, q.ord ≠ o) ∨
             (∃ p ∈ pods, p.ord = o ∧ (p.failed || p.succeeded) = true ∧ Action.delete o p.id .replaceFailed ∈ pre) ∨
             (∃ p ∈ pods, p.ord = o ∧ p.created = false))
  | .delete o id .replaceFailed =>
    (∃ p ∈ pods, p.id = id ∧ p.ord = o ∧ o ∈ D ∧ (p.failed || p.succeeded) = true) ∧
      ((∃ rev, n = some (.create o rev)) ∨ (n = none ∧ b = false))
  | .delete o id .scaleDown => ∃ p ∈ pods, p.id = id ∧ p.ord = o ∧ o ∉ D
  | .delete o id .update =>
    v.strat ≠ .onDelete ∧ partOf v ≤ o ∧ o ∈ D ∧
      ((∃ p ∈ pods, p.id = id ∧ p.ord = o ∧ p.rev ≠ upd ∧ p.terminating = false ∧ (p.failed || p.succeeded) = false) ∨
       (id = freshId + o.toNat ∧ ∃ rev, rev ≠ upd ∧ Action.create o rev ∈ pre))
  | .update o => o ∈ D

def SegOK (b : Bool) : List Action → List Action → Prop
  | _, [] => True
  | L, a :: rest => J v upd pods D b L a rest.head? ∧ SegOK b (L ++ [a]) rest

variable {v cur upd pods D}

theorem J_mono {b : Bool} {pre : List Action} {a : Action} {n n' : Option Action}
    (h : J v upd pods D true pre a n) (hn : n = none ∨ n' = n) : J v upd pods D b pre a n' := by
  cases a with
  | create o rev => exact h
  | update o => exact h
  | delete o id why =>
    cases why with
    | scaleDown => exact h
    | update => exact h
    | replaceFailed =>
      obtain ⟨h1, h2⟩ := h
      refine ⟨h1, ?_⟩
      rcases h2 with ⟨rev, hrev⟩ | ⟨_, hf⟩
      · left
        rcases hn with hn | hn
        · rw [hn] at hrev; cases hrev
        · exact ⟨rev, by rw [hn, hrev]⟩
      · cases hf

theorem SegOK.append {b : Bool} {L l1 l2 : List Action}
    (h1 : SegOK v upd pods D true L l1) (h2 : SegOK v upd pods D b (L ++ l1) l2) :
    SegOK v upd pods D b L (l1 ++ l2) := by
  induction l1 generalizing L with
  | nil => simpa using h2
  | cons a rest ih =>
    obtain ⟨ha, hrest⟩ := h1
    refine ⟨J_mono ha ?_, ih hrest (by simpa using h2)⟩
    cases rest with
    | nil => left; rfl
    | cons x xs => right; rfl

theorem SegOK.nil {b : Bool} {L : List Action} : SegOK v upd pods D b L [] := trivial

/-- Every action of a justified list, with the actions before it and the one after it. -/
theorem SegOK.at {b : Bool} {L l pre post : List Action} {a : Action}
    (h : SegOK v upd pods D b L l) (hl : l = pre ++ a :: post) : J v upd pods D b (L ++ pre) a post.head? := by
  induction pre generalizing L l with
  | nil =>
    subst hl
    simpa using h.1
  | cons x xs ih =>
    subst hl
    have := ih h.2 rfl
    simpa using this

/-- what the replica loop needs to know of an entry of `reps` -/
def RepOK (v : SetView) (cur upd : String) (pods : List Pod) (D : List Int) (ip : Int × Pod) : Prop :=
  ip.1 ∈ D ∧ ip.2.ord = ip.1 ∧ (ip.2 ∈ pods ∨ (ip.2 = newPod v cur upd ip.1 ∧ ∀ q ∈ pods, q.ord ≠ ip.1))

/-- what is known of an entry of `reps` after the replica loop went past it (`A` = the actions so far) -/
def RepOK' (v : SetView) (cur upd : String) (pods : List Pod) (D : List Int) (A : List Action) (ip : Int × Pod) : Prop :=
  ip.1 ∈ D ∧ ip.2.ord = ip.1 ∧
    ((ip.2 ∈ pods ∧ (ip.2.failed || ip.2.succeeded) = false) ∨
     (ip.2 = newPod v cur upd ip.1 ∧ Action.create ip.1 ip.2.rev ∈ A))

theorem RepOK'.mono {A A' : List Action} {ip : Int × Pod} (h : RepOK' v cur upd pods D A ip)
    (hA : ∀ a ∈ A, a ∈ A') : RepOK' v cur upd pods D A' ip := by
  obtain ⟨h1, h2, h3⟩ := h
  refine ⟨h1, h2, ?_⟩
  rcases h3 with h3 | ⟨h3, h4⟩
  · exact Or.inl h3
  · exact Or.inr ⟨h3, hA _ h4⟩

theorem newPod_not_failed (i : Int) : ((newPod v cur upd i).failed || (newPod v cur upd i).succeeded) = false := by
  simp [newPod, Pod.failed, Pod.succeeded]

theorem ensurePod_acts_of_not_created {p : Pod} (hc : p.created = false) (f : Faults) (mono : Bool) (s : St) (i : Int) :
    (ensurePod cur upd f mono s i p).st.acts = s.acts ++ [.create i p.rev] := by
  rw [L1c.ensurePod_vacant _ _ _ _ _ _ hc]
  cases f.hit 0 i <;> cases mono <;> rfl

theorem ensurePod_acts_of_created {p : Pod} (hc : p.created = true) (f : Faults) (mono : Bool) (s : St) (i : Int) :
    (ensurePod cur upd f mono s i p).st.acts = s.acts ∨
      (ensurePod cur upd f mono s i p).st.acts = s.acts ++ [.update i] := by
  rw [L1c.ensurePod_created _ _ _ _ _ _ hc]
  by_cases h1 : (!p.healthy && mono) = true
  · rw [if_pos h1]; exact Or.inl rfl
  rw [if_neg h1]
  by_cases h3 : (p.idOk && p.stOk) = true
  · rw [if_pos h3]; exact Or.inl rfl
  rw [if_neg h3]
  cases f.hit 2 i <;> exact Or.inr rfl

theorem replicaStep_seg (f : Faults) (mono : Bool) (s : St) (i : Int) (p0 : Pod)
    (h : RepOK v cur upd pods D (i, p0)) :
    ∃ l, (replicaStep v cur upd f mono s i p0).1.st.acts = s.acts ++ l ∧
      SegOK v upd pods D (replicaStep v cur upd f mono s i p0).1.okFlag s.acts l ∧
      ((replicaStep v cur upd f mono s i p0).1.isNext = true →
        RepOK' v cur upd pods D (s.acts ++ l) (i, (replicaStep v cur upd f mono s i p0).2)) := by
  obtain ⟨hD, hord, hp0⟩ := h
  simp only at hD hord hp0
  cases hfs' : p0.fs
  · have hfs : (p0.failed || p0.succeeded) = false := hfs'
    rw [L1c.replicaStep_keep v cur upd f mono s i hfs']
    dsimp only
    cases hc : p0.created
    · -- no phase: the object is (re-)created
      refine ⟨[.create i p0.rev], ensurePod_acts_of_not_created hc .., ⟨⟨hD, ?_⟩, trivial⟩, fun _ => ⟨hD, hord, ?_⟩⟩
      · rcases hp0 with h | ⟨-, h⟩
        · exact Or.inr (Or.inr ⟨p0, h, hord, hc⟩)
        · exact Or.inl h
      · rcases hp0 with h | ⟨h, -⟩
        · exact Or.inl ⟨h, hfs⟩
        · exact Or.inr ⟨h, by simp⟩
    · -- a pod of the snapshot: at most an update
      have hmem : p0 ∈ pods := by
        rcases hp0 with h | ⟨h, -⟩
        · exact h
        · rw [h, newPod_created] at hc; cases hc
      have hrep : ∀ A, RepOK' v cur upd pods D A (i, p0) := fun _ => ⟨hD, hord, Or.inl ⟨hmem, hfs⟩⟩
      rcases ensurePod_acts_of_created hc f mono s i (cur := cur) (upd := upd) with he | he
      · exact ⟨[], by rw [he, List.append_nil], trivial, fun _ => hrep _⟩
      · exact ⟨[.update i], he, ⟨hD, trivial⟩, fun _ => hrep _⟩
  · -- a Failed/Succeeded pod: it is a pod of the snapshot
    have hfs : (p0.failed || p0.succeeded) = true := hfs'
    have hmem : p0 ∈ pods := by
      rcases hp0 with h | ⟨h, -⟩
      · exact h
      · rw [h, newPod_not_failed] at hfs; cases hfs
    have hdel : ∃ p ∈ pods, p.id = p0.id ∧ p.ord = i ∧ i ∈ D ∧ (p.failed || p.succeeded) = true :=
      ⟨p0, hmem, rfl, hord, hD, hfs⟩
    rw [L1c.replicaStep_replace v cur upd f mono s i hfs']
    by_cases hf : f.hit 1 i = true
    · rw [if_pos hf]
      exact ⟨[.delete i p0.id .replaceFailed], rfl, ⟨⟨hdel, Or.inr ⟨rfl, rfl⟩⟩, trivial⟩, fun h => nomatch h⟩
    · rw [if_neg hf]
      refine ⟨[.delete i p0.id .replaceFailed, .create i (newPod v cur upd i).rev], ?_, ?_, fun _ => ?_⟩
      · dsimp only
        rw [ensurePod_acts_of_not_created (newPod_created ..)]
        exact List.append_assoc ..
      · exact ⟨⟨hdel, Or.inl ⟨_, rfl⟩⟩, ⟨hD, Or.inr (Or.inl ⟨p0, hmem, hord, hfs, by simp⟩)⟩, trivial⟩
      · exact ⟨hD, rfl, Or.inr ⟨rfl, by simp⟩⟩

theorem replicaLoop_seg (f : Faults) (mono : Bool) (R : List (Int × Pod)) (hR : ∀ ip ∈ R, RepOK v cur upd pods D ip)
    (s : St) :
    ∃ l, (replicaLoop v cur upd f mono s R).1.st.acts = s.acts ++ l ∧
      SegOK v upd pods D (replicaLoop v cur upd f mono s R).1.okFlag s.acts l ∧
      ((replicaLoop v cur upd f mono s R).1.isNext = true →
        ∀ ip ∈ (replicaLoop v cur upd f mono s R).2, RepOK' v cur upd pods D (s.acts ++ l) ip) := by
  induction R generalizing s with
  | nil => exact ⟨[], (List.append_nil _).symm, trivial, fun _ _ h => nomatch h⟩
  | cons ip rest ih =>
    obtain ⟨i, p0⟩ := ip
    obtain ⟨l1, hl1, hseg1, hrep1⟩ := replicaStep_seg f mono s i p0 (hR _ List.mem_cons_self)
    unfold replicaLoop
    generalize replicaStep v cur upd f mono s i p0 = step at hl1 hseg1 hrep1 ⊢
    obtain ⟨c, p'⟩ := step
    cases c with
    | done s' o => exact ⟨l1, hl1, hseg1, fun h => nomatch h⟩
    | next s' =>
      simp only [Ctl.st_next, Ctl.okFlag_next, Ctl.isNext_next, forall_const] at hl1 hseg1 hrep1
      obtain ⟨l2, hl2, hseg2, hrep2⟩ := ih (fun ip hip => hR ip (List.mem_cons_of_mem _ hip)) s'
      simp only
      rw [hl1] at hl2 hseg2 hrep2
      refine ⟨l1 ++ l2, by rw [hl2, List.append_assoc], hseg1.append hseg2, ?_⟩
      intro hnext ip hip
      rw [← List.append_assoc]
      rcases List.mem_cons.1 hip with rfl | hip
      · exact hrep1.mono (fun a ha => List.mem_append_left _ ha)
      · exact hrep2 hnext ip hip

/-- scale-down deletes of condemned pods are justified wherever they stand and however the reconcile ends -/
theorem segOK_scaleDown (b : Bool) (ds : List Pod) (hds : ∀ c ∈ ds, c ∈ pods ∧ c.ord ∉ D) (L : List Action) :
    SegOK v upd pods D b L (ds.map fun c => Action.delete c.ord c.id .scaleDown) := by
  induction ds generalizing L with
  | nil => trivial
  | cons c rest ih =>
    rw [List.map_cons]
    have hc := hds c List.mem_cons_self
    exact ⟨⟨c, hc.1, rfl, rfl, hc.2⟩, ih (fun c hc => hds c (List.mem_cons_of_mem _ hc)) _⟩

theorem condemnedLoop_seg (f : Faults) (mono : Bool) (fu : Option Pod) (cs : List Pod)
    (hcs : ∀ c ∈ cs, c ∈ pods ∧ c.ord ∉ D) (s : St) :
    ∃ l, (condemnedLoop cur upd f mono fu s cs).st.acts = s.acts ++ l ∧
      SegOK v upd pods D (condemnedLoop cur upd f mono fu s cs).okFlag s.acts l := by
  obtain ⟨ds, hsub, h⟩ := L1c.condemnedLoop_acts cur upd f mono fu cs s
  exact ⟨_, h, segOK_scaleDown _ ds (fun c hc => hcs c (hsub.subset hc)) _⟩

theorem updateWalk_seg (f : Faults) (hstrat : v.strat ≠ .onDelete) (s : St) (W : List (Int × Pod))
    (hW : ∀ tp ∈ W, partOf v ≤ tp.1 ∧ RepOK' v cur upd pods D s.acts tp) :
    ∃ l, (updateWalk cur upd f s W).1.acts = s.acts ++ l ∧
      SegOK v upd pods D ((updateWalk cur upd f s W).2 == .ok) s.acts l := by
  induction W with
  | nil => exact ⟨[], (List.append_nil _).symm, trivial⟩
  | cons tp rest ih =>
    obtain ⟨hpart, hD, hord, hp⟩ := hW tp List.mem_cons_self
    unfold updateWalk
    by_cases h1 : (tp.2.rev != upd && !tp.2.terminating) = true
    · rw [if_pos h1]
      refine ⟨[.delete tp.1 tp.2.id .update], rfl, ⟨hstrat, hpart, hD, ?_⟩, trivial⟩
      rw [Bool.and_eq_true, bne_iff_ne, Bool.not_eq_true'] at h1
      rcases hp with ⟨hmem, hnf⟩ | ⟨hnew, hcr⟩
      · exact Or.inl ⟨tp.2, hmem, rfl, hord, h1.1, h1.2, hnf⟩
      · exact Or.inr ⟨by rw [hnew]; rfl, tp.2.rev, h1.1, hcr⟩
    · rw [if_neg h1]
      by_cases h2 : (!tp.2.healthy) = true
      · rw [if_pos h2]; exact ⟨[], (List.append_nil _).symm, trivial⟩
      · rw [if_neg h2]
        exact ih (fun tp htp => hW tp (List.mem_cons_of_mem _ htp))

theorem updateStage_seg (f : Faults) (reps : List (Int × Pod)) (s : St)
    (hreps : ∀ ip ∈ reps, RepOK' v cur upd pods D s.acts ip) :
    ∃ l, (updateStage v cur upd f reps s).1.acts = s.acts ++ l ∧
      SegOK v upd pods D ((updateStage v cur upd f reps s).2 == .ok) s.acts l := by
  unfold updateStage
  by_cases hs : (v.strat == .onDelete) = true
  · rw [if_pos hs]; exact ⟨[], (List.append_nil _).symm, trivial⟩
  · rw [if_neg hs]
    refine updateWalk_seg f (fun h => hs (beq_iff_eq.2 h)) s _ fun tp htp => ?_
    rw [List.mem_reverse, List.mem_filter] at htp
    exact ⟨of_decide_eq_true htp.2, hreps tp htp.1⟩

theorem runLoops_seg (f : Faults) (p : Prepared) (hp : PrepInv v cur upd pods D p) :
    SegOK v upd pods D ((runLoops v cur upd f p).2 == .ok) [] (runLoops v cur upd f p).1.acts := by
  unfold runLoops
  have hR : ∀ ip ∈ p.reps, RepOK v cur upd pods D ip := hp.rep
  obtain ⟨l1, hl1, hseg1, hrep1⟩ := replicaLoop_seg f (!v.parallel) p.reps hR { status := p.st0 }
  simp only
  generalize replicaLoop v cur upd f (!v.parallel) { status := p.st0 } p.reps = res at hl1 hseg1 hrep1 ⊢
  obtain ⟨c, reps'⟩ := res
  simp only [List.nil_append] at hl1 hseg1 hrep1
  cases c with
  | done s o =>
    simp only [Ctl.st_done, Ctl.okFlag_done] at hl1 hseg1 ⊢
    rw [hl1]; exact hseg1
  | next s =>
    simp only [Ctl.st_next, Ctl.okFlag_next, Ctl.isNext_next, forall_const] at hl1 hseg1 hrep1 ⊢
    have hcs : ∀ c ∈ p.condemned.reverse, c ∈ pods ∧ c.ord ∉ D := fun c hc => hp.cond c (List.mem_reverse.1 hc)
    obtain ⟨l2, hl2, hseg2⟩ := condemnedLoop_seg (v := v) (cur := cur) (upd := upd) f (!v.parallel) p.fu
      p.condemned.reverse hcs s
    generalize condemnedLoop cur upd f (!v.parallel) p.fu s p.condemned.reverse = c2 at hl2 hseg2 ⊢
    cases c2 with
    | done s' o =>
      simp only [Ctl.st_done, Ctl.okFlag_done] at hl2 hseg2 ⊢
      rw [hl2, hl1]
      have := hseg1.append (L := []) (by simpa [hl1] using hseg2)
      simpa using this
    | next s' =>
      simp only [Ctl.st_next, Ctl.okFlag_next] at hl2 hseg2 ⊢
      have hreps' : ∀ ip ∈ reps', RepOK' v cur upd pods D s'.acts ip := by
        intro ip hip
        refine (hrep1 ip hip).mono ?_
        intro a ha; rw [hl2, hl1]; exact List.mem_append_left _ ha
      obtain ⟨l3, hl3, hseg3⟩ := updateStage_seg f reps' s' hreps'
      rw [hl3, hl2, hl1]
      rw [hl2, hl1] at hseg3
      rw [hl1] at hseg2
      have h12 : SegOK v upd pods D true [] (l1 ++ l2) := hseg1.append (by simpa using hseg2)
      have := h12.append (L := []) (by simpa using hseg3)
      simpa using this

/-- **Every action `updateStatefulSet` issues is justified, for every spec, snapshot and fault plan.** -/
theorem uss_seg (v : SetView) (cur upd : String) (pods : List Pod) (f : Faults) :
    SegOK v upd pods (desired (replicasOf v) v.slots) ((updateStatefulSet v cur upd pods f).2 == .ok) []
      (updateStatefulSet v cur upd pods f).1.acts := by
  cases hr : v.replicas with
  | none =>
    rw [L1c.updateStatefulSet_none hr]
    exact SegOK.nil
  | some r =>
    have hrep : replicasOf v = r := by rw [replicasOf, hr]; rfl
    rw [L1c.updateStatefulSet_some hr, hrep]
    by_cases hdel : v.deleting = true
    · rw [if_pos hdel]
      exact SegOK.nil
    · rw [if_neg hdel]
      exact runLoops_seg f _ (prepOf_inv v cur upd pods r)

end
end Asts
