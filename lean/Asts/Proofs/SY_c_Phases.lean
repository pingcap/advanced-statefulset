import Asts.Proofs.Sync_Phases
import Asts.Proofs.SY_c_Events
import Asts.Proofs.SY_c_Retry

/-! # C09 (i): phase by phase — a phase that reports success has swallowed benign failures only

Every `_benign` lemma has the shape: if every fault that fired at a position `≥ n` of the log so far is benign
(`BenignFrom … n`), and the phase reports success, the same holds of the log the phase leaves. With `n :=` the length of
the log before the phase this reads: *a non-benign fault firing in this phase makes the phase fail.*
That a phase only appends to the log is read off the phase descriptions of `Sync_Phases` (`prefix_of_ext`). -/
namespace Asts.SYc

theorem prefix_of_ext {P : String → Prop} {a b : List String} (h : SYa.Ext P a b) : a <+: b := by
  obtain ⟨e, rfl, _⟩ := h
  exact List.prefix_append _ _

variable (cx : Cx) (plan : List Fault) (n : Nat)

theorem listRevsF_benign (s : RevSt) (h0 : BenignFrom cx plan n s.tr.log) :
    (listRevsF plan s).2 ≠ none → BenignFrom cx plan n (listRevsF plan s).1.tr.log := by
  unfold listRevsF
  simp only [call_eq]
  cases h1 : planAt plan "list:revs" (cnt s.tr.log "list:revs") with
  | some k => exact fun h => absurd rfl h
  | none =>
    dsimp only
    cases h2 : planAt plan "list:revs" (cnt (s.tr.log ++ ["list:revs"]) "list:revs") with
    | some k => exact fun h => absurd rfl h
    | none => exact fun _ => benignFrom_snoc_none (benignFrom_snoc_none h0 h1) h2

/-- one call `k` that must not fail; `upd` is its effect on the store -/
def callStep (plan : List Fault) (k : String) (upd : List Rev → List Rev) (s : RevSt) : RevSt × Bool :=
  match planAt plan k (cnt s.tr.log k) with
  | some _ => ({ s with tr := { log := s.tr.log ++ [k] } }, false)
  | none => ({ store := upd s.store, tr := { log := s.tr.log ++ [k] } }, true)

theorem callStep_benign (k : String) (upd : List Rev → List Rev) (s : RevSt) (h0 : BenignFrom cx plan n s.tr.log) :
    (callStep plan k upd s).2 = true → BenignFrom cx plan n (callStep plan k upd s).1.tr.log := by
  unfold callStep
  cases hp : planAt plan k (cnt s.tr.log k) with
  | some e => exact fun h => nomatch h
  | none => exact fun _ => benignFrom_snoc_none h0 hp

theorem callStep_nil (k : String) (upd : List Rev → List Rev) (s : RevSt) : (callStep [] k upd s).2 = true := rfl

theorem labelStep_eq (s : RevSt) (r : Rev) :
    SYa.labelStep plan s r =
      if r.marker then
        callStep plan (kUpdateRev r.name) (List.map fun x => if x.name == r.name then { x with selMatch := true } else x) s
      else (s, true) := rfl

theorem patchStep_eq (s : RevSt) (r : Rev) :
    SYa.patchStep plan s r =
      if r.owner != .none then (s, true)
      else callStep plan (kPatchRev r.name) (List.map fun x => if x.name == r.name then { x with owner := .self } else x) s :=
  rfl

/-- what follows the listing when it contains an orphan -/
def adoptTail (plan : List Fault) (fresh : Fresh) (revs : List Rev) (s1 : RevSt) : RevSt × Outcome :=
  let r1 := foldOk revs s1 (SYa.labelStep plan)
  if !r1.2 then (r1.1, .err) else
  let e := planAt plan "get:set" (cnt r1.1.tr.log "get:set")
  let s2 : RevSt := { r1.1 with tr := { log := r1.1.tr.log ++ ["get:set"] } }
  if e.isSome || fresh.gone || !fresh.uidOk || fresh.deleting then (s2, .err) else
  let r2 := foldOk revs s2 (SYa.patchStep plan)
  (r2.1, if r2.2 then .ok else .err)

/-- `adoptOrphanRevisionsF`, cut into stages (definitional) -/
theorem adopt_eq (del : Bool) (fresh : Fresh) (s : RevSt) :
    adoptOrphanRevisionsF plan del fresh s =
      if del then (s, .ok) else
      match listRevsF plan s with
      | (s, none) => (s, .err)
      | (s, some revs) => if !(revs.any (·.owner == .none)) then (s, .ok) else adoptTail plan fresh revs s := rfl

theorem labelStep_benign (s : RevSt) (r : Rev) (h0 : BenignFrom cx plan n s.tr.log)
    (hok : (SYa.labelStep plan s r).2 = true) : BenignFrom cx plan n (SYa.labelStep plan s r).1.tr.log := by
  rw [labelStep_eq] at hok ⊢
  split_ifs at hok ⊢
  · exact callStep_benign cx plan n _ _ s h0 hok
  · exact h0

theorem patchStep_benign (s : RevSt) (r : Rev) (h0 : BenignFrom cx plan n s.tr.log)
    (hok : (SYa.patchStep plan s r).2 = true) : BenignFrom cx plan n (SYa.patchStep plan s r).1.tr.log := by
  rw [patchStep_eq] at hok ⊢
  split_ifs at hok ⊢
  · exact h0
  · exact callStep_benign cx plan n _ _ s h0 hok

theorem adoptTail_benign (fresh : Fresh) (revs : List Rev) (s : RevSt) (h0 : BenignFrom cx plan n s.tr.log) :
    (adoptTail plan fresh revs s).2 = .ok → BenignFrom cx plan n (adoptTail plan fresh revs s).1.tr.log := by
  unfold adoptTail
  dsimp only
  have cases := @ite_ind _ (fun r : RevSt × Outcome => r.2 = .ok → BenignFrom cx plan n r.1.tr.log)
  refine cases (fun _ h => Outcome.noConfusion h) (fun hok1 => cases (fun _ h => Outcome.noConfusion h) (fun hfr hok2 => ?_))
  have h1 := foldOk_inv_ok (fun s : RevSt => BenignFrom cx plan n s.tr.log) _ revs s h0
    (fun b r _ hb hs => labelStep_benign cx plan n b r hb hs) (by simpa using hok1)
  have hget : planAt plan "get:set" (cnt (foldOk revs s (SYa.labelStep plan)).1.tr.log "get:set") = none := by
    simp only [Bool.or_eq_true, not_or] at hfr
    exact Option.not_isSome_iff_eq_none.1 hfr.1.1.1
  refine foldOk_inv_ok (fun s : RevSt => BenignFrom cx plan n s.tr.log) _ revs _ (benignFrom_snoc_none h1 hget)
    (fun b r _ hb hs => patchStep_benign cx plan n b r hb hs) ?_
  by_contra hne
  rw [if_neg hne] at hok2
  cases hok2

theorem adopt_benign (del : Bool) (fresh : Fresh) (s : RevSt)
    (h0 : BenignFrom cx plan n s.tr.log) (hok : (adoptOrphanRevisionsF plan del fresh s).2 = .ok) :
    BenignFrom cx plan n (adoptOrphanRevisionsF plan del fresh s).1.tr.log := by
  rw [adopt_eq] at hok ⊢
  split_ifs at hok ⊢ with hdel
  · exact h0
  · have hl := listRevsF_benign cx plan n s h0
    rcases hls : listRevsF plan s with ⟨s1, _ | revs⟩
    · rw [hls] at hok
      cases hok
    · rw [hls] at hl hok
      have h1 : BenignFrom cx plan n s1.tr.log := hl (fun e => nomatch e)
      dsimp only at hok ⊢
      split_ifs at hok ⊢ with hany
      · exact h1
      · exact adoptTail_benign cx plan n fresh revs s1 h1 hok

theorem adoptTail_no_panic (fresh : Fresh) (revs : List Rev) (s : RevSt) (site : String) :
    (adoptTail plan fresh revs s).2 ≠ .panic site := by
  unfold adoptTail
  dsimp only
  have cases := @ite_ind _ (fun r : RevSt × Outcome => r.2 ≠ .panic site)
  refine cases (fun _ => Outcome.noConfusion) (fun _ => cases (fun _ => Outcome.noConfusion) (fun _ => ?_))
  exact ite_ind (P := fun o : Outcome => o ≠ .panic site) (fun _ => Outcome.noConfusion) (fun _ => Outcome.noConfusion)

/-- the adoption phase never panics -/
theorem adopt_no_panic (del : Bool) (fresh : Fresh) (s : RevSt) (site : String) :
    (adoptOrphanRevisionsF plan del fresh s).2 ≠ .panic site := by
  rw [adopt_eq]
  cases del with
  | true => exact Outcome.noConfusion
  | false =>
    rw [if_neg Bool.false_ne_true]
    rcases listRevsF plan s with ⟨s1, _ | revs⟩
    · exact Outcome.noConfusion
    · dsimp only
      split_ifs
      · exact Outcome.noConfusion
      · exact adoptTail_no_panic plan fresh revs s1 site

/-- the once-only uncached check of `CanAdopt` -/
def canAdoptStep (plan : List Fault) (fresh : Fresh) (o : ClaimOutF) : ClaimOutF × Bool :=
  match o.canAdopt with
  | some b => (o, b)
  | none =>
    let e := planAt plan "get:set" (cnt o.tr.log "get:set")
    let b := e.isNone && !fresh.gone && fresh.uidOk && !fresh.deleting
    ({ o with tr := { log := o.tr.log ++ ["get:set"] }, canAdopt := some b }, b)

/-- `ClaimPods`, one pod -/
theorem claimStep_eq (del : Bool) (fresh : Fresh) (o : ClaimOutF) (c : CPod) :
    SYa.claimStep plan del fresh o c =
  match claimDecision del c with
  | .keep => { o with claimed := o.claimed ++ [c] }
  | .ignore => o
  | .release =>
    let o' := { o with tr := { log := o.tr.log ++ [kPatchPod c.name] } }
    match planAt plan (kPatchPod c.name) (cnt o.tr.log (kPatchPod c.name)) with
    | some .notFound | some .invalid | none => o'
    | some _ => { o' with failed := true }
  | .adopt =>
    let oc := canAdoptStep plan fresh o
    if !oc.2 then { oc.1 with failed := true }
    else
      let o' := { oc.1 with tr := { log := oc.1.tr.log ++ [kPatchPod c.name] } }
      match planAt plan (kPatchPod c.name) (cnt oc.1.tr.log (kPatchPod c.name)) with
      | none => { o' with claimed := o'.claimed ++ [c] }
      | some .notFound => o'
      | some _ => { o' with failed := true } := rfl

theorem canAdoptStep_benign (fresh : Fresh) (o : ClaimOutF) (h0 : BenignFrom cx plan n o.tr.log)
    (hb : (canAdoptStep plan fresh o).2 = true) : BenignFrom cx plan n (canAdoptStep plan fresh o).1.tr.log := by
  unfold canAdoptStep at hb ⊢
  cases hc : o.canAdopt with
  | some b => exact h0
  | none =>
    rw [hc] at hb
    simp only [Bool.and_eq_true, Option.isNone_iff_eq_none] at hb
    exact benignFrom_snoc_none h0 hb.1.1.1

theorem canAdoptStep_failed (fresh : Fresh) (o : ClaimOutF) : (canAdoptStep plan fresh o).1.failed = o.failed := by
  unfold canAdoptStep
  cases o.canAdopt <;> rfl

/-- one pod of the claim loop: as long as nothing has been recorded as failed, every fault that fired is benign -/
theorem claimStep_benign (del : Bool) (fresh : Fresh) (o : ClaimOutF) (c : CPod) (hc : c ∈ cx.pods)
    (hnm : cx.nameOk c.name) (h0 : o.failed = false → BenignFrom cx plan n o.tr.log) :
    (SYa.claimStep plan del fresh o c).failed = false →
      BenignFrom cx plan n (SYa.claimStep plan del fresh o c).tr.log := by
  rw [claimStep_eq]
  cases hd : claimDecision del c <;> dsimp only
  · exact h0
  · -- adopt: only NotFound on the patch is swallowed
    split_ifs with hcan
    · exact fun h => nomatch h
    · have h1 : o.failed = false → BenignFrom cx plan n (canAdoptStep plan fresh o).1.tr.log :=
        fun hf => canAdoptStep_benign cx plan n fresh o (h0 hf) (by simpa using hcan)
      cases hp : planAt plan (kPatchPod c.name) (cnt (canAdoptStep plan fresh o).1.tr.log (kPatchPod c.name)) with
      | none => exact fun hf => benignFrom_snoc_none (h1 (canAdoptStep_failed plan fresh o ▸ hf)) hp
      | some k =>
        cases k with
        | notFound =>
          exact fun hf => benignFrom_snoc (h1 (canAdoptStep_failed plan fresh o ▸ hf))
            (hp ▸ benign_notFound_patchPod _ hnm)
        | _ => exact fun hf => nomatch hf
  · -- release: NotFound and Invalid on the patch are swallowed
    cases hp : planAt plan (kPatchPod c.name) (cnt o.tr.log (kPatchPod c.name)) with
    | none => exact fun hf => benignFrom_snoc_none (h0 hf) hp
    | some k =>
      cases k with
      | notFound => exact fun hf => benignFrom_snoc (h0 hf) (hp ▸ benign_notFound_patchPod _ hnm)
      | invalid =>
        exact fun hf => benignFrom_snoc (h0 hf)
          (hp ▸ benign_invalid_release _ hc ((SYa.claimDecision_release_iff del c).1 hd).1 hnm)
      | _ => exact fun hf => nomatch hf
  · exact h0

theorem claim_prefix (del : Bool) (fresh : Fresh) (ps : List CPod) (tr : Tr) :
    tr.log <+: (claimPodsF plan del fresh ps tr).tr.log := by
  obtain ⟨ext, h, _⟩ := SYa.claimPodsF_appends plan del fresh ps tr
  rw [h]
  exact List.prefix_append _ _

/-- `claimPodsF`: if no claim failed, the faults that fired are NotFound on a patch or Invalid on a release patch -/
theorem claim_benign (del : Bool) (fresh : Fresh) (tr : Tr) (hnm : ∀ c ∈ cx.pods, cx.nameOk c.name)
    (h0 : BenignFrom cx plan n tr.log)
    (hok : (claimPodsF plan del fresh cx.pods tr).failed = false) :
    BenignFrom cx plan n (claimPodsF plan del fresh cx.pods tr).tr.log := by
  rw [SYa.claimPodsF_eq_foldl] at hok ⊢
  exact SYa.foldl_inv (fun o : ClaimOutF => o.failed = false → BenignFrom cx plan n o.tr.log) _ cx.pods _ (fun _ => h0)
    (fun o c hc ho => claimStep_benign cx plan n del fresh o c hc (hnm c hc) ho) hok

/-- a renumbering that succeeded saw Conflicts only (absorbed by the retry loop), each followed by the refreshing Get
    whose own failure is ignored -/
theorem renumberF_benign (name : String) (m : Int) (hnm : cx.nameOk name) :
    ∀ (fuel : Nat) (s : RevSt), BenignFrom cx plan n s.tr.log → (renumberF plan name m fuel s).2 = true →
      BenignFrom cx plan n (renumberF plan name m fuel s).1.tr.log
  | 0, _, _, hok => nomatch hok
  | fuel + 1, s, h0, hok => by
    rw [renumberF_succ] at hok ⊢
    cases hp : planAt plan (kUpdateRev name) (cnt s.tr.log (kUpdateRev name)) with
    | none => exact benignFrom_snoc_none h0 hp
    | some k =>
      rw [hp] at hok
      dsimp only at hok ⊢
      split_ifs at hok ⊢ with hk
      refine renumberF_benign name m hnm fuel _ (benignFrom_snoc (benignFrom_snoc h0 ?_) ?_) hok
      · rw [hp, hk]
        exact benign_conflict_updateRev _ hnm
      · rw [events_getLast_snoc, hp]
        exact benign_refresh hnm k _

theorem createRevLoopF_succ (h : Hashing) (fresh : Rev) (fuel : Nat) (cc : Int) (s : RevSt) :
    createRevLoopF h plan fresh (fuel + 1) cc s =
      let nm := h.nameOf fresh.data cc
      let e := planAt plan (kCreateRev nm) (cnt s.tr.log (kCreateRev nm))
      let s1 : RevSt := { s with tr := { log := s.tr.log ++ [kCreateRev nm] } }
      let exists_ := s.store.find? (·.name == nm)
      let kind : Option ErrKind :=
        match e with | some k => some k | none => if exists_.isSome then some .alreadyExists else none
      match kind with
      | none =>
        let r := { fresh with name := nm, hashNum := h.hashNumOf fresh.data cc }
        ({ s1 with store := insertByName r s1.store }, some (r, cc))
      | some .alreadyExists =>
        let e2 := planAt plan (kGetRev nm) (cnt s1.tr.log (kGetRev nm))
        let s2 : RevSt := { s1 with tr := { log := s1.tr.log ++ [kGetRev nm] } }
        match e2, exists_ with
        | none, some ex =>
          if ex.data == fresh.data then (s2, some (ex, cc)) else createRevLoopF h plan fresh fuel (cc + 1) s2
        | _, _ => (s2, none)
      | some _ => (s1, none) := by
  rw [createRevLoopF]; rfl

/-- a probe for a free name that succeeded saw AlreadyExists answers only -/
theorem createRevLoopF_benign (h : Hashing) (fresh : Rev) (hh : ∀ d c, cx.nameOk (h.nameOf d c)) :
    ∀ (fuel : Nat) (cc : Int) (s : RevSt), BenignFrom cx plan n s.tr.log →
      (createRevLoopF h plan fresh fuel cc s).2 ≠ none →
      BenignFrom cx plan n (createRevLoopF h plan fresh fuel cc s).1.tr.log
  | 0, _, _, _, hok => by simp [createRevLoopF] at hok
  | fuel + 1, cc, s, h0, hok => by
    rw [createRevLoopF_succ] at hok ⊢
    simp only at hok ⊢
    have hcreate : ∀ k, (match planAt plan (kCreateRev (h.nameOf fresh.data cc)) (cnt s.tr.log (kCreateRev (h.nameOf fresh.data cc))) with
          | some k => some k
          | none => if (s.store.find? (fun r : Rev => r.name == h.nameOf fresh.data cc)).isSome then some ErrKind.alreadyExists else none) = k →
        (k = none ∨ k = some .alreadyExists) →
        BenignFrom cx plan n (s.tr.log ++ [kCreateRev (h.nameOf fresh.data cc)]) := by
      intro k hk hk'
      refine benignFrom_snoc h0 ?_
      cases hp : planAt plan (kCreateRev (h.nameOf fresh.data cc)) (cnt s.tr.log (kCreateRev (h.nameOf fresh.data cc))) with
      | none => exact benign_none _ _ _
      | some k' =>
        rw [hp] at hk
        simp only at hk
        rcases hk' with hk' | hk'
        · rw [hk'] at hk; cases hk
        · rw [hk'] at hk
          cases hk
          exact benign_exists_createRev _ (hh _ _)
    generalize hkind : (match planAt plan (kCreateRev (h.nameOf fresh.data cc)) (cnt s.tr.log (kCreateRev (h.nameOf fresh.data cc))) with
          | some k => some k
          | none => if (s.store.find? (fun r : Rev => r.name == h.nameOf fresh.data cc)).isSome then some ErrKind.alreadyExists else none) = kind
      at hok ⊢
    rcases kind with _ | k
    · exact hcreate _ hkind (Or.inl rfl)
    · have hne : k = .alreadyExists := by
        by_contra hne
        cases k <;> simp at hne <;> simp at hok
      subst hne
      simp only at hok ⊢
      have h1 := hcreate _ hkind (Or.inr rfl)
      generalize he2 : planAt plan (kGetRev (h.nameOf fresh.data cc))
        (cnt (s.tr.log ++ [kCreateRev (h.nameOf fresh.data cc)]) (kGetRev (h.nameOf fresh.data cc))) = e2 at hok ⊢
      generalize hex : s.store.find? (fun r : Rev => r.name == h.nameOf fresh.data cc) = ex at hok ⊢
      rcases e2 with _ | k2 <;> rcases ex with _ | ex <;> simp only at hok ⊢ <;> first | (exfalso; simp at hok; done) | skip
      have h2 : BenignFrom cx plan n (s.tr.log ++ [kCreateRev (h.nameOf fresh.data cc)] ++ [kGetRev (h.nameOf fresh.data cc)]) :=
        benignFrom_snoc_none h1 he2
      split_ifs at hok ⊢
      · exact h2
      · exact createRevLoopF_benign h fresh hh fuel _ _ h2 hok

/-- the revision object the template hashes to -/
def freshRev (h : Hashing) (template : String) (cc0 : Int) (revs : List Rev) : Rev :=
  { name := h.nameOf template cc0, number := nextRevision revs, ctime := 0, data := template,
    hashNum := h.hashNumOf template cc0, owner := .self, selMatch := true, marker := false }

theorem pickF_benign (h : Hashing) (fresh : Rev) (cc0 : Int) (revs : List Rev) (s : RevSt)
    (hh : ∀ d c, cx.nameOk (h.nameOf d c)) (hrevs : ∀ r ∈ revs, cx.nameOk r.name)
    (h0 : BenignFrom cx plan n s.tr.log) :
    (SYa.pickF h plan fresh cc0 revs s).2 ≠ none → BenignFrom cx plan n (SYa.pickF h plan fresh cc0 revs s).1.tr.log := by
  unfold SYa.pickF
  split
  · rename_i e l ha _
    have he : cx.nameOk e.name := hrevs e (List.mem_filter.1 (List.mem_of_getLast? ha)).1
    split_ifs with h1 h2
    · exact fun _ => h0
    · exact fun _ => h0
    · dsimp only
      split_ifs with h3
      · exact fun _ => renumberF_benign cx plan n _ _ he 4 s h0 h3
      · exact fun hok => absurd rfl hok
  · exact createRevLoopF_benign cx plan n h fresh hh _ _ _ h0

/-- `getStatefulSetRevisions`: if it delivered revisions, the faults that fired were Conflicts on the renumbering Update
    (with their refreshing Gets) or AlreadyExists on a revision Create -/
theorem getRevisionsF_benign (h : Hashing) (template scr : String) (cc0 : Int) (revs : List Rev) (s : RevSt)
    (hh : ∀ d c, cx.nameOk (h.nameOf d c)) (hrevs : ∀ r ∈ revs, cx.nameOk r.name)
    (h0 : BenignFrom cx plan n s.tr.log) (hok : (getRevisionsF h plan template scr cc0 revs s).2 ≠ none) :
    BenignFrom cx plan n (getRevisionsF h plan template scr cc0 revs s).1.tr.log := by
  rw [SYa.getRevisionsF_eq] at hok ⊢
  have := pickF_benign cx plan n h (SYa.freshRev h template cc0 revs) cc0 revs s hh hrevs h0
  rcases hp : SYa.pickF h plan (SYa.freshRev h template cc0 revs) cc0 revs s with ⟨s1, _ | ⟨upd, cc⟩⟩
  · rw [hp] at hok
    exact absurd rfl hok
  · rw [hp] at this
    exact this (fun e => nomatch e)

/-- a status write that succeeded saw Conflicts only (absorbed by the retry loop) -/
theorem statusWriteF_benign (gone : Bool) :
    ∀ (fuel : Nat) (t : Tr), BenignFrom cx plan n t.log → (statusWriteF plan gone fuel t).2 = true →
      BenignFrom cx plan n (statusWriteF plan gone fuel t).1.log
  | 0, _, _, hok => nomatch hok
  | fuel + 1, t, h0, hok => by
    rw [statusWriteF_succ] at hok ⊢
    cases hp : planAt plan "updatestatus" (cnt t.log "updatestatus") with
    | none => exact benignFrom_snoc_none h0 hp
    | some k =>
      rw [hp] at hok
      dsimp only at hok ⊢
      split_ifs at hok ⊢ with hk
      refine statusWriteF_benign gone fuel _ (benignFrom_snoc h0 ?_) hok
      rw [hp, hk]
      exact benign_conflict_status _ _

theorem truncStep_eq (s : RevSt) (r : Rev) :
    SYa.truncStep plan s r =
      if (planAt plan (kDeleteRev r.name) (cnt s.tr.log (kDeleteRev r.name))).isSome ||
          !(s.store.any (·.name == r.name)) then
        ({ s with tr := { log := s.tr.log ++ [kDeleteRev r.name] } }, false)
      else ({ store := s.store.filter (·.name != r.name), tr := { log := s.tr.log ++ [kDeleteRev r.name] } }, true) := rfl

theorem truncStep_benign (s : RevSt) (r : Rev) (h0 : BenignFrom cx plan n s.tr.log)
    (hok : (SYa.truncStep plan s r).2 = true) : BenignFrom cx plan n (SYa.truncStep plan s r).1.tr.log := by
  rw [truncStep_eq] at hok ⊢
  split_ifs at hok ⊢ with hc
  simp only [Bool.or_eq_true, not_or, Option.isSome_iff_ne_none, ne_eq, not_not] at hc
  exact benignFrom_snoc_none h0 hc.1

/-- a truncation that did not end `.err` saw no fault at all (a panic — nil history limit — makes no call) -/
theorem truncateF_benign (limit : Option Int) (podRevs : List String) (revs : List Rev) (cur upd : Rev) (s : RevSt)
    (h0 : BenignFrom cx plan n s.tr.log) (hok : (truncateF plan limit podRevs revs cur upd s).2 ≠ .err) :
    BenignFrom cx plan n (truncateF plan limit podRevs revs cur upd s).1.tr.log := by
  rw [SYa.truncateF_eq] at hok ⊢
  cases limit with
  | none => exact h0
  | some lim =>
    simp only at hok ⊢
    split_ifs at hok ⊢ with h1 h2
    · exact h0
    · exact foldOk_inv_ok (fun s : RevSt => BenignFrom cx plan n s.tr.log) _ _ s h0
        (fun b r _ hb hs => truncStep_benign cx plan n b r hb hs) h2
    · exact absurd rfl hok

end Asts.SYc
