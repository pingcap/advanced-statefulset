import Asts.Model.Patch
import Asts.Spec.Patch
import Mathlib.Tactic
/-! # Proofs about `Model/Patch`: `getPatch` reads only `spec.template`, is injective in it, and the replace patch restores it -/
namespace Asts.Patch

theorem lookup_setKey_ne {k k' : String} (v : Json) (o : Obj) (h : k' ≠ k) : lookup k' (setKey k v o) = lookup k' o := by
  induction o with
  | nil => simp [setKey, lookup, Ne.symm h]
  | cons p rest ih =>
    obtain ⟨k0, v0⟩ := p
    by_cases h0 : k0 = k
    · subst h0; simp [setKey, lookup, Ne.symm h]
    · simp only [setKey, h0, if_false, lookup, ih]

theorem lookup_setKey_self (k : String) (v : Json) (o : Obj) : lookup k (setKey k v o) = some v := by
  induction o with
  | nil => simp [setKey, lookup]
  | cons p rest ih =>
    obtain ⟨k0, v0⟩ := p
    by_cases h0 : k0 = k
    · simp [setKey, lookup, h0]
    · simp only [setKey, h0, if_false, lookup, ih]

theorem lookup_eraseKey_ne {k k' : String} (o : Obj) (h : k' ≠ k) : lookup k' (eraseKey k o) = lookup k' o := by
  induction o with
  | nil => simp [eraseKey, lookup]
  | cons p rest ih =>
    obtain ⟨k0, v0⟩ := p
    by_cases h0 : k0 = k
    · subst h0; simp [eraseKey, lookup, ih, Ne.symm h]
    · simp only [eraseKey, h0, if_false, lookup, ih]

theorem lookup_insertKey_self (k : String) (v : Json) (o : Obj) : lookup k (insertKey k v o) = some v := by
  induction o with
  | nil => simp [insertKey, lookup]
  | cons p rest ih =>
    obtain ⟨k0, v0⟩ := p
    unfold insertKey
    by_cases h1 : k < k0
    · simp [h1, lookup]
    · by_cases h2 : k = k0
      · simp [h2, lookup]
      · simp [h1, h2, lookup, Ne.symm h2, ih]

theorem eraseKey_of_not_hasKey (k : String) (o : Obj) (h : hasKey k o = false) : eraseKey k o = o := by
  induction o with
  | nil => rfl
  | cons p rest ih =>
    obtain ⟨k0, v0⟩ := p
    by_cases h0 : k0 = k
    · simp [hasKey, h0] at h
    · simp only [hasKey, h0, if_false] at h
      simp only [eraseKey, h0, if_false, ih h]

theorem eraseKey_insertKey (k : String) (v : Json) (o : Obj) (h : hasKey k o = false) : eraseKey k (insertKey k v o) = o := by
  induction o with
  | nil => simp [insertKey, eraseKey]
  | cons p rest ih =>
    obtain ⟨k0, v0⟩ := p
    have h0 : k0 ≠ k := by intro e; simp [hasKey, e] at h
    have hr : hasKey k rest = false := by simpa [hasKey, h0] using h
    unfold insertKey
    by_cases h1 : k < k0
    · simp [h1, eraseKey, h0, eraseKey_of_not_hasKey k rest hr]
    · have h2 : ¬ k = k0 := fun e => h0 e.symm
      simp [h1, h2, eraseKey, h0, ih hr]

theorem insertKey_injective (k : String) (v : Json) (o₁ o₂ : Obj) (h₁ : hasKey k o₁ = false) (h₂ : hasKey k o₂ = false)
    (h : insertKey k v o₁ = insertKey k v o₂) : o₁ = o₂ := by
  have := congrArg (eraseKey k) h
  rwa [eraseKey_insertKey k v o₁ h₁, eraseKey_insertKey k v o₂ h₂] at this

theorem getPatch_congr (s₁ s₂ : Json) (h : template? s₁ = template? s₂) : getPatch s₁ = getPatch s₂ := by
  simp [getPatch, h]

theorem getPatch_eq_some (s : Json) (t : Obj) (h : template? s = some t) : getPatch s = some (patchOf t) := by
  simp [getPatch, h]

theorem getPatch_isSome_iff (s : Json) : (getPatch s).isSome = (template? s).isSome := by
  unfold getPatch; cases template? s <;> rfl

/-- an edit of a top-level member other than `spec` (metadata — labels, annotations incl. delete-slots and pause, generation, resourceVersion,
    finalizers, owners, timestamps —, status, kind, apiVersion) leaves the template the patch reads unchanged -/
theorem template_setTop (k : String) (v : Json) (top : Obj) (hk : k ≠ "spec") :
    template? (.obj (setKey k v top)) = template? (.obj top) := by
  simp only [template?, lookup_setKey_ne v top (Ne.symm hk)]

theorem template_eraseTop (k : String) (top : Obj) (hk : k ≠ "spec") :
    template? (.obj (eraseKey k top)) = template? (.obj top) := by
  simp only [template?, lookup_eraseKey_ne top (Ne.symm hk)]

/-- an edit of a member of `spec` other than `template` (replicas, serviceName, selector, updateStrategy, podManagementPolicy,
    revisionHistoryLimit, volumeClaimTemplates) leaves the template the patch reads unchanged -/
theorem template_setSpec (k : String) (v : Json) (top spec : Obj) (hk : k ≠ "template") (hs : lookup "spec" top = some (.obj spec)) :
    template? (.obj (setKey "spec" (.obj (setKey k v spec)) top)) = template? (.obj top) := by
  simp only [template?, lookup_setKey_self, hs, lookup_setKey_ne v spec (Ne.symm hk)]

theorem template_eraseSpec (k : String) (top spec : Obj) (hk : k ≠ "template") (hs : lookup "spec" top = some (.obj spec)) :
    template? (.obj (setKey "spec" (.obj (eraseKey k spec)) top)) = template? (.obj top) := by
  simp only [template?, lookup_setKey_self, hs, lookup_eraseKey_ne spec (Ne.symm hk)]

theorem patchOf_injective (t₁ t₂ : Obj) (h₁ : hasKey directiveKey t₁ = false) (h₂ : hasKey directiveKey t₂ = false)
    (h : patchOf t₁ = patchOf t₂) : t₁ = t₂ := by
  simp only [patchOf, Json.obj.injEq, List.cons.injEq, Prod.mk.injEq, and_true, true_and] at h
  exact insertKey_injective _ _ _ _ h₁ h₂ h

theorem patchTemplate_patchOf (t : Obj) : patchTemplate? (patchOf t) = some (insertKey directiveKey (.str "replace") t) := by
  simp [patchTemplate?, patchOf]

theorem applyReplacePatch_patchOf (top spec t : Obj) (hs : lookup "spec" top = some (.obj spec)) (ht : hasKey directiveKey t = false) :
    applyReplacePatch (.obj top) (patchOf t) = some (.obj (setKey "spec" (.obj (setKey "template" (.obj t) spec)) top)) := by
  simp only [applyReplacePatch, patchTemplate_patchOf, lookup_insertKey_self, hs, if_true, eraseKey_insertKey _ _ _ ht]

theorem template_after_apply (top spec t : Obj) :
    template? (.obj (setKey "spec" (.obj (setKey "template" (.obj t) spec)) top)) = some t := by
  simp only [template?, lookup_setKey_self]

end Asts.Patch

namespace Asts.Patch

/-- top-level members other than `spec` are untouched by the restore -/
theorem member_after_apply_top (k : String) (top spec t : Obj) (hk : k ≠ "spec") :
    lookup k (setKey "spec" (.obj (setKey "template" (.obj t) spec)) top) = lookup k top :=
  lookup_setKey_ne _ top hk

/-- members of `spec` other than `template` are untouched by the restore -/
theorem member_after_apply_spec (k : String) (spec t : Obj) (hk : k ≠ "template") :
    lookup k (setKey "template" (.obj t) spec) = lookup k spec :=
  lookup_setKey_ne _ spec hk

end Asts.Patch

namespace Asts.Patch
open Spec

theorem sameTree_refl (a : Json) : sameTree a a = true := by simp [sameTree]

theorem templateOf_of_template (raw : Json) (t : Obj) (h : template? raw = some t) : templateOf raw = some (.obj t) := by
  unfold template? at h
  split at h
  · rename_i top
    split at h
    · rename_i spec hs
      split at h
      · rename_i t' ht
        simp only [Option.some.injEq] at h
        subst h
        simp [templateOf, member, hs, ht]
      · simp at h
    · simp at h
  · simp at h

theorem eraseKey_setKey (k : String) (v : Json) (o : Obj) (h : hasKey k o = true) : eraseKey k (setKey k v o) = eraseKey k o := by
  induction o with
  | nil => simp [hasKey] at h
  | cons p rest ih =>
    obtain ⟨k0, v0⟩ := p
    by_cases h0 : k0 = k
    · simp [setKey, eraseKey, h0]
    · simp only [hasKey, h0, if_false] at h
      simp only [setKey, h0, if_false, eraseKey, ih h]

theorem hasKey_of_lookup (k : String) (o : Obj) (v : Json) (h : lookup k o = some v) : hasKey k o = true := by
  induction o with
  | nil => simp [lookup] at h
  | cons p rest ih =>
    obtain ⟨k0, v0⟩ := p
    by_cases h0 : k0 = k
    · simp [hasKey, h0]
    · simp only [lookup, h0, if_false] at h
      simp only [hasKey, h0, if_false, ih h]

end Asts.Patch
