import Mathlib.Tactic
import Asts.Proofs.WE_Silent
import Asts.Proofs.WE_Pause
import Asts.Proofs.WE_Revert

/-! # WE — a silent successful round is a fixed point of the run -/
namespace Asts.WE
open Asts

theorem quiet_of_writes_zero {l : List String} (h : (l.filter isWrite).length = 0) : Quiet l := by
  intro e he
  by_contra hw
  have hw' : isWrite e = true := by simpa using hw
  have : e ∈ l.filter isWrite := List.mem_filter.mpr ⟨he, hw'⟩
  rw [List.length_eq_zero_iff] at h
  rw [h] at this; simp at this

theorem silentOk_iff (h : Hashing) (W : SyncIn) (p : List Fault) :
    silentOk (round h W p).2 = true ↔
      (syncF h (settle W) p).outcome = .ok ∧ ((syncF h (settle W) p).log.filter isWrite).length = 0 := by
  unfold silentOk
  rw [Bool.and_eq_true, beq_iff_eq, beq_iff_eq, round_out_ok]
  rfl

/-- the settled world with its copy of `status.currentReplicas` brought in step -/
def nrm (W : SyncIn) : SyncIn :=
  { settle W with view := { (settle W).view with stCurrentReplicas := (settle W).stored.current } }

theorem nrm_viewInStep (W : SyncIn) : ViewInStep (nrm W) := rfl

theorem nrm_of_viewInStep {W : SyncIn} (hv : ViewInStep W) : nrm W = settle W := by
  unfold nrm
  rw [show (settle W).stored.current = (settle W).view.stCurrentReplicas from hv.symm]

/-- `settle` does not read the world's copy of `status.currentReplicas` -/
theorem settle_setCurrent (W : SyncIn) (c : Int) :
    settle { W with view := { W.view with stCurrentReplicas := c } } =
      { settle W with view := { (settle W).view with stCurrentReplicas := c } } := rfl

theorem settle_nrm (W : SyncIn) (hn : ((settle W).pods.map (·.name)).Nodup) : settle (nrm W) = nrm W := by
  unfold nrm
  rw [settle_setCurrent, C02p.settle_idem W hn]

/-- **a silent successful round (empty fault plan) leaves the settled world**, whatever the world's copy of
    `status.currentReplicas` was: with nothing written, `applySync` is the re-sort of the settled pod list -/
theorem silent_round_world (h : Hashing) (W : SyncIn) (hn : ((settle W).pods.map (·.name)).Nodup)
    (hs : silentOk (round h W []).2 = true) : (round h W []).1 = nrm W := by
  obtain ⟨hok, hw⟩ := (silentOk_iff h W []).mp hs
  have hq := quiet_of_writes_zero hw
  obtain ⟨h1, h2, h3⟩ := silent_sync h (settle W) rfl hok hq
  show applySync (settle W) [] (syncF h (settle W) []) = nrm W
  unfold applySync nrm
  rw [h1, h2, h3]
  simp only [List.take_nil, applyActs, Option.getD_none, Option.isSome_none, Bool.false_eq_true, if_false]
  rw [C02p.applyPatches_noPatch [] _ _ (fun e he => C02p.noPatch_of_not_write e (hq e he)), C02p.settled_pods_fixed W hn]

/-- … which, for a world in step, is its settled form -/
theorem silent_round_fix (h : Hashing) (W : SyncIn) (hv : ViewInStep W) (hn : ((settle W).pods.map (·.name)).Nodup)
    (hs : silentOk (round h W []).2 = true) : (round h W []).1 = settle W := by
  rw [silent_round_world h W hn hs, nrm_of_viewInStep hv]

/-- … and every later round repeats it: the same observation, the same world -/
theorem silent_round_repeats (h : Hashing) (W : SyncIn) (hv : ViewInStep W) (hn : ((settle W).pods.map (·.name)).Nodup)
    (hs : silentOk (round h W []).2 = true) : round h (round h W []).1 [] = round h W [] := by
  rw [silent_round_fix h W hv hn hs]
  exact round_settle h W [] hn

end Asts.WE
