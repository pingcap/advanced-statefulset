import Mathlib.Tactic
import Asts.Proofs.WE_Traj
import Asts.Proofs.GL_World

/-! # WE — `runRounds` against the run that never stops: where it stops

`obsFrom h w p n` is the observation of the `n`-th round (0-based) of the plain run from `w` (plan `p` in its first round)
that never stops, `cntFrom … n` the value of the silent-rounds counter after it. `runRounds` is the prefix of that run up to
the first round after which the counter is ≥ 2, cut at the fuel. -/
namespace Asts.WE
open Asts Asts.GL

def plainWorld (h : Hashing) (w : SyncIn) (p : List Fault) : Nat → SyncIn
  | 0 => w
  | n + 1 => (round h (plainWorld h w p n) (planAt p n)).1

def obsFrom (h : Hashing) (w : SyncIn) (p : List Fault) (n : Nat) : RoundObs := (round h (plainWorld h w p n) (planAt p n)).2

def sil (r : RoundObs) : Bool := r.out == "ok" && r.writes == 0

theorem sil_eq_silentOk (r : RoundObs) : sil r = silentOk r := rfl

def cntFrom (h : Hashing) (c : Nat) (w : SyncIn) (p : List Fault) : Nat → Nat
  | 0 => if sil (obsFrom h w p 0) then c + 1 else 0
  | n + 1 => if sil (obsFrom h w p (n + 1)) then cntFrom h c w p n + 1 else 0

theorem plainWorld_shift (h : Hashing) (w : SyncIn) (p : List Fault) :
    ∀ n, plainWorld h w p (n + 1) = plainWorld h (round h w p).1 [] n
  | 0 => rfl
  | n + 1 => by
    show (round h (plainWorld h w p (n + 1)) (planAt p (n + 1))).1 = (round h (plainWorld h (round h w p).1 [] n) (planAt [] n)).1
    rw [plainWorld_shift h w p n, planAt_succ, planAt_nil]

theorem obsFrom_shift (h : Hashing) (w : SyncIn) (p : List Fault) (n : Nat) :
    obsFrom h w p (n + 1) = obsFrom h (round h w p).1 [] n := by
  unfold obsFrom
  rw [plainWorld_shift h w p n, planAt_succ, planAt_nil]

theorem cntFrom_shift (h : Hashing) (c : Nat) (w : SyncIn) (p : List Fault) :
    ∀ n, cntFrom h c w p (n + 1) = cntFrom h (cntFrom h c w p 0) (round h w p).1 [] n
  | 0 => by
    show (if sil (obsFrom h w p 1) then cntFrom h c w p 0 + 1 else 0) = (if sil (obsFrom h (round h w p).1 [] 0) then _ + 1 else 0)
    rw [obsFrom_shift]
  | n + 1 => by
    show (if sil (obsFrom h w p (n + 1 + 1)) then cntFrom h c w p (n + 1) + 1 else 0) =
      (if sil (obsFrom h (round h w p).1 [] (n + 1)) then cntFrom h (cntFrom h c w p 0) (round h w p).1 [] n + 1 else 0)
    rw [obsFrom_shift, cntFrom_shift h c w p n]

theorem runRounds_step (h : Hashing) (fuel c : Nat) (w : SyncIn) (p : List Fault) :
    runRounds h (fuel + 1) c w p =
      if cntFrom h c w p 0 ≥ 2 then [obsFrom h w p 0]
      else obsFrom h w p 0 :: runRounds h fuel (cntFrom h c w p 0) (round h w p).1 [] := by
  rw [runRounds_succ]; rfl

/-- **`runRounds` is the never-stopping run up to its first stop**: (a) its rounds are those of the run; (b) at most `fuel`
    of them; (c) the counter stays below 2 after every round but the last; (d) if fuel is left, the counter is ≥ 2 after
    the last round -/
theorem runRounds_spec (h : Hashing) : ∀ (fuel c : Nat) (w : SyncIn) (p : List Fault),
    (∀ n, n < (runRounds h fuel c w p).length → (runRounds h fuel c w p)[n]? = some (obsFrom h w p n)) ∧
    (runRounds h fuel c w p).length ≤ fuel ∧
    (∀ n, n + 1 < (runRounds h fuel c w p).length → cntFrom h c w p n < 2) ∧
    ((runRounds h fuel c w p).length < fuel →
      ∃ m, (runRounds h fuel c w p).length = m + 1 ∧ cntFrom h c w p m ≥ 2)
  | 0, c, w, p => by
    refine ⟨?_, le_refl _, ?_, ?_⟩ <;> simp [runRounds]
  | fuel + 1, c, w, p => by
    rw [runRounds_step]
    by_cases hc : cntFrom h c w p 0 ≥ 2
    · rw [if_pos hc]
      refine ⟨?_, by simp, ?_, fun _ => ⟨0, rfl, hc⟩⟩
      · intro n hn
        simp only [List.length_singleton, Nat.lt_one_iff] at hn
        subst hn; rfl
      · intro n hn; simp at hn
    · rw [if_neg hc]
      obtain ⟨ia, ib, ic, id⟩ := runRounds_spec h fuel (cntFrom h c w p 0) (round h w p).1 []
      refine ⟨?_, by simp only [List.length_cons]; omega, ?_, ?_⟩
      · intro n hn
        cases n with
        | zero => rfl
        | succ n =>
          simp only [List.length_cons, Nat.add_lt_add_iff_right] at hn
          rw [List.getElem?_cons_succ, ia n hn, obsFrom_shift]
      · intro n hn
        cases n with
        | zero => omega
        | succ n =>
          simp only [List.length_cons, Nat.add_lt_add_iff_right] at hn
          rw [cntFrom_shift]
          exact ic n hn
      · intro hlt
        simp only [List.length_cons, Nat.add_lt_add_iff_right] at hlt
        obtain ⟨m, hm, hcm⟩ := id hlt
        refine ⟨m + 1, by simp only [List.length_cons]; omega, ?_⟩
        rw [cntFrom_shift]; exact hcm

theorem cnt_ge_two (h : Hashing) (w : SyncIn) (p : List Fault) :
    ∀ m, cntFrom h 0 w p m ≥ 2 → ∃ k, m = k + 1 ∧ sil (obsFrom h w p k) = true ∧ sil (obsFrom h w p (k + 1)) = true
  | 0, hm => by
    unfold cntFrom at hm
    split_ifs at hm <;> omega
  | m + 1, hm => by
    refine ⟨m, rfl, ?_⟩
    have h1 : sil (obsFrom h w p (m + 1)) = true := by
      by_contra hne
      have : cntFrom h 0 w p (m + 1) = 0 := by
        show (if sil (obsFrom h w p (m + 1)) then _ else 0) = 0
        rw [if_neg hne]
      omega
    have h2 : cntFrom h 0 w p m ≥ 1 := by
      have : cntFrom h 0 w p (m + 1) = cntFrom h 0 w p m + 1 := by
        show (if sil (obsFrom h w p (m + 1)) then _ else 0) = _
        rw [if_pos h1]
      omega
    refine ⟨?_, h1⟩
    by_contra hne
    have : cntFrom h 0 w p m = 0 := by
      cases m with
      | zero => show (if sil (obsFrom h w p 0) then _ else 0) = 0; rw [if_neg hne]
      | succ m => show (if sil (obsFrom h w p (m + 1)) then _ else 0) = 0; rw [if_neg hne]
    omega

theorem cnt_of_two_silent (h : Hashing) (c : Nat) (w : SyncIn) (p : List Fault) (k : Nat)
    (h1 : sil (obsFrom h w p k) = true) (h2 : sil (obsFrom h w p (k + 1)) = true) : cntFrom h c w p (k + 1) ≥ 2 := by
  have hk : cntFrom h c w p k ≥ 1 := by
    cases k with
    | zero => show (if sil (obsFrom h w p 0) then c + 1 else 0) ≥ 1; rw [if_pos h1]; omega
    | succ k => show (if sil (obsFrom h w p (k + 1)) then cntFrom h c w p k + 1 else 0) ≥ 1; rw [if_pos h1]; omega
  show (if sil (obsFrom h w p (k + 1)) then cntFrom h c w p k + 1 else 0) ≥ 2
  rw [if_pos h2]; omega

/-- two silent rounds in a row stop the run -/
theorem runRounds_length_le (h : Hashing) (fuel c : Nat) (w : SyncIn) (p : List Fault) (k : Nat)
    (h1 : sil (obsFrom h w p k) = true) (h2 : sil (obsFrom h w p (k + 1)) = true) :
    (runRounds h fuel c w p).length ≤ k + 2 := by
  by_contra hgt
  have := (runRounds_spec h fuel c w p).2.2.1 (k + 1) (by omega)
  have := cnt_of_two_silent h c w p k h1 h2
  omega

theorem runRounds_ne_nil (h : Hashing) (fuel c : Nat) (w : SyncIn) (p : List Fault) : runRounds h (fuel + 1) c w p ≠ [] := by
  rw [runRounds_step]; split_ifs <;> exact List.cons_ne_nil _ _

theorem runRounds_getLast (h : Hashing) (fuel c : Nat) (w : SyncIn) (p : List Fault) (hne : runRounds h fuel c w p ≠ []) :
    (runRounds h fuel c w p).getLast? = some (obsFrom h w p ((runRounds h fuel c w p).length - 1)) := by
  rw [List.getLast?_eq_getElem?]
  exact (runRounds_spec h fuel c w p).1 _ (Nat.sub_lt (List.length_pos_iff.mpr hne) Nat.one_pos)

end Asts.WE
