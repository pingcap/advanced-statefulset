import Asts.Proofs.C02_BAdopt

/-! C02, normalising rounds: the resolution of the update revision (`getStatefulSetRevisions`) under the empty fault plan,
    exactly: reuse of the newest revision, renumbering of an older equal one, or creation after a walk past taken names. -/
namespace Asts.C02p
open Asts

theorem renumber_nil (name : String) (n : Int) (A : List Rev) (l0 : List String) :
    renumberF [] name n 4 { store := A, tr := { log := l0 } } =
      ({ store := A.map (SYb.setNumber name n), tr := { log := l0 ++ [s!"update:rev:{name}"] } }, true) := by
  rw [SYb.renumberF_succ]
  simp only [call_nil]
  rfl

/-- **the probe walk of `createControllerRevision`**: `n` taken names recording something else, then a free one -/
theorem createLoop_walk (h : Hashing) (fresh : Rev) (A : List Rev) (hA : (A.map (·.name)).Nodup) (n : Nat) :
    ∀ (fuel : Nat) (cc : Int) (l0 : List String), n < fuel →
      (∀ k < n, ∃ ex ∈ A, ex.name = h.nameOf fresh.data (cc + k) ∧ ex.data ≠ fresh.data) →
      (∀ r ∈ A, r.name ≠ h.nameOf fresh.data (cc + n)) →
      ∃ lg, (∀ e ∈ lg, NoPatch e) ∧
        createRevLoopF h [] fresh fuel cc { store := A, tr := { log := l0 } } =
          ({ store := insertByName (SYb.candidate h fresh (cc + n)) A, tr := { log := l0 ++ lg } },
           some (SYb.candidate h fresh (cc + n), cc + n)) := by
  induction n with
  | zero =>
    intro fuel cc l0 hf _ hfree
    obtain ⟨f, rfl⟩ : ∃ f, fuel = f + 1 := ⟨fuel - 1, by omega⟩
    rw [SYb.createRevLoopF_succ]
    have hfind : A.find? (·.name == h.nameOf fresh.data cc) = none := by
      apply find_name_none
      intro r hr
      have := hfree r hr
      simpa using this
    have hk : SYb.createKind h [] fresh cc { store := A, tr := { log := l0 } } = none := by
      unfold SYb.createKind
      simp only [call_nil, hfind, Option.isSome_none, Bool.false_eq_true, if_false]
    rw [hk]
    refine ⟨[s!"create:rev:{h.nameOf fresh.data cc}"], ?_, ?_⟩
    · intro e he; rw [List.mem_singleton] at he; rw [he]; exact SYa.pre_create_rev.noPatch (Or.inl (by simp)) _
    · simp only [Nat.cast_zero, add_zero]
      rfl
  | succ n ih =>
    intro fuel cc l0 hf hwalk hfree
    obtain ⟨f, rfl⟩ : ∃ f, fuel = f + 1 := ⟨fuel - 1, by omega⟩
    rw [SYb.createRevLoopF_succ]
    obtain ⟨ex, hexm, hexn, hexd⟩ := hwalk 0 (by omega)
    simp only [Nat.cast_zero, add_zero] at hexn
    have hfind : A.find? (·.name == h.nameOf fresh.data cc) = some ex := by
      rw [← hexn]; exact find_name_some hA hexm
    have hk : SYb.createKind h [] fresh cc { store := A, tr := { log := l0 } } = some .alreadyExists := by
      unfold SYb.createKind
      simp only [call_nil, hfind, Option.isSome_some, if_true]
    rw [hk]
    simp only [SYb.afterCreate, call_nil, hfind]
    have hd : (ex.data == fresh.data) = false := by simpa using hexd
    rw [if_neg (by simp [hd])]
    obtain ⟨lg, hlg, hrun⟩ := ih f (cc + 1)
      (l0 ++ [(SYb.RevCall.create (h.nameOf fresh.data cc)).key] ++ [(SYb.RevCall.get (h.nameOf fresh.data cc)).key])
      (by omega)
      (by
        intro k hk'
        obtain ⟨ex', h1, h2, h3⟩ := hwalk (k + 1) (by omega)
        refine ⟨ex', h1, ?_, h3⟩
        rw [h2]; congr 1; push_cast; ring)
      (by
        intro r hr
        have := hfree r hr
        intro e; apply this; rw [e]; congr 1; push_cast; ring)
    have e1 : cc + 1 + (n : Int) = cc + ((n + 1 : Nat) : Int) := by push_cast; ring
    rw [e1] at hrun
    refine ⟨[(SYb.RevCall.create (h.nameOf fresh.data cc)).key, (SYb.RevCall.get (h.nameOf fresh.data cc)).key] ++ lg, ?_, ?_⟩
    · intro e he
      simp only [List.mem_append, List.mem_cons, List.not_mem_nil, or_false] at he
      rcases he with (rfl | rfl) | he
      · exact SYa.pre_create_rev.noPatch (Or.inl (by simp)) _
      · exact SYa.pre_get_rev.noPatch (Or.inl (by simp)) _
      · exact hlg e he
    · have : SYb.afterGet h [] fresh cc { store := A, tr := { log := l0 } } =
          { store := A, tr := { log := l0 ++ [(SYb.RevCall.create (h.nameOf fresh.data cc)).key] ++
            [(SYb.RevCall.get (h.nameOf fresh.data cc)).key] } } := by
        simp [SYb.afterGet, SYb.afterCreate, call_nil]
      rw [this, hrun]
      simp [List.append_assoc]

/-- `equalRev` against the fresh revision does not look at the listing the fresh revision was numbered from -/
theorem equalRev_freshOf (h : Hashing) (tmpl : String) (cc : Int) (L1 L2 : List Rev) (r : Rev) :
    equalRev r (SYb.freshOf h tmpl cc L1) = equalRev r (SYb.freshOf h tmpl cc L2) := rfl

theorem equalRev_of_same {a b : Rev} (h1 : a.hashNum = b.hashNum) (h2 : a.data = b.data) : equalRev a b = true := by
  rw [equalRev_iff]
  refine ⟨h2, ?_⟩
  intro x y hx hy
  rw [h1, hy] at hx
  exact (Option.some.inj hx).symm

/-- what the revision stages need to know about the store they start from (after adoption) -/
structure RevCtx (h : Hashing) (tmpl : String) (cc0 : Int) (A : List Rev) : Prop where
  names : (A.map (·.name)).Nodup
  owned : ∀ x ∈ listRevisions A, x.owner = .self
  labels : h.hashNumOf tmpl cc0 = none ∨ ∀ r ∈ A, r.data = tmpl → r.hashNum ≠ none

/-- what they establish: the store `G`, the update revision `upd`, the collision count `cc` -/
structure PickOut (h : Hashing) (tmpl : String) (cc0 : Int) (A G : List Rev) (upd : Rev) (cc : Int) : Prop where
  names : (G.map (·.name)).Nodup
  owned : ∀ x ∈ listRevisions G, x.owner = .self
  last : (sortRevs (listRevisions G)).getLast? = some upd
  eqv : equalRev upd (SYb.freshOf h tmpl cc (sortRevs (listRevisions G))) = true
  lnames : ∀ n, n ∈ (sortRevs (listRevisions G)).map (·.name) ↔ (n ∈ (sortRevs (listRevisions A)).map (·.name) ∨ n = upd.name)
  hist : ∀ q : Rev → Bool, q upd = false → (∀ r r' : Rev, r.name = r'.name → r.owner = r'.owner → q r = q r') →
    (sortRevs (listRevisions G)).filter q = (sortRevs (listRevisions A)).filter q
  sub : ∀ r ∈ sortRevs (listRevisions A), G.any (·.name == r.name) = true
  run : ∀ (curName : String) (l0 : List String), ∃ lg, (∀ e ∈ lg, NoPatch e) ∧
    getRevisionsF h [] tmpl curName cc0 (sortRevs (listRevisions A)) { store := A, tr := { log := l0 } } =
      ({ store := G, tr := { log := l0 ++ lg } },
       some (((sortRevs (listRevisions A)).find? (·.name == curName)).getD upd, upd, cc))

theorem listed_sub {A : List Rev} {r : Rev} (hr : r ∈ sortRevs (listRevisions A)) : r ∈ A :=
  (mem_listRevisions (mem_sortRevs.1 hr)).1

theorem any_name_of_mem {G : List Rev} {r x : Rev} (hx : x ∈ G) (hn : x.name = r.name) : G.any (·.name == r.name) = true :=
  List.any_eq_true.2 ⟨x, hx, by simpa using hn⟩

theorem vis_setNumber (name : String) (n : Int) (r : Rev) : Vis (SYb.setNumber name n r) ↔ Vis r := by
  unfold SYb.setNumber Vis; split <;> rfl

theorem setNumber_ne {name : String} {n : Int} {r : Rev} (h : r.name ≠ name) : SYb.setNumber name n r = r := by
  unfold SYb.setNumber; simp [h]

/-- **some listed revision records the template**: the newest one is used as it is, or the last equal one is renumbered -/
theorem pick_equal {h : Hashing} {tmpl : String} {cc0 : Int} {A : List Rev} (ctx : RevCtx h tmpl cc0 A)
    (hE : ∃ r ∈ sortRevs (listRevisions A), equalRev r (SYb.freshOf h tmpl cc0 []) = true) :
    ∃ G upd, PickOut h tmpl cc0 A G upd cc0 := by
  set L := sortRevs (listRevisions A) with hL
  have hLs : SortedRevs L := sortRevs_sorted _
  have hLn : (L.map (·.name)).Nodup := sorted_listing_names_nodup A
  obtain ⟨r0, hr0, hr0e⟩ := hE
  have hmem0 : r0 ∈ SYb.equalsOf h tmpl cc0 L := by
    unfold SYb.equalsOf
    rw [List.mem_filter]
    exact ⟨hr0, hr0e⟩
  cases he : (SYb.equalsOf h tmpl cc0 L).getLast? with
  | none => rw [List.getLast?_eq_none_iff] at he; rw [he] at hmem0; cases hmem0
  | some e =>
    obtain ⟨l, hl⟩ := SYb.equalsOf_getLast?_some_revs he
    have hem := SYb.mem_equalsOf (List.mem_of_getLast? he)
    have helm : e ∈ L := hem.1
    have hlm : l ∈ L := List.mem_of_getLast? hl
    have heA : e ∈ A := listed_sub helm
    have hlA : l ∈ A := listed_sub hlm
    by_cases hle : equalRev l e = true
    · -- the newest revision is used as it is
      have hlf : equalRev l (SYb.freshOf h tmpl cc0 L) = true := by
        have hd : l.data = tmpl := (equalRev_data hle).trans hem.2.2
        rcases ctx.labels with hn | hall
        · rw [equalRev_iff_of_nonnumeric (Or.inr hn)]; exact hd
        · rw [equalRev_iff]
          refine ⟨hd, ?_⟩
          intro x y hx hy
          have h1 := (equalRev_iff l e).1 hle
          have h2 := (equalRev_iff e _).1 hem.2.1
          cases hee : e.hashNum with
          | none => exact absurd hee (hall e heA hem.2.2)
          | some z => rw [h1.2 x z hx hee]; exact h2.2 z y hee hy
      refine ⟨A, l, ctx.names, ctx.owned, hl, hlf, ?_, fun _ _ _ => rfl, ?_, ?_⟩
      · intro n
        constructor
        · exact Or.inl
        · rintro (hn | rfl)
          · exact hn
          · exact List.mem_map_of_mem hlm
      · intro r hr
        exact any_name_of_mem (listed_sub hr) rfl
      · intro curName l0
        refine ⟨[], (by intro x hx; cases hx), ?_⟩
        rw [SYb.getRevisionsF_eq, SYb.pickF_of_some he hl, if_pos hle]
        simp
    · -- the last equal revision is renumbered
      have hnum : ¬ (e.number == (SYb.freshOf h tmpl cc0 L).number) = true := by
        have := nextRevision_gt hLs e helm
        simp only [SYb.freshOf, beq_iff_eq]
        omega
      set n := (SYb.freshOf h tmpl cc0 L).number with hn
      have hnL : ∀ r ∈ L, r.number < n := nextRevision_gt hLs
      set upd : Rev := { e with number := n } with hupd
      have hupd' : SYb.setNumber e.name n e = upd := SYb.setNumber_self e n
      set G := A.map (SYb.setNumber e.name n) with hG
      have hGn : (G.map (·.name)).Nodup := by
        rw [hG, List.map_map]
        have : ((fun r : Rev => r.name) ∘ SYb.setNumber e.name n) = (fun r => r.name) := by
          funext r; exact SYb.setNumber_name _ _ r
        rw [this]; exact ctx.names
      have hX : sortRevs (listRevisions G) = L.filter (fun r => r.name != e.name) ++ [upd] := by
        apply listing_eq_of_mem hGn
        · apply sorted_snoc (sorted_filter hLs _)
          intro r hr
          exact hnL r (List.mem_of_mem_filter hr)
        · rw [List.map_append, List.nodup_append]
          refine ⟨(List.Sublist.map _ List.filter_sublist).nodup hLn, by simp, ?_⟩
          intro a ha b hb
          rw [List.mem_map] at ha
          obtain ⟨r, hr, rfl⟩ := ha
          simp only [List.map_cons, List.map_nil, List.mem_singleton] at hb
          rw [List.mem_filter] at hr
          rw [hb]
          simpa using hr.2
        · intro r
          rw [List.mem_append, List.mem_filter, List.mem_singleton]
          constructor
          · rintro (⟨hr, hne⟩ | rfl)
            · have hrA := (mem_listing ctx.names).1 hr
              refine ⟨List.mem_map.2 ⟨r, hrA.1, setNumber_ne (by simpa using hne)⟩, hrA.2⟩
            · refine ⟨List.mem_map.2 ⟨e, heA, hupd'⟩, ?_⟩
              rw [← hupd', vis_setNumber]
              exact ((mem_listing ctx.names).1 helm).2
          · rintro ⟨hr, hv⟩
            rw [List.mem_map] at hr
            obtain ⟨y, hy, rfl⟩ := hr
            rw [vis_setNumber] at hv
            have hyL : y ∈ L := (mem_listing ctx.names).2 ⟨hy, hv⟩
            by_cases hye : y.name = e.name
            · have : y = e := List.inj_on_of_nodup_map ctx.names hy heA hye
              right; rw [this, hupd']
            · left; rw [setNumber_ne hye]; exact ⟨hyL, by simpa using hye⟩
      refine ⟨G, upd, hGn, ?_, ?_, ?_, ?_, ?_, ?_, ?_⟩
      · intro x hx
        obtain ⟨hxG, hv1, hv2⟩ := mem_listRevisions hx
        rw [List.mem_map] at hxG
        obtain ⟨y, hy, rfl⟩ := hxG
        rw [SYb.setNumber_owner]
        apply ctx.owned
        rw [mem_listRevisions_iff ctx.names]
        have : Vis (SYb.setNumber e.name n y) := ⟨hv1, hv2⟩
        rw [vis_setNumber] at this
        exact ⟨hy, this.1, this.2⟩
      · rw [hX]; simp
      · have : equalRev e (SYb.freshOf h tmpl cc0 L) = true := hem.2.1
        rw [equalRev_iff] at this ⊢
        exact this
      · intro m
        rw [hX]
        simp only [List.map_append, List.mem_append, List.mem_map, List.mem_filter, List.map_cons, List.map_nil,
          List.mem_singleton]
        constructor
        · rintro (⟨r, ⟨hr, _⟩, rfl⟩ | rfl)
          · exact Or.inl ⟨r, hr, rfl⟩
          · exact Or.inr rfl
        · rintro (⟨r, hr, rfl⟩ | rfl)
          · by_cases hre : r.name = e.name
            · right; exact hre
            · left; exact ⟨r, ⟨hr, by simpa using hre⟩, rfl⟩
          · right; rfl
      · intro q hqu hq
        rw [hX, List.filter_append, List.filter_filter]
        have : [upd].filter q = [] := by simp [hqu]
        rw [this, List.append_nil]
        apply List.filter_congr
        intro r hr
        by_cases hre : r.name = e.name
        · have : r = e := List.inj_on_of_nodup_map hLn hr helm hre
          have hqe : q e = false := by rw [hq e upd rfl rfl]; exact hqu
          rw [this, hqe]; simp
        · have : (r.name != e.name) = true := by simpa using hre
          simp [this]
      · intro r hr
        exact any_name_of_mem (List.mem_map_of_mem (f := SYb.setNumber e.name n) (listed_sub hr)) (SYb.setNumber_name _ _ r)
      · intro curName l0
        refine ⟨[s!"update:rev:{e.name}"], ?_, ?_⟩
        · intro x hx; rw [List.mem_singleton] at hx; rw [hx]; exact SYa.pre_update_rev.noPatch (Or.inl (by simp)) _
        · rw [SYb.getRevisionsF_eq, SYb.pickF_of_some he hl, if_neg hle, if_neg hnum, renumber_nil]
          simp only [if_true, Option.map_some]
          rfl

/-- **no listed revision records the template**: one is created on the first free probe name -/
theorem pick_create {h : Hashing} {tmpl : String} {cc0 : Int} {A : List Rev} (ctx : RevCtx h tmpl cc0 A)
    (hne : ∀ r ∈ sortRevs (listRevisions A), equalRev r (SYb.freshOf h tmpl cc0 []) = false)
    (n : Nat) (hn : n < A.length + 8)
    (hwalk : ∀ k < n, ∃ ex ∈ A, ex.name = h.nameOf tmpl (cc0 + k) ∧ ex.data ≠ tmpl)
    (hfree : ∀ r ∈ A, r.name ≠ h.nameOf tmpl (cc0 + n)) :
    PickOut h tmpl cc0 A
      (insertByName (SYb.candidate h (SYb.freshOf h tmpl cc0 (sortRevs (listRevisions A))) (cc0 + n)) A)
      (SYb.candidate h (SYb.freshOf h tmpl cc0 (sortRevs (listRevisions A))) (cc0 + n)) (cc0 + n) := by
  set L := sortRevs (listRevisions A) with hL
  have hLs : SortedRevs L := sortRevs_sorted _
  have hLn : (L.map (·.name)).Nodup := sorted_listing_names_nodup A
  set cand := SYb.candidate h (SYb.freshOf h tmpl cc0 L) (cc0 + n) with hcand
  have hcn : cand.name = h.nameOf tmpl (cc0 + n) := rfl
  have hcnum : cand.number = nextRevision L := rfl
  have hcv : Vis cand := ⟨Or.inl rfl, by simp [hcand, SYb.candidate, SYb.freshOf]⟩
  have hGn : ((insertByName cand A).map (·.name)).Nodup := by
    rw [((insertByName_perm cand A).map _).nodup_iff, List.map_cons, List.nodup_cons]
    refine ⟨?_, ctx.names⟩
    intro hm
    rw [List.mem_map] at hm
    obtain ⟨r, hr, hre⟩ := hm
    exact hfree r hr (hre.trans hcn)
  have hX : sortRevs (listRevisions (insertByName cand A)) = L ++ [cand] := by
    apply listing_eq_of_mem hGn
    · apply sorted_snoc hLs
      intro r hr
      rw [hcnum]; exact nextRevision_gt hLs r hr
    · rw [List.map_append, List.nodup_append]
      refine ⟨hLn, by simp, ?_⟩
      intro a ha b hb
      rw [List.mem_map] at ha
      obtain ⟨r, hr, rfl⟩ := ha
      simp only [List.map_cons, List.map_nil, List.mem_singleton] at hb
      rw [hb, hcn]
      exact hfree r (listed_sub hr)
    · intro r
      rw [List.mem_append, List.mem_singleton, mem_insertByName]
      constructor
      · rintro (hr | rfl)
        · have := (mem_listing ctx.names).1 hr
          exact ⟨Or.inr this.1, this.2⟩
        · exact ⟨Or.inl rfl, hcv⟩
      · rintro ⟨hr | hr, hv⟩
        · exact Or.inr hr
        · exact Or.inl ((mem_listing ctx.names).2 ⟨hr, hv⟩)
  have heq : SYb.equalsOf h tmpl cc0 L = [] := by
    unfold SYb.equalsOf
    rw [List.filter_eq_nil_iff]
    intro r hr
    have := hne r hr
    rw [equalRev_freshOf h tmpl cc0 [] L] at this
    simp [this]
  refine ⟨hGn, ?_, ?_, ?_, ?_, ?_, ?_, ?_⟩
  · intro x hx
    obtain ⟨hxG, hv1, hv2⟩ := mem_listRevisions hx
    rw [mem_insertByName] at hxG
    rcases hxG with rfl | hxA
    · rfl
    · exact ctx.owned x ((mem_listRevisions_iff ctx.names).2 ⟨hxA, hv1, hv2⟩)
  · rw [hX]; simp
  · exact equalRev_of_same rfl rfl
  · intro m
    rw [hX]
    simp only [List.map_append, List.mem_append, List.map_cons, List.map_nil, List.mem_singleton]
    rfl
  · intro q hqu _
    rw [hX, List.filter_append]
    have : [cand].filter q = [] := by simp [hqu]
    rw [this, List.append_nil]
  · intro r hr
    exact any_name_of_mem (mem_insertByName.2 (Or.inr (listed_sub hr))) rfl
  · intro curName l0
    obtain ⟨lg, hlg, hrun⟩ := createLoop_walk h (SYb.freshOf h tmpl cc0 L) A ctx.names n (A.length + 8) cc0 l0 hn hwalk hfree
    refine ⟨lg, hlg, ?_⟩
    rw [SYb.getRevisionsF_eq, (SYb.pickF_of_none heq).1]
    show (_, _) = _
    rw [hrun]
    rfl

end Asts.C02p
