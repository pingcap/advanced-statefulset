import Mathlib.Tactic
import Asts.Proofs.L1_a_Readings
import Asts.Proofs.Rc_NoPanic

/-! # SY_a — two more facts about the action list of `updateStatefulSet`

* an `update o` is issued only for a pod of the snapshot with ordinal `o`;
* a `create o` that the fault plan fails is the last action (the reconcile returns at once). -/

namespace Asts.SYa
open Asts

/-- updates come from the replica loop only, for a slot that holds a pod with a phase: a pod of the snapshot -/
theorem uss_update_has_pod (v : SetView) (cur upd : String) (pods : List Pod) (f : Faults) {o : Int}
    (h : Action.update o ∈ (updateStatefulSet v cur upd pods f).1.acts) : ∃ p ∈ pods, p.ord = o := by
  obtain ⟨r, -, ⟨ip, hip, hmem⟩ | ⟨_, _, _, hd⟩⟩ := L1c.updateStatefulSet_acts h
  · obtain ⟨-, hc, rfl⟩ := L1c.update_mem_slotActs hmem
    refine ⟨ip.2, ?_, L1c.repsOf_ord hip⟩
    rcases L1c.repsOf_mem hip with hm | ⟨hn, -⟩
    · exact hm.1
    · rw [hn, L1c.newPod_created] at hc
      cases hc
  · cases hd

theorem uss_faulted_create_last (v : SetView) (cur upd : String) (pods : List Pod) (f : Faults)
    {pre post : List Action} {o : Int} {rev : String}
    (h : (updateStatefulSet v cur upd pods f).1.acts = pre ++ Action.create o rev :: post) (hpost : post ≠ []) :
    f.hit 0 o = false := by
  cases hr : v.replicas with
  | none =>
    rw [L1c.updateStatefulSet_none hr] at h
    exact (List.cons_ne_nil _ _ (List.append_eq_nil_iff.1 h.symm).2).elim
  | some r =>
    rw [L1c.updateStatefulSet_some hr] at h
    by_cases hdel : v.deleting = true
    · rw [if_pos hdel] at h
      exact (List.cons_ne_nil _ _ (List.append_eq_nil_iff.1 h.symm).2).elim
    · rw [if_neg hdel] at h
      exact SYc.runLoops_not_last v cur upd f _ h hpost

end Asts.SYa
