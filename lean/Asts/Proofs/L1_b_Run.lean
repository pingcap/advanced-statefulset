import Asts.Proofs.L1_b_Loops

/-! # L1_b — one reconcile (`updateStatefulSet`): every action justified; how the monitors classify the deletes -/
namespace Asts.L1b
open List

/-- "a pod of the snapshot at ordinal `i` is Running, Ready and not terminating" -/
def HealthyIn (pods : List Pod) (i : Int) : Prop :=
  ∃ p ∈ pods, p.ord = i ∧ p.phase = .running ∧ p.ready = true ∧ p.terminating = false

/-- "a pod of the snapshot at ordinal `i` is Running, Ready, not terminating and at revision `rev`" -/
def HealthyAtRev (pods : List Pod) (rev : String) (i : Int) : Prop :=
  ∃ p ∈ pods, p.ord = i ∧ p.rev = rev ∧ p.phase = .running ∧ p.ready = true ∧ p.terminating = false

/-- ids of the snapshot identify its pods and are below the ids given to fresh objects
    (the engine numbers the pods by position) -/
structure IdsOk (pods : List Pod) : Prop where
  inj : ∀ p ∈ pods, ∀ q ∈ pods, p.id = q.id → p = q
  lt : ∀ p ∈ pods, p.id < freshId

theorem idsOk_of_positions {pods : List Pod} (hpos : ∀ (i : Nat) (p : Pod), pods[i]? = some p → p.id = i)
    (hlen : pods.length < freshId) : IdsOk pods :=
  ⟨(L1c.ids_of_positions hpos hlen.le).1, (L1c.ids_of_positions hpos hlen.le).2⟩

/-- The run of one reconcile: either nothing was done, or `replicas` is set, the set is not being deleted and every
    action is justified by what `prepare` computed. -/
theorem updateStatefulSet_spec (v : SetView) (cur upd : String) (pods : List Pod) (f : Faults) :
    (updateStatefulSet v cur upd pods f).1.acts = [] ∨
    ∃ r, v.replicas = some r ∧ v.deleting = false ∧
      (∀ a ∈ (updateStatefulSet v cur upd pods f).1.acts,
        Just v cur upd (!v.parallel) (L1c.prepOf v cur upd r pods) a) ∧
      ((updateStatefulSet v cur upd pods f).1.acts.filter Action.isUpdDel).length ≤ 1 ∧
      (v.parallel = false →
        ∃ i, ∀ a ∈ (updateStatefulSet v cur upd pods f).1.acts, a.isCD = true → a.ord = i) := by
  cases hr : v.replicas with
  | none => rw [L1c.updateStatefulSet_none hr]; exact Or.inl rfl
  | some r =>
    cases hd : v.deleting
    · have e : updateStatefulSet v cur upd pods f = runLoops v cur upd f (L1c.prepOf v cur upd r pods) := by
        rw [L1c.updateStatefulSet_some hr, hd]; rfl
      rw [e]
      exact Or.inr ⟨r, rfl, rfl, runLoops_spec v cur upd f _ (prepOf_sorted v cur upd r pods)⟩
    · rw [L1c.updateStatefulSet_some hr, hd]
      exact Or.inl rfl

section
variable {v : SetView} {cur upd : String} {pods : List Pod} {D : List Int} {P : Prepared}

theorem PrepInv.idx_mem (inv : PrepInv v cur upd pods D P) {x : Int × Pod} (hx : x ∈ P.reps) : x.1 ∈ D := by
  rw [← inv.idx]; exact List.mem_map_of_mem hx

theorem PrepInv.exists_rep (inv : PrepInv v cur upd pods D P) {i : Int} (hi : i ∈ D) : ∃ x ∈ P.reps, x.1 = i := by
  rw [← inv.idx, List.mem_map] at hi
  exact hi

theorem PrepInv.created_mem (inv : PrepInv v cur upd pods D P) {x : Int × Pod} (hx : x ∈ P.reps)
    (hc : x.2.created = true) : x.2 ∈ pods ∧ x.2.ord = x.1 := by
  rcases inv.rep x hx with h | h
  · exact h
  · exact nomatch (h ▸ hc).symm.trans (L1c.newPod_created ..)

theorem PrepInv.healthyIn (inv : PrepInv v cur upd pods D P) {x : Int × Pod} (hx : x ∈ P.reps)
    (hh : x.2.healthy = true) : HealthyIn pods x.1 := by
  obtain ⟨h1, h2⟩ := inv.created_mem hx (Pod.healthy_created hh)
  exact ⟨x.2, h1, h2, (Pod.healthy_iff _).1 hh⟩

theorem PrepInv.all_healthyIn (inv : PrepInv v cur upd pods D P) (h : ∀ x ∈ P.reps, x.2.healthy = true) :
    ∀ i ∈ D, HealthyIn pods i := by
  intro i hi
  obtain ⟨x, hx, rfl⟩ := inv.exists_rep hi
  exact inv.healthyIn hx (h x hx)

end

theorem healthyAt_of_healthyIn {pods : List Pod} (hwf : wfSnapshot pods = true) {i : Int} (h : HealthyIn pods i) :
    healthyAt pods i = true := by
  obtain ⟨p, hp, rfl, h1⟩ := h
  exact healthyAt_of_mem hwf hp ((Pod.healthy_iff p).2 h1)

theorem mem_pre_of_lt {l pre post : List (Int × Pod)} {i : Int} {p : Pod}
    (hs : (l.map (·.1)).Pairwise (· < ·)) (e : l = pre ++ (i, p) :: post) {x : Int × Pod} (hx : x ∈ l)
    (hlt : x.1 < i) : x ∈ pre := by
  subst e
  rw [List.pairwise_map] at hs
  rcases List.mem_append.1 hx with hx | hx
  · exact hx
  · rcases List.mem_cons.1 hx with rfl | hx
    · simp at hlt
    · have h2 := (List.pairwise_append.1 hs).2.1
      have := (List.pairwise_cons.1 h2).1 x hx
      simp only at this
      omega

/-! ### how the snapshot-only classifier of the monitors sees the model's deletes -/

def _root_.Asts.Why.cls : Why → DelClass
  | .scaleDown => .scale
  | .replaceFailed => .replace
  | .update => .update

theorem classify_just {v : SetView} {cur upd : String} {mono : Bool} {pods : List Pod} {D : List Int} {P : Prepared}
    (inv : PrepInv v cur upd pods D P) (hids : IdsOk pods) {o : Int} {id : Nat} {why : Why}
    (h : Just v cur upd mono P (.delete o id why)) :
    classify D pods (Action.observe (.delete o id why)) = why.cls := by
  have key := fun (q : Pod) (hq : q ∈ pods) => L1c.classify_delete_mem D hids.inj hids.lt hq o why
  cases h with
  | replace i p hp hf =>
    obtain ⟨h1, h2⟩ := inv.created_mem hp (L1c.fs_created hf)
    simp only at h1 h2
    rw [key p h1]
    have : p.ord ∈ D := by
      rw [h2]; exact inv.idx_mem hp
    simp [this, Pod.fs, hf, Why.cls]
  | scale c hc _ =>
    obtain ⟨h1, _, h3⟩ := (inv.condMem c).1 hc
    rw [key c h1]
    simp [h3, Why.cls]
  | upd i p q hp hq hnf _ _ _ _ =>
    have hfresh : classify D pods (Action.observe (.delete o (newPod v cur upd o).id .update)) = .update :=
      L1c.classify_delete_fresh D pods o (Nat.le_add_right ..) .update
    rcases hq with rfl | rfl
    · rcases inv.rep _ hp with ⟨h1, h2⟩ | h1
      · simp only at h1 h2
        rw [key q h1]
        have : q.ord ∈ D := by
          rw [h2]; exact inv.idx_mem hp
        simp [this, Pod.fs, hnf, Why.cls]
      · simp only at h1
        rw [h1]; exact hfresh
    · exact hfresh

/-- ordinals of the deletes issued by the update walk -/
def updOrd : Action → Option Int
  | .delete o _ .update => some o
  | _ => none

theorem updOrd_eq (a : Action) : updOrd a = if a.isUpdDel then some a.ord else none := by
  rcases a with _ | ⟨_, _, _ | _ | _⟩ | _ <;> rfl

theorem length_filterMap_updOrd (l : List Action) : (l.filterMap updOrd).length = (l.filter Action.isUpdDel).length := by
  induction l with
  | nil => rfl
  | cons a as ih =>
    rw [List.filterMap_cons, List.filter_cons, updOrd_eq]
    cases a.isUpdDel
    · exact ih
    · exact congrArg Nat.succ ih

theorem mem_filterMap_updOrd {l : List Action} {o : Int} :
    o ∈ l.filterMap updOrd ↔ ∃ id, Action.delete o id .update ∈ l := by
  rw [List.mem_filterMap]
  constructor
  · rintro ⟨a, ha, h⟩
    cases a with
    | create _ _ => simp [updOrd] at h
    | update _ => simp [updOrd] at h
    | delete o' id w =>
      cases w <;> simp [updOrd] at h
      subst h; exact ⟨id, ha⟩
  · rintro ⟨id, h⟩
    exact ⟨_, h, rfl⟩

/-- The monitors' "update-class deletes" of a model run are exactly the deletes issued by the update walk. -/
theorem updateDeletes_observe {v : SetView} {cur upd : String} {mono : Bool} {pods : List Pod} {D : List Int}
    {P : Prepared} (inv : PrepInv v cur upd pods D P) (hids : IdsOk pods) {acts : List Action}
    (h : ∀ a ∈ acts, Just v cur upd mono P a) :
    updateDeletes D pods (observe acts) = acts.filterMap updOrd := by
  unfold updateDeletes observe
  rw [List.filterMap_map]
  refine List.filterMap_congr fun a ha => ?_
  cases a with
  | create o r => rfl
  | update o => rfl
  | delete o id w =>
    show (if _ && classify D pods (Action.observe (.delete o id w)) == .update then _ else _) = _
    rw [classify_just inv hids (h _ ha)]
    cases w <;> rfl

end Asts.L1b
