import Mathlib.Tactic
import Asts.Proofs.WE_Inv
import Asts.Proofs.GL_Sync
import Asts.Proofs.GL_World
import Asts.Proofs.C02_BOwn
import Asts.Proofs.C02_Acts
import Asts.Props.C03

/-! # WE — C08.norestart, the pods half, one round at a time

From a pinned world, the round that follows any batch of edits other than a template edit deletes no pod of the desired set
that the set controls, is live and carries the revision `status.updateRevision` names. -/
namespace Asts.WE
open Asts Asts.SYb

/-- a sync recorded no action, or it resolved its revisions (`pickF` on the listing of the adopted store) and reports the
    update revision that resolution returned -/
theorem sync_acts_upd (h : Hashing) (i : SyncIn) (plan : List Fault) :
    (syncF h i plan).acts = [] ∨
    ∃ (s : RevSt) (upd : Rev) (cc : Int) (sG : RevSt), s.store = adoptedStore plan i ∧
      pickF h plan i.template (i.collisionCount.getD 0) (syncListing plan i) s = (sG, some (upd, cc)) ∧
      (syncF h i plan).upd = upd.name := by
  rw [SYa.syncF_eq]
  by_cases hrun : (i.paused || !i.selectorOk) = true
  · rw [if_pos hrun]; exact Or.inl rfl
  · rw [if_neg hrun]
    have hAst : adoptedStore plan i = (adoptOrphanRevisionsF plan i.view.deleting i.fresh { store := i.store }).1.store := rfl
    generalize hA : adoptOrphanRevisionsF plan i.view.deleting i.fresh { store := i.store } = A at hAst
    obtain ⟨s, out⟩ := A
    cases out with
    | ok =>
      simp only
      unfold SYa.afterClaimF
      split_ifs
      · exact Or.inl rfl
      · generalize hsc : ({ s with tr := (claimPodsF plan i.view.deleting i.fresh i.pods s.tr).tr } : RevSt) = sc
        have hscs : sc.store = adoptedStore plan i := by rw [← hsc, hAst]
        cases hL : listRevsF plan sc with
        | mk sL lo =>
          cases lo with
          | none => exact Or.inl rfl
          | some listed =>
            simp only
            have hlisted : listed = listRevisions sc.store := listRevsF_some (by rw [hL])
            have hsLs : sL.store = sc.store := by
              have := listRevsF_store plan sc; rw [hL] at this; exact this
            have hlisting : sortRevs listed = syncListing plan i := by
              unfold syncListing; rw [hlisted, hscs]
            cases hG : getRevisionsF h plan i.template i.stored.currentRev (i.collisionCount.getD 0) (sortRevs listed) sL with
            | mk sG' ro =>
              cases ro with
              | none => exact Or.inl rfl
              | some t =>
                obtain ⟨cur, upd, cc⟩ := t
                simp only
                right
                rw [getRevisionsF_eq] at hG
                simp only [Prod.mk.injEq] at hG
                obtain ⟨hG1, hG2⟩ := hG
                cases hp : (pickF h plan i.template (i.collisionCount.getD 0) (sortRevs listed) sL).2 with
                | none => rw [hp] at hG2; simp at hG2
                | some pr =>
                  rw [hp] at hG2
                  simp only [Option.map_some, Option.some.injEq, Prod.mk.injEq] at hG2
                  refine ⟨sL, upd, cc, sG', by rw [hsLs, hscs], ?_, ?_⟩
                  · rw [← hlisting]
                    apply Prod.ext
                    · exact hG1
                    · rw [hp]
                      obtain ⟨_, h2, h3⟩ := hG2
                      simp only
                      rw [← h2, ← h3]
                  · exact (GL.finishCore_fields i plan _ _ cur upd cc _ _ _).2.1
    | err => exact Or.inl rfl
    | panic m => exact Or.inl rfl

theorem mem_reindexFrom_of_mem {l : List CPod} {x : CPod} (hx : x ∈ l) : ∀ n, ∃ k, C02p.setId x k ∈ C02p.reindexFrom n l := by
  induction l with
  | nil => simp at hx
  | cons a l ih =>
    intro n
    rw [C02p.reindexFrom_cons]
    rcases List.mem_cons.mp hx with rfl | hx'
    · exact ⟨n, List.mem_cons_self⟩
    · obtain ⟨k, hk⟩ := ih hx' (n + 1)
      exact ⟨k, List.mem_cons_of_mem _ hk⟩

/-- what the calls of a sync do to a pod object that no delete addresses: it stays, under its name, not terminating -/
theorem eff_keeps (setName : String) (orig : List CPod) : ∀ (acts : List Action) (q : CPod),
    q.pod.terminating = false → (∀ o id w, Action.delete o id w ∈ acts → id ≠ q.pod.id) →
    ∃ q', C02p.eff setName orig acts q = some q' ∧ q'.name = q.name ∧ q'.pod.terminating = false
  | [], q, ht, _ => ⟨q, rfl, rfl, ht⟩
  | .create o rev :: rest, q, ht, hno => by
    obtain ⟨q', h1, h2, h3⟩ := eff_keeps setName orig rest q ht (fun o id w hm => hno o id w (List.mem_cons_of_mem _ hm))
    exact ⟨q', by unfold C02p.eff; exact h1, h2, h3⟩
  | .delete o id w :: rest, q, ht, hno => by
    have hne : id ≠ q.pod.id := hno o id w List.mem_cons_self
    have hb : (q.pod.id == id) = false := by simpa using fun e => hne e.symm
    have hd : C02p.delStep id q = q := by unfold C02p.delStep; rw [hb]; rfl
    obtain ⟨q', h1, h2, h3⟩ := eff_keeps setName orig rest q ht (fun o id w hm => hno o id w (List.mem_cons_of_mem _ hm))
    refine ⟨q', ?_, h2, h3⟩
    unfold C02p.eff
    rw [hb, hd]
    simpa using h1
  | .update o :: rest, q, ht, hno => by
    have hk : (C02p.updStep setName orig o q).pod.terminating = false ∧ (C02p.updStep setName orig o q).name = q.name ∧
        (C02p.updStep setName orig o q).pod.id = q.pod.id := by
      unfold C02p.updStep; split_ifs <;> exact ⟨ht, rfl, rfl⟩
    obtain ⟨q', h1, h2, h3⟩ := eff_keeps setName orig rest (C02p.updStep setName orig o q) hk.1
      (fun o' id w hm => by rw [hk.2.2]; exact hno o' id w (List.mem_cons_of_mem _ hm))
    exact ⟨q', by unfold C02p.eff; exact h1, h2.trans hk.2.1, h3⟩

theorem own_eq {a b : CPod} (hab : C02p.own a = C02p.own b) : a.name = b.name ∧ a.pod = b.pod := by
  unfold C02p.own at hab
  have h1 := congrArg CPod.name hab
  have h2 := congrArg CPod.pod hab
  exact ⟨h1, h2⟩

/-- **the pods half of C08.norestart on one round** -/
theorem norestart_pods_step {h : Hashing} (hnum : ∀ d c, h.hashNumOf d c = none) (W : SyncIn) (es : List Edit)
    (p : List Fault) (hes : ∀ e ∈ es, keepsTemplate e = true) (hI : Inv W) (hlen : W.pods.length ≤ freshId)
    (c : CPod) (hc : c ∈ W.pods) (hterm : c.pod.terminating = false) (hf : c.pod.failed = false)
    (hs : c.pod.succeeded = false) (hrev : c.pod.rev = W.stored.updateRev)
    (hD : c.pod.ord ∈ desired ((applyEdits es W).view.replicas.getD 0) (applyEdits es W).view.slots) :
    ∃ q ∈ (round h (applyEdits es W) p).1.pods, q.name = c.name ∧ q.pod.terminating = false := by
  have hpods : (applyEdits es W).pods = W.pods := (applyEdits_frame es W).pods
  -- the pod in the settled world
  have hfs : (c.pod.failed || c.pod.succeeded) = false := by rw [hf, hs]; rfl
  have hso : C02p.settleOne c = { c with pod := { c.pod with phase := .running, ready := true } } := by
    unfold C02p.settleOne; rw [hfs]; simp
  have hmemM : C02p.settleOne c ∈ ((applyEdits es W).pods.filter (fun c => !c.pod.terminating)).map C02p.settleOne := by
    apply List.mem_map_of_mem
    rw [List.mem_filter, hpods]
    exact ⟨hc, by rw [hterm]; rfl⟩
  have hmemS := (sortPods_perm _).mem_iff.mpr hmemM
  obtain ⟨k, hk⟩ := mem_reindexFrom_of_mem hmemS 0
  have hc0 : C02p.setId (C02p.settleOne c) k ∈ (settle (applyEdits es W)).pods := by
    rw [C02p.settle_pods, C02p.reindex_eq]; exact hk
  set c0 := C02p.setId (C02p.settleOne c) k with hc0def
  have hc0name : c0.name = c.name := by rw [hc0def, hso]; rfl
  have hc0pod : c0.pod = { c.pod with phase := .running, ready := true, id := k } := by rw [hc0def, hso]; rfl
  have hids := GL.settle_idsOk (applyEdits es W) (by rw [hpods]; exact hlen)
  -- no delete addresses it
  have hnodel : ∀ o' w, Action.delete o' c0.pod.id w ∉ (syncF h (settle (applyEdits es W)) p).acts := by
    intro o' w hmem
    rcases sync_acts_upd h (settle (applyEdits es W)) p with hnil | ⟨s, upd, cc, sG, _, hpick, hupd⟩
    · rw [hnil] at hmem; simp at hmem
    · obtain ⟨l, hl, heq, hname⟩ := inv_pinned hnum hI p
      have hsame : SameRevisionInputs (settle W) (settle (applyEdits es W)) := settle_sameInputs (applyEdits_sameInputs es W hes)
      rw [syncListing_congr hsame p, hsame.template, hsame.cc] at hpick
      rw [(pickF_unchanged h p (settle W).template ((settle W).collisionCount.getD 0) (syncListing p (settle W)) s hl heq).1] at hpick
      simp only [Prod.mk.injEq, Option.some.injEq] at hpick
      have hupdname : (syncF h (settle (applyEdits es W)) p).upd = W.stored.updateRev := by
        rw [hupd, ← hpick.2.1]; exact hname
      rcases GL.syncF_cases h (settle (applyEdits es W)) p with hr | hi
      · rw [hr.acts] at hmem
        unfold GL.syncReconcile at hmem
        rcases C03.C03_prop _ _ _ _ _ hmem with ⟨pd, hpd, hpid, hpord, hwhy⟩ | ⟨_, hid, _⟩
        · unfold GL.syncPods at hpd
          obtain ⟨c', hc', rfl⟩ := List.mem_map.mp hpd
          have hc'S : c' ∈ (settle (applyEdits es W)).pods := hr.sub.subset hc'
          have hpe : c'.pod = c0.pod :=
            (GL.idsOkB_of_idsOk hids).inj _ (List.mem_map_of_mem hc'S) _ (List.mem_map_of_mem hc0) hpid
          rw [hpe, hc0pod] at hwhy hpord
          simp only at hwhy hpord
          rcases hwhy with ⟨_, hnd⟩ | ⟨_, hfl⟩ | ⟨_, _, _, hrv, _⟩
          · apply hnd; rw [← hpord]; exact hD
          · simp only [Pod.failed, Pod.succeeded] at hfl
            rcases hfl with hfl | hfl <;> simp at hfl
          · apply hrv; rw [hupdname]; exact hrev
        · have := hids.small _ (List.mem_map_of_mem hc0)
          omega
      · rw [hi.1] at hmem; simp at hmem
  -- through the patches, the pod-control calls, the re-sort
  have hown := C02p.own_patchGo p [] (syncF h (settle (applyEdits es W)) p).log (settle (applyEdits es W)).pods
  have : C02p.own c0 ∈ ((settle (applyEdits es W)).pods).map C02p.own := List.mem_map_of_mem hc0
  rw [← hown] at this
  obtain ⟨q1, hq1, hq1o⟩ := List.mem_map.mp this
  obtain ⟨hq1n, hq1p⟩ := own_eq hq1o
  have hq1t : q1.pod.terminating = false := by rw [hq1p, hc0pod]; exact hterm
  obtain ⟨q2, he, hq2n, hq2t⟩ := eff_keeps (settle (applyEdits es W)).setName (settle (applyEdits es W)).pods
    ((syncF h (settle (applyEdits es W)) p).acts.take (syncF h (settle (applyEdits es W)) p).actsDone) q1 hq1t
    (by
      intro o' id w hm hid
      rw [hid, hq1p] at hm
      exact hnodel o' w (List.mem_of_mem_take hm))
  have hq2mem : q2 ∈ applyActs (settle (applyEdits es W)).setName (settle (applyEdits es W)).pods
      (applyPatches p (syncF h (settle (applyEdits es W)) p).log (settle (applyEdits es W)).pods)
      ((syncF h (settle (applyEdits es W)) p).acts.take (syncF h (settle (applyEdits es W)) p).actsDone) := by
    rw [C02p.applyActs_eq]
    exact List.mem_append_left _ (List.mem_filterMap.mpr ⟨q1, hq1, he⟩)
  have hq2s := (sortPods_perm _).mem_iff.mpr hq2mem
  obtain ⟨k', hk'⟩ := mem_reindexFrom_of_mem hq2s 0
  refine ⟨C02p.setId q2 k', ?_, ?_, ?_⟩
  · show C02p.setId q2 k' ∈ reindex (sortPods _)
    rw [C02p.reindex_eq]; exact hk'
  · show q2.name = c.name
    rw [hq2n, hq1n, hc0name]
  · exact hq2t

end Asts.WE
