import Asts.Proofs.L1_c_Track
import Asts.Proofs.Rc_NoPanic

/-! C12: the monitor clauses on the model's output, assembled from the loop invariants. -/
namespace Asts.L1c

theorem observe_no_cd (acts : List Action) (hc : nCreate acts = 0) (hd : nDelete acts = 0) :
    (observe acts).any (fun a => a.isCreate || a.isDelete) = false := by
  induction acts with
  | nil => rfl
  | cons x xs ih =>
    have h1 := nCreate_nonneg xs
    have h2 := nDelete_nonneg xs
    cases x with
    | create o r => simp only [nCreate] at hc; omega
    | delete o i w => simp only [nDelete] at hd; omega
    | update o =>
      simp only [nCreate, nDelete] at hc hd
      have := ih hc hd
      simp only [observe, List.map_cons, List.any_cons, Action.observe, OAct.isCreate, OAct.isDelete, Bool.or_self,
        Bool.false_or] at this ⊢
      exact this

theorem completeRollingUpdate_observedGen (v : SetView) (st : Status) :
    (completeRollingUpdate v st).observedGen = st.observedGen := by
  unfold completeRollingUpdate; split_ifs <;> rfl

theorem st0Of_fields (v : SetView) (cur upd : String) (pods : List Pod) :
    (st0Of v cur upd pods).observedGen = v.generation ∧ (st0Of v cur upd pods).currentRev = cur ∧
    (st0Of v cur upd pods).updateRev = upd := ⟨rfl, rfl, rfl⟩

theorem c12gen_of_post (v : SetView) (cur upd : String) (pods : List Pod) (s : St) (stored : Status)
    (h : Post upd pods (st0Of v cur upd pods) s) : C12gen v stored (completeRollingUpdate v s.status) = true := by
  unfold C12gen
  rw [completeRollingUpdate_observedGen, h.1, (st0Of_fields v cur upd pods).1]
  simp

theorem c12complete_of_post (v : SetView) (cur upd : String) (pods : List Pod) (s : St)
    (h : Post upd pods (st0Of v cur upd pods) s) :
    C12complete cur upd pods (observe s.acts) (completeRollingUpdate v s.status) = true := by
  obtain ⟨_, hc, hu, _, hcore⟩ := h
  rw [(st0Of_fields v cur upd pods).2.1] at hc
  rw [(st0Of_fields v cur upd pods).2.2] at hu
  unfold C12complete completeRollingUpdate
  by_cases hcond : (v.strat == StratType.rolling && s.status.updated == s.status.replicas && s.status.ready == s.status.replicas) = true
  · simp only [hcond, if_true]
    simp only [Bool.and_eq_true, beq_iff_eq] at hcond
    obtain ⟨hall, hc0, hd0⟩ := hcore hcond.1.2 hcond.2
    rw [observe_no_cd _ hc0 hd0]
    have hallb : pods.all (fun p => p.rev == upd && p.healthy) = true := by
      rw [List.all_eq_true]
      intro p hp
      obtain ⟨h1, h2⟩ := hall p hp
      simp only [countedAt, Bool.and_eq_true, Bool.not_eq_true', beq_iff_eq] at h1
      simp [Pod.healthy, h1.2, h1.1.2, h2]
    simp [hu, hallb]
  · simp only [hcond, Bool.false_eq_true, if_false, hc, beq_self_eq_true, Bool.true_or]

theorem census_of_post (v : SetView) (cur upd : String) (pods : List Pod) (s : St)
    (h : Post upd pods (st0Of v cur upd pods) s) (hacts : s.acts = []) :
    s.status = st0Of v cur upd pods := h.2.2.2.1 hacts

/-- the sentinel of the first-unhealthy scan cannot be hit when every scanned ordinal is below it -/
theorem firstUnhealthy_sentinel (ps : List Pod) (hord : ∀ p ∈ ps, p.ord < maxInt32)
    (hun : ∃ p ∈ ps, p.healthy = false) : (firstUnhealthy ps).1.isSome = true := by
  apply firstUnhealthy_some' ps
  rw [firstUnhealthy_eq]
  simp only
  rw [fuStep_count]
  obtain ⟨p, hp, hh⟩ := hun
  have : p ∈ ps.filter (fun p => !p.healthy) := List.mem_filter.2 ⟨hp, by simp [hh]⟩
  have := List.length_pos_of_mem this
  omega

end Asts.L1c
