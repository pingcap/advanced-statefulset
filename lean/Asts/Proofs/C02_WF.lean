import Asts.Proofs.C02_Stable

/-! C02: the premises `wfWorld` as propositions; `settle` keeps a world inside the premises. -/
namespace Asts.C02p
open Asts Asts.L1c

/-- the per-pod clause of `wfWorld` -/
def wfPod (i : SyncIn) (c : CPod) : Bool :=
  if c.member then
    c.name == canonicalName i.setName c.pod.ord && 0 ≤ c.pod.ord && c.selMatch && c.owner != .other && c.pod.created &&
    (i.view.parallel || !((c.pod.failed || c.pod.succeeded) && !(desired (replicasOf i.view) i.view.slots).contains c.pod.ord))
  else c.owner != .self || true

/-- the per-revision clause of `wfWorld` -/
def wfRev (h : Hashing) (i : SyncIn) (r : Rev) : Bool :=
  (r.owner != .other && (r.selMatch || r.marker)) ||
    ((List.range 8).all (fun k => h.nameOf i.template ((i.collisionCount.getD 0) + k) != r.name))

/-- the spec clause of `wfWorld` -/
def wfSpec (i : SyncIn) : Bool :=
  !i.paused && i.selectorOk && !i.view.deleting && !i.fresh.gone && i.fresh.uidOk && !i.fresh.deleting &&
  0 ≤ replicasOf i.view &&
  (i.view.strat == .rolling || i.view.strat == .onDelete) &&
  (match i.view.ru with | some none => false | some (some p) => 0 ≤ p | none => true) &&
  i.view.slots.all (0 ≤ ·) &&
  (match i.historyLimit with | some l => 0 ≤ l | none => false)

theorem wfWorld_eq (h : Hashing) (i : SyncIn) :
    wfWorld h i = (wfSpec i && i.store.all (wfRev h i) && i.pods.all (wfPod i)) := rfl

theorem wfWorld_iff (h : Hashing) (i : SyncIn) :
    wfWorld h i = true ↔ wfSpec i = true ∧ (∀ r ∈ i.store, wfRev h i r = true) ∧ (∀ c ∈ i.pods, wfPod i c = true) := by
  rw [wfWorld_eq]
  simp only [Bool.and_eq_true, List.all_eq_true, and_assoc]

theorem specOk_of_wfSpec {i : SyncIn} (h : wfSpec i = true) (hr : i.view.replicas.isSome = true) : specOk i = true := by
  unfold wfSpec at h
  unfold specOk
  simp only [Bool.and_eq_true] at h ⊢
  obtain ⟨⟨⟨⟨⟨⟨⟨⟨⟨⟨s1, s2⟩, s3⟩, _⟩, _⟩, _⟩, s7⟩, s8⟩, _⟩, _⟩, s11⟩ := h
  exact ⟨⟨⟨⟨⟨⟨s1, s2⟩, s3⟩, hr⟩, s7⟩, s8⟩, s11⟩

/-- a valid spec has a partition `≥ 0`, is OnDelete, or is in the legacy boundary mode -/
theorem partB_or_legacyB_of_wfSpec {i : SyncIn} (h : wfSpec i = true) : partB i.view = true ∨ legacyB i.view = true := by
  unfold wfSpec at h
  simp only [Bool.and_eq_true, Bool.not_eq_true', Bool.or_eq_true, beq_iff_eq, decide_eq_true_eq, List.all_eq_true] at h
  obtain ⟨⟨⟨⟨_, s8⟩, s9⟩, _⟩, _⟩ := h
  unfold partB legacyB
  rcases s8 with hr | ho
  · cases hru : i.view.ru with
    | none => right; simp [hr]
    | some q =>
      cases q with
      | none => rw [hru] at s9; simp at s9
      | some p => left; rw [hru] at s9; simp only [Bool.or_eq_true, beq_iff_eq]; right; simpa using s9
  · left; simp [ho]

/-- the per-pod clause for a member, as propositions -/
theorem wfPod_member {i : SyncIn} {c : CPod} (hwf : wfPod i c = true) (hm : c.member = true) :
    c.name = canonicalName i.setName c.pod.ord ∧ 0 ≤ c.pod.ord ∧ c.selMatch = true ∧ c.owner ≠ .other ∧
      c.pod.created = true ∧
      (i.view.parallel = true ∨ ((c.pod.failed || c.pod.succeeded) = true →
        (desired (replicasOf i.view) i.view.slots).contains c.pod.ord = true)) := by
  unfold wfPod at hwf
  rw [if_pos hm] at hwf
  simp only [Bool.and_eq_true, beq_iff_eq, decide_eq_true_eq, bne_iff_ne, ne_eq, Bool.or_eq_true, Bool.not_eq_true',
    Bool.and_eq_false_imp, Bool.not_eq_false'] at hwf
  obtain ⟨⟨⟨⟨⟨w1, w2⟩, w3⟩, w4⟩, w5⟩, w6⟩ := hwf
  refine ⟨w1, w2, w3, w4, w5, ?_⟩
  rcases w6 with w6 | w6
  · exact Or.inl w6
  · exact Or.inr (fun hfs => w6 (by simpa using hfs))

theorem wfPod_key (i : SyncIn) (c : CPod) : wfPod i (key c) = wfPod i c := rfl

/-- the per-pod clause of `wfWorld` without "the object carries a phase" (a pod created in this round has none yet) -/
def wfPod0 (i : SyncIn) (c : CPod) : Bool :=
  if c.member then
    c.name == canonicalName i.setName c.pod.ord && 0 ≤ c.pod.ord && c.selMatch && c.owner != .other &&
    (i.view.parallel || !((c.pod.failed || c.pod.succeeded) && !(desired (replicasOf i.view) i.view.slots).contains c.pod.ord))
  else true

theorem wfPod0_of_wfPod {i : SyncIn} {c : CPod} (h : wfPod i c = true) : wfPod0 i c = true := by
  unfold wfPod at h; unfold wfPod0
  split_ifs at h ⊢ with hm
  · simp only [Bool.and_eq_true] at h ⊢
    obtain ⟨⟨⟨⟨⟨a1, a2⟩, a3⟩, a4⟩, -⟩, a6⟩ := h
    exact ⟨⟨⟨⟨a1, a2⟩, a3⟩, a4⟩, a6⟩
  · rfl

theorem wfPod0_key (i : SyncIn) (c : CPod) : wfPod0 i (key c) = wfPod0 i c := rfl

theorem wfPod_settleOne_of_wfPod0 (i : SyncIn) (c : CPod) (hc : wfPod0 i c = true) : wfPod i (settleOne c) = true := by
  unfold settleOne
  by_cases hfs : (c.pod.failed || c.pod.succeeded) = true
  · simp only [hfs, if_true]
    unfold wfPod0 at hc; unfold wfPod
    split_ifs at hc ⊢ with hm
    · simp only [Bool.and_eq_true] at hc ⊢
      obtain ⟨⟨⟨⟨a1, a2⟩, a3⟩, a4⟩, a6⟩ := hc
      refine ⟨⟨⟨⟨⟨a1, a2⟩, a3⟩, a4⟩, ?_⟩, a6⟩
      simp only [Bool.or_eq_true, Pod.failed, Pod.succeeded, beq_iff_eq] at hfs
      rcases hfs with h | h <;> simp [Pod.created, h]
    · simp
  · simp only [hfs, Bool.false_eq_true, if_false]
    unfold wfPod0 at hc; unfold wfPod
    by_cases hm : c.member = true
    · simp only [hm, if_true, Bool.and_eq_true] at hc ⊢
      obtain ⟨⟨⟨⟨a1, a2⟩, a3⟩, a4⟩, -⟩ := hc
      refine ⟨⟨⟨⟨⟨a1, a2⟩, a3⟩, a4⟩, ?_⟩, ?_⟩
      · simp [Pod.created]
      · simp [Pod.failed, Pod.succeeded]
    · simp only [hm, Bool.false_eq_true, if_false]
      simp

theorem wfSpec_settle {i : SyncIn} (h1 : wfSpec i = true) : wfSpec (settle i) = true := by
  unfold wfSpec at h1 ⊢
  simp only [Bool.and_eq_true, Bool.not_eq_true'] at h1 ⊢
  obtain ⟨⟨⟨⟨⟨⟨⟨⟨⟨⟨a1, a2⟩, a3⟩, -⟩, -⟩, -⟩, a7⟩, a8⟩, a9⟩, a10⟩, a11⟩ := h1
  exact ⟨⟨⟨⟨⟨⟨⟨⟨⟨⟨a1, a2⟩, a3⟩, rfl⟩, rfl⟩, a3⟩, a7⟩, a8⟩, a9⟩, a10⟩, a11⟩

theorem wfSpec_applySync (i : SyncIn) (plan : List Fault) (o : SyncOut) : wfSpec (applySync i plan o) = wfSpec i := by
  unfold wfSpec; rfl

/-- the pods `settle` leaves have been admitted; `a` stands for any world with the name, policy, replicas and slots the
    per-pod clause is read against -/
theorem wfPod_settle (a : SyncIn) {i : SyncIn} (h0 : ∀ c ∈ i.pods, wfPod0 a c = true) :
    ∀ c ∈ (settle i).pods, wfPod a c = true := by
  intro c hc
  obtain ⟨c0, hc0, -, hk⟩ := settle_src i hc
  have := wfPod_settleOne_of_wfPod0 a c0 (h0 c0 hc0)
  rw [← wfPod_key, hk, wfPod_key] at this
  exact this

theorem wfWorld_settle (h : Hashing) (i : SyncIn) (hw : wfWorld h i = true) : wfWorld h (settle i) = true := by
  rw [wfWorld_iff] at hw ⊢
  exact ⟨wfSpec_settle hw.1, hw.2.1, wfPod_settle i (fun c hc => wfPod0_of_wfPod (hw.2.2 c hc))⟩

end Asts.C02p
