import Asts.Proofs.C02_CConverge
import Asts.Proofs.C02_BBound

/-! C02, convergence with pod objects that are not members of the set: the decidable front end and the bound. -/
namespace Asts.C02p
open Asts Asts.L1c

/-- `preCB` with pod objects that are no members of the set allowed: the clauses on pods speak about the members; pod
    names are distinct (as in any namespace); a non-member does not carry the canonical name of a desired ordinal (in the
    real world a pod with such a name IS a member; in the model `member` is a field of its own); a non-member the set
    controls has no colon in its name (so that the model's log entry of its release can be read back) -/
def preMB (h : Hashing) (i : SyncIn) : Bool :=
  specOk i &&
  i.pods.all (fun c => !c.member || (c.owner != .other && c.selMatch && c.name == canonicalName i.setName c.pod.ord &&
    decide (0 ≤ c.pod.ord) && c.pod.stOk && c.pod.created)) &&
  distinctOrdsC (i.pods.filter (·.member)) &&
  decide ((i.pods.map (·.name)).Nodup) &&
  i.pods.all (fun c => c.member ||
    !((desired (replicasOf i.view) i.view.slots).map (canonicalName i.setName)).contains c.name) &&
  i.pods.all (fun c => c.member || c.owner != .self || noColon c.name) &&
  decide ((i.store.map (·.name)).Nodup) && noColon i.setName && hashOkB h i && labelsOkB h i

/-- room in the model's id scheme: non-members, members outside the desired set, a full desired set -/
def roomMB (i : SyncIn) : Bool :=
  decide ((i.pods.filter (fun c => !c.member)).length +
    ((i.pods.filter (·.member)).filter (fun c => !(desired (replicasOf i.view) i.view.slots).contains c.pod.ord)).length +
    (replicasOf i.view).toNat ≤ freshId)

/-- no Failed/Succeeded member outside the desired set -/
def noFsOutMB (i : SyncIn) : Bool :=
  i.pods.all (fun c => !c.member || !(c.pod.failed || c.pod.succeeded) ||
    (desired (replicasOf i.view) i.view.slots).contains c.pod.ord)

/-- the class of the general convergence theorem, non-members allowed -/
def preNMB (h : Hashing) (i : SyncIn) : Bool :=
  preMB h i && (partB i.view || legacyB i.view) && roomMB i && (i.view.parallel || noFsOutMB i)

/-- what `preNMB` asks beyond `wfWorld` -/
def extraMB (h : Hashing) (i : SyncIn) : Bool :=
  i.view.replicas.isSome &&
  i.pods.all (fun c => !c.member || c.pod.stOk) &&
  distinctOrdsC (i.pods.filter (·.member)) &&
  decide ((i.pods.map (·.name)).Nodup) &&
  i.pods.all (fun c => c.member ||
    !((desired (replicasOf i.view) i.view.slots).map (canonicalName i.setName)).contains c.name) &&
  i.pods.all (fun c => c.member || c.owner != .self || noColon c.name) &&
  decide ((i.store.map (·.name)).Nodup) && noColon i.setName && hashOkB h i && labelsOkB h i && roomMB i

theorem vis_of_bool {r : Rev} (hv : (r.owner != .other && (r.selMatch || r.marker)) = true) : Vis r := by
  simp only [Bool.and_eq_true, bne_iff_ne, ne_eq, Bool.or_eq_true] at hv
  exact ⟨hv.2, hv.1⟩

theorem revPrem_of {h : Hashing} {i : SyncIn} (h1 : hashOkB h i = true) (h2 : labelsOkB h i = true) : RevPrem h i := by
  refine ⟨?_, ?_⟩
  · unfold labelsOkB at h2
    rw [Bool.or_eq_true] at h2
    rcases h2 with h2 | h2
    · left; simpa using h2
    · right
      intro r hr hd
      rw [List.all_eq_true] at h2
      have := h2 r hr
      simp only [Bool.or_eq_true, bne_iff_ne, ne_eq] at this
      rcases this with h3 | h3
      · exact absurd hd h3
      · intro hn; rw [hn] at h3; cases h3
  · unfold hashOkB at h1
    rw [Bool.or_eq_true] at h1
    rcases h1 with h1 | h1
    · left
      rw [List.any_eq_true] at h1
      obtain ⟨r, hr, hb⟩ := h1
      rw [Bool.and_eq_true] at hb
      exact ⟨r, hr, vis_of_bool hb.1, hb.2⟩
    · right
      rw [List.any_eq_true] at h1
      obtain ⟨n, hn, hw⟩ := h1
      rw [List.mem_range] at hn
      unfold walkOkB at hw
      simp only [Bool.and_eq_true, List.all_eq_true, List.mem_range, List.any_eq_true, bne_iff_ne, ne_eq, Bool.or_eq_true,
        beq_iff_eq] at hw
      obtain ⟨⟨hw1, hw2⟩, hw3⟩ := hw
      refine ⟨n, hn, ?_, hw2, ?_⟩
      · intro k hk
        obtain ⟨ex, hex, h3, h4⟩ := hw1 k hk
        exact ⟨ex, hex, h3, h4⟩
      · intro hn0
        rcases hw3 with h3 | h3
        · exact absurd h3 hn0
        · exact h3

theorem noColon_iff {s : String} (hs : noColon s = true) : ∀ ch ∈ s.toList, (ch == ':') = false := by
  unfold noColon at hs
  rw [List.all_eq_true] at hs
  intro ch hch
  simpa using hs ch hch

/-- the fairness step takes a world inside `preMB` to one the argument speaks about -/
theorem preM_settle {h : Hashing} {i : SyncIn} (hb : preMB h i = true) (hroom : roomMB i = true) :
    PreM (settle i) ∧ roomM (settle i) ∧ RevPrem h (settle i) := by
  unfold preMB at hb
  simp only [Bool.and_eq_true, List.all_eq_true, decide_eq_true_eq, beq_iff_eq, bne_iff_ne, ne_eq, Bool.or_eq_true,
    Bool.not_eq_true'] at hb
  obtain ⟨⟨⟨⟨⟨⟨⟨⟨⟨hspec, hmem⟩, hdist⟩, hpn⟩, hin⟩, hic⟩, hnames⟩, hcol⟩, hhash⟩, hlab⟩ := hb
  have hs := (specOk_iff i).1 hspec
  have hkp := settle_kp i
  have hords : ((i.pods.filter (·.member)).map (·.pod.ord)).Nodup := by
    unfold distinctOrdsC at hdist
    apply GL.nodup_of_eraseDups_length
    simpa using hdist
  have hfield : ∀ x ∈ (settle i).pods, ∃ c0 ∈ i.pods, c0.owner = x.owner ∧ c0.member = x.member ∧ c0.selMatch = x.selMatch ∧
      c0.name = x.name ∧ c0.pod.ord = x.pod.ord ∧ c0.pod.stOk = x.pod.stOk ∧ (c0.pod.created = true → x.pod.created = true) := by
    intro x hx
    obtain ⟨c0, hc0, _, hk⟩ := settle_src i hx
    obtain ⟨k, rfl⟩ := eq_of_key hk.symm
    refine ⟨c0, hc0, (settleOne_owner c0).symm, (settleOne_member c0).symm, (settleOne_sel c0).symm,
      (settleOne_name c0).symm, (settleOne_ord c0).symm, ?_, ?_⟩
    · show c0.pod.stOk = (settleOne c0).pod.stOk
      unfold settleOne; split_ifs <;> rfl
    · intro hcr
      show (settleOne c0).pod.created = true
      unfold settleOne; split_ifs
      · exact hcr
      · simp [Pod.created]
  have hroom0 := hroom
  unfold roomMB at hroom0
  simp only [decide_eq_true_eq] at hroom0
  have hsmR : (replicasOf i.view).toNat ≤ freshId := by omega
  have hsm : i.pods.length ≤ freshId := by
    have h1 := List.length_eq_length_filter_add (l := i.pods) (fun c => c.member)
    have h2 := length_split_le (D := desired (replicasOf i.view) i.view.slots) hords
    rw [(desired_isDesired _ _).len] at h2
    have h3 : (i.pods.filter (fun c => !decide (c.member = true))).length = (i.pods.filter (fun c => !c.member)).length := by
      congr 1; apply List.filter_congr; intro c _; simp
    have h4 : (i.pods.filter (fun c => decide (c.member = true))).length = (i.pods.filter (·.member)).length := by
      congr 1; apply List.filter_congr; intro c _; simp
    omega
  have hsmall : (settle i).pods.length ≤ freshId := le_trans (settle_length_le i) hsm
  have hD : desired (replicasOf (settle i).view) (settle i).view.slots = desired (replicasOf i.view) i.view.slots := rfl
  refine ⟨⟨hs.of_eq rfl rfl rfl rfl rfl rfl, ?_, ?_, ?_, ?_, ?_,
    idOk_of_idPos (settle_idPos i) hsmall, hsmall, hsmR, rfl, rfl, hs.del,
    fun c hc => (settle_settled i c hc).1, noColon_iff hcol, hnames⟩, ?_, revPrem_of hhash hlab⟩
  · intro x hx hm
    obtain ⟨c0, hc0, e1, e2, e3, e4, e5, e7, e8⟩ := hfield x hx
    have hm0 : c0.member = true := by rw [e2]; exact hm
    rcases hmem c0 hc0 with hf | hg
    · rw [hm0] at hf; cases hf
    · obtain ⟨⟨⟨⟨⟨a1, a2⟩, a3⟩, a4⟩, a5⟩, a6⟩ := hg
      rw [← e1, ← e3, ← e4, ← e5, ← e7]
      refine ⟨?_, a2, a3, a4, a5, e8 a6⟩
      cases hco : c0.owner with
      | self => exact Or.inl rfl
      | none => exact Or.inr rfl
      | other => exact absurd hco a1
  · have h1 := (hkp.filter (·.member) (fun _ => rfl)).ords
    rw [h1.nodup_iff, filter_settleOne (q := (·.member)) settleOne_member, map_settleOne (f := (·.pod.ord)) settleOne_ord,
      List.filter_filter]
    refine (List.Sublist.map _ ?_).nodup hords
    apply List.monotone_filter_right
    intro c hc
    simp only [Bool.and_eq_true] at hc
    exact hc.1
  · rw [(keyPerm_names hkp).nodup_iff, map_settleOne (f := (·.name)) settleOne_name]
    exact (List.Sublist.map _ List.filter_sublist).nodup hpn
  · intro x hx hm o ho
    obtain ⟨c0, hc0, _, e2, _, e4, _⟩ := hfield x hx
    have hm0 : c0.member = false := by rw [e2]; exact hm
    rcases hin c0 hc0 with hf | hg
    · rw [hm0] at hf; cases hf
    · rw [← e4]
      intro heq
      have : ((desired (replicasOf i.view) i.view.slots).map (canonicalName i.setName)).contains c0.name = true := by
        rw [List.contains_iff_mem, List.mem_map]
        exact ⟨o, ho, heq.symm⟩
      rw [this] at hg; cases hg
  · intro x hx hm hself
    obtain ⟨c0, hc0, e1, e2, _, e4, _⟩ := hfield x hx
    have hm0 : c0.member = false := by rw [e2]; exact hm
    have hs0 : c0.owner = .self := by rw [e1]; exact hself
    rcases hic c0 hc0 with (hf | hf) | hg
    · rw [hm0] at hf; cases hf
    · exact absurd hs0 hf
    · rw [← e4]; exact noColon_iff hg
  · unfold roomM
    rw [hD]
    unfold roomMB at hroom
    simp only [decide_eq_true_eq] at hroom
    have h1 : ((settle i).pods.filter (fun c => !c.member)).length ≤ (i.pods.filter (fun c => !c.member)).length :=
      settle_filter_length_le i _ (fun c => by simp only [settleOne_member]) (fun _ => rfl)
    have h2 : (((settle i).pods.filter (·.member)).filter
        (fun c => !(desired (replicasOf i.view) i.view.slots).contains c.pod.ord)).length ≤
        ((i.pods.filter (·.member)).filter (fun c => !(desired (replicasOf i.view) i.view.slots).contains c.pod.ord)).length := by
      rw [List.filter_filter, List.filter_filter]
      exact settle_filter_length_le i _ (fun c => by simp only [settleOne_member, settleOne_ord]) (fun _ => rfl)
    have e : replicasOf (settle i).view = replicasOf i.view := rfl
    rw [e]
    omega

/-- the prepared members-only world of a settled world is normal and settled -/
theorem prep_nscM {h : Hashing} {i : SyncIn} (hp : PreM (settle i)) (hrm : roomM (settle i)) (hr : RevPrem h (settle i)) :
    NSC h (prepW h (mOf (settle i))) := by
  obtain ⟨G, upd, cc, hpick, _⟩ := pick_of_prem hp.names hr
  refine ⟨prepW_norm hp.preC (mOf_pick hpick), idOk_ownM hp.ids, ?_, ?_⟩
  · intro c hc
    rw [prepW_pods, mem_ownM] at hc
    obtain ⟨c0, hc0, _, rfl⟩ := hc
    exact settle_settled i c0 hc0
  · have hview : (prepW h (mOf (settle i))).view = (settle i).view := prepW_view h (mOf (settle i))
    rw [hview, prepW_pods, ownM_filter_len _ _ (fun _ => rfl)]
    unfold roomM at hrm
    omega

theorem stg_settle {h : Hashing} {i : SyncIn} (hb : preNMB h i = true) :
    (legacyB i.view = true → i.view.parallel = true → Stg h (LParK h) (settle i)) ∧
    (legacyB i.view = true → i.view.parallel = false → Stg h (LMonoK h) (settle i)) ∧
    (legacyB i.view = false → i.view.parallel = true → Stg h (ParK h) (settle i)) ∧
    (legacyB i.view = false → i.view.parallel = false → Stg h (MonoK h) (settle i)) := by
  unfold preNMB at hb
  simp only [Bool.and_eq_true, Bool.or_eq_true] at hb
  obtain ⟨⟨⟨hpre, hmode⟩, hroom⟩, hpol⟩ := hb
  obtain ⟨hp, hrm, hr⟩ := preM_settle hpre hroom
  obtain ⟨G, upd, cc, hpick, hcc⟩ := pick_of_prem hp.names hr
  have hs := prep_nscM hp hrm hr
  have hview : (prepW h (mOf (settle i))).view = i.view := prepW_view h (mOf (settle i))
  have hnofs : i.view.parallel = false → ∀ c ∈ (prepW h (mOf (settle i))).pods, c.pod.fs = true →
      inRange (bOf (prepW h (mOf (settle i)))) (EOf (prepW h (mOf (settle i)))) c.pod.ord = true := by
    intro hpar c hc hfs
    rw [hpar] at hpol
    have h4 : noFsOutMB i = true := by simpa using hpol
    rw [prepW_pods, mem_ownM] at hc
    obtain ⟨x, hx, hxm, rfl⟩ := hc
    obtain ⟨c0, hc0, _, hk⟩ := settle_src i hx
    have e1 : (settleOne c0).pod.fs = x.pod.fs := key_transfer (·.pod.fs) (fun _ => rfl) hk
    have e2 : (settleOne c0).pod.ord = x.pod.ord := key_transfer (·.pod.ord) (fun _ => rfl) hk
    have e3 : (settleOne c0).member = x.member := key_transfer (·.member) (fun _ => rfl) hk
    rw [settleOne_fs] at e1; rw [settleOne_ord] at e2; rw [settleOne_member] at e3
    unfold noFsOutMB at h4
    rw [List.all_eq_true] at h4
    have := h4 c0 hc0
    have hxfs : x.pod.fs = true := hfs
    have hc0fs : (c0.pod.failed || c0.pod.succeeded) = true := by rw [← e1] at hxfs; exact hxfs
    have hc0m : c0.member = true := by rw [e3]; exact hxm
    simp only [hc0fs, hc0m, Bool.not_true, Bool.false_or, List.contains_iff_mem] at this
    have hD := mem_desired_iff hs.norm c0.pod.ord
    rw [hview] at hD
    show inRange _ _ x.pod.ord = true
    rw [← e2]
    exact hD.1 this
  have hstg : ∀ {K : SyncIn → Prop}, K (prepW h (mOf (settle i))) → Stg h K (settle i) :=
    fun hk => ⟨hp, hrm, ⟨G, upd, cc, hpick, hcc⟩, hk⟩
  have hpart : legacyB i.view = false → PartOk (prepW h (mOf (settle i))).view := by
    intro hleg
    rw [hview]
    rcases hmode with hm | hm
    · exact partOk_of_partB hm
    · rw [hleg] at hm; cases hm
  refine ⟨?_, ?_, ?_, ?_⟩
  · intro hleg hpar
    obtain ⟨hroll, hru⟩ := legacy_of_legacyB hleg
    rw [← hview] at hpar hroll hru
    exact hstg ⟨hs, hpar, hroll, hru⟩
  · intro hleg hpar
    obtain ⟨hroll, hru⟩ := legacy_of_legacyB hleg
    have hf := hnofs hpar
    rw [← hview] at hpar hroll hru
    exact hstg ⟨⟨hs, hpar, hf⟩, hroll, hru⟩
  · intro hleg hpar
    rw [← hview] at hpar
    exact hstg ⟨hs, hpar, hpart hleg⟩
  · intro hleg hpar
    have hf := hnofs hpar
    rw [← hview] at hpar
    exact hstg ⟨⟨hs, hpar, hf⟩, hpart hleg⟩

/-- **general convergence, pod objects that are not members of the set allowed** -/
theorem converge_generalM {h : Hashing} {i : SyncIn} (hb : preNMB h i = true) :
    ∃ n ≤ (if legacyB i.view then muL (prepW h (mOf (settle i))) else muPods (prepW h (mOf (settle i)))) + 3,
      Final h (roundsN h n i) := by
  obtain ⟨s1, s2, s3, s4⟩ := stg_settle hb
  cases hleg : legacyB i.view with
  | true =>
    simp only [if_true]
    cases hpar : i.view.parallel with
    | true => exact converge_stg_rounds (lpar_conv h) (s1 hleg hpar)
    | false => exact converge_stg_rounds (lmono_conv h) (s2 hleg hpar)
  | false =>
    simp only [Bool.false_eq_true, if_false]
    cases hpar : i.view.parallel with
    | true => exact converge_stg_rounds (par_conv h) (s3 hleg hpar)
    | false => exact converge_stg_rounds (mono_conv h) (s4 hleg hpar)

/-- the bound is within what the monitor allows -/
theorem generalM_le_roundBound (h : Hashing) (i : SyncIn) :
    (if legacyB i.view then muL (prepW h (mOf (settle i))) else muPods (prepW h (mOf (settle i)))) + 3 ≤ roundBound i := by
  have hlen : (prepW h (mOf (settle i))).pods.length ≤ i.pods.length := by
    rw [prepW_pods]
    unfold ownM
    rw [List.length_map]
    exact le_trans (List.length_filter_le _ _) (settle_length_le i)
  have hrep : replicasOf (prepW h (mOf (settle i))).view = replicasOf i.view :=
    congrArg replicasOf (prepW_view h (mOf (settle i)))
  have hnt : ∀ c ∈ (prepW h (mOf (settle i))).pods, c.pod.terminating = false := by
    intro c hc
    rw [prepW_pods, mem_ownM] at hc
    obtain ⟨c0, hc0, _, rfl⟩ := hc
    exact (settle_settled i c0 hc0).1
  have h1 := muPods_le_gen (prepW h (mOf (settle i))) hnt
  have h2 := muL_le_gen (prepW h (mOf (settle i)))
  rw [hrep] at h1 h2
  unfold roundBound
  split_ifs <;> omega

end Asts.C02p

namespace Asts.C02p
open Asts Asts.L1c

theorem preNMB_of_wf {h : Hashing} {i : SyncIn} (hw : wfWorld h i = true) (hx : extraMB h i = true) : preNMB h i = true := by
  obtain ⟨hspec, _, hpods⟩ := (wfWorld_iff h i).1 hw
  unfold extraMB at hx
  simp only [Bool.and_eq_true, List.all_eq_true, decide_eq_true_eq] at hx
  obtain ⟨⟨⟨⟨⟨⟨⟨⟨⟨⟨x1, x2⟩, x3⟩, x4⟩, x5⟩, x6⟩, x10⟩, x11⟩, x12⟩, x13⟩, x14⟩ := hx
  have hpod := fun c (hc : c ∈ i.pods) (hm : c.member = true) => wfPod_member (hpods c hc) hm
  unfold preNMB preMB
  simp only [Bool.and_eq_true, List.all_eq_true, decide_eq_true_eq]
  refine ⟨⟨⟨⟨⟨⟨⟨⟨⟨⟨⟨⟨?_, ?_⟩, x3⟩, x4⟩, x5⟩, x6⟩, x10⟩, x11⟩, x12⟩, x13⟩, ?_⟩, x14⟩, ?_⟩
  · exact specOk_of_wfSpec hspec x1
  · intro c hc
    cases hm : c.member
    · rfl
    · obtain ⟨p1, p2, p3, p4, p5, _⟩ := hpod c hc hm
      have := x2 c hc
      rw [hm] at this
      simp only [Bool.not_true, Bool.false_or, Bool.and_eq_true, decide_eq_true_eq] at this
      simp only [Bool.not_true, Bool.false_or, Bool.and_eq_true, bne_iff_ne, ne_eq, beq_iff_eq, decide_eq_true_eq]
      exact ⟨⟨⟨⟨⟨p4, p3⟩, p1⟩, p2⟩, this⟩, p5⟩
  · rw [Bool.or_eq_true]
    exact partB_or_legacyB_of_wfSpec hspec
  · rw [Bool.or_eq_true]
    by_cases hp : i.view.parallel = true
    · exact Or.inl hp
    · right
      unfold noFsOutMB
      rw [List.all_eq_true]
      intro c hc
      cases hm : c.member
      · simp
      · rcases (hpod c hc hm).2.2.2.2.2 with h1 | h1
        · exact absurd h1 hp
        · cases hfs : (c.pod.failed || c.pod.succeeded)
          · simp
          · have := h1 hfs
            simp only [List.contains_iff_mem] at this
            simp [this]

end Asts.C02p
