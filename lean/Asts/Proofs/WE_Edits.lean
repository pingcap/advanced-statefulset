import Mathlib.Tactic
import Asts.Spec.WorldEdits
import Asts.Proofs.SY_b_Scaling

/-! # WE — what an edit of the set by its user does to the world (`Model/WorldEdits.lean`)

`applyEdit` touches nothing but the spec fields the edit names and the generation. An edit other than a template edit leaves
everything the resolution of the update revision reads (C08's `SameRevisionInputs`) as it is. -/
namespace Asts.WE
open Asts Asts.SYb

/-- replicas, delete-slots, pause, other metadata — and the partition, which the resolution of revisions does not read either -/
def keepsTemplate (e : Edit) : Bool := !e.isTemplate

/-- the edits C08 speaks about: replicas, delete-slots, the pause annotation, other metadata -/
def scalingOnly (e : Edit) : Bool := !e.isTemplate && !e.isPartition

theorem scalingOnly_keepsTemplate {e : Edit} (h : scalingOnly e = true) : keepsTemplate e = true := by
  unfold scalingOnly at h; unfold keepsTemplate; cases e <;> simp_all [Edit.isTemplate, Edit.isPartition]

theorem sri_refl (i : SyncIn) : SameRevisionInputs i i := ⟨rfl, rfl, rfl, rfl, rfl⟩

theorem sri_trans {a b c : SyncIn} (h1 : SameRevisionInputs a b) (h2 : SameRevisionInputs b c) :
    SameRevisionInputs a c :=
  ⟨h2.template.trans h1.template, h2.cc.trans h1.cc, h2.store.trans h1.store, h2.fresh.trans h1.fresh,
   h2.deleting.trans h1.deleting⟩

/-- the part of a world no edit touches: the API objects other than the set's spec and annotations -/
structure Frame (i i' : SyncIn) : Prop where
  store : i'.store = i.store
  pods : i'.pods = i.pods
  stored : i'.stored = i.stored
  cc : i'.collisionCount = i.collisionCount
  fresh : i'.fresh = i.fresh
  deleting : i'.view.deleting = i.view.deleting
  setName : i'.setName = i.setName
  selectorOk : i'.selectorOk = i.selectorOk
  historyLimit : i'.historyLimit = i.historyLimit
  parallel : i'.view.parallel = i.view.parallel
  strat : i'.view.strat = i.view.strat
  current : i'.view.stCurrentReplicas = i.view.stCurrentReplicas

theorem frame_refl (i : SyncIn) : Frame i i := ⟨rfl, rfl, rfl, rfl, rfl, rfl, rfl, rfl, rfl, rfl, rfl, rfl⟩

theorem frame_trans {a b c : SyncIn} (h1 : Frame a b) (h2 : Frame b c) : Frame a c :=
  ⟨h2.store.trans h1.store, h2.pods.trans h1.pods, h2.stored.trans h1.stored, h2.cc.trans h1.cc, h2.fresh.trans h1.fresh,
   h2.deleting.trans h1.deleting, h2.setName.trans h1.setName, h2.selectorOk.trans h1.selectorOk,
   h2.historyLimit.trans h1.historyLimit, h2.parallel.trans h1.parallel, h2.strat.trans h1.strat, h2.current.trans h1.current⟩

theorem editReplicas_frame (n : Int) (i : SyncIn) : Frame i (editReplicas n i) := by
  unfold editReplicas; split_ifs <;> exact ⟨rfl, rfl, rfl, rfl, rfl, rfl, rfl, rfl, rfl, rfl, rfl, rfl⟩
theorem editTemplate_frame (t : String) (i : SyncIn) : Frame i (editTemplate t i) := by
  unfold editTemplate; split_ifs <;> exact ⟨rfl, rfl, rfl, rfl, rfl, rfl, rfl, rfl, rfl, rfl, rfl, rfl⟩
theorem editPartition_frame (p : Option Int) (i : SyncIn) : Frame i (editPartition p i) := by
  unfold editPartition; split_ifs <;> exact ⟨rfl, rfl, rfl, rfl, rfl, rfl, rfl, rfl, rfl, rfl, rfl, rfl⟩

theorem applyEdit_frame (e : Edit) (i : SyncIn) : Frame i (applyEdit e i) := by
  cases e with
  | replicas n => exact editReplicas_frame n i
  | template t => exact editTemplate_frame t i
  | partition p => exact editPartition_frame p i
  | slots s => exact ⟨rfl, rfl, rfl, rfl, rfl, rfl, rfl, rfl, rfl, rfl, rfl, rfl⟩
  | pause on => exact ⟨rfl, rfl, rfl, rfl, rfl, rfl, rfl, rfl, rfl, rfl, rfl, rfl⟩
  | note x => exact ⟨rfl, rfl, rfl, rfl, rfl, rfl, rfl, rfl, rfl, rfl, rfl, rfl⟩

theorem editReplicas_template (n : Int) (i : SyncIn) : (editReplicas n i).template = i.template := by
  unfold editReplicas; split_ifs <;> rfl
theorem editPartition_template (p : Option Int) (i : SyncIn) : (editPartition p i).template = i.template := by
  unfold editPartition; split_ifs <;> rfl

theorem applyEdit_template (e : Edit) (i : SyncIn) (he : keepsTemplate e = true) : (applyEdit e i).template = i.template := by
  cases e with
  | replicas n => exact editReplicas_template n i
  | partition p => exact editPartition_template p i
  | template t => simp [keepsTemplate, Edit.isTemplate] at he
  | slots s => rfl
  | pause on => rfl
  | note x => rfl

theorem applyEdit_template_edit (t : String) (i : SyncIn) : (applyEdit (.template t) i).template = t := by
  show (editTemplate t i).template = t
  unfold editTemplate
  split_ifs with h
  · simpa using h
  · rfl

theorem applyEdit_pause (on : Bool) (i : SyncIn) : (applyEdit (.pause on) i).paused = on := rfl

theorem applyEdit_pause_eq (on : Bool) (i : SyncIn) : applyEdit (.pause on) i = { i with paused := on } := rfl

/-- **an edit other than a template edit keeps the inputs of the revision resolution** -/
theorem applyEdit_sameInputs (e : Edit) (i : SyncIn) (he : keepsTemplate e = true) : SameRevisionInputs i (applyEdit e i) := by
  have f := applyEdit_frame e i
  exact ⟨applyEdit_template e i he, f.cc, f.store, f.fresh, f.deleting⟩

theorem applyEdits_nil (i : SyncIn) : applyEdits [] i = i := rfl
theorem applyEdits_cons (e : Edit) (es : List Edit) (i : SyncIn) : applyEdits (e :: es) i = applyEdits es (applyEdit e i) := rfl

theorem applyEdits_frame (es : List Edit) (i : SyncIn) : Frame i (applyEdits es i) := by
  induction es generalizing i with
  | nil => exact frame_refl i
  | cons e es ih => exact frame_trans (applyEdit_frame e i) (ih _)

theorem applyEdits_setName (es : List Edit) (i : SyncIn) : (applyEdits es i).setName = i.setName :=
  (applyEdits_frame es i).setName

theorem applyEdits_sameInputs (es : List Edit) (i : SyncIn) (hes : ∀ e ∈ es, keepsTemplate e = true) :
    SameRevisionInputs i (applyEdits es i) := by
  induction es generalizing i with
  | nil => exact sri_refl i
  | cons e es ih =>
    rw [applyEdits_cons]
    exact sri_trans (applyEdit_sameInputs e i (hes e (by simp))) (ih _ (fun x hx => hes x (by simp [hx])))

/-- `settle` (the environment's step at the start of a round) keeps them too -/
theorem settle_sameInputs {i i' : SyncIn} (hs : SameRevisionInputs i i') : SameRevisionInputs (settle i) (settle i') := by
  refine ⟨hs.template, hs.cc, hs.store, ?_, hs.deleting⟩
  show ({ gone := false, uidOk := true, deleting := i'.view.deleting } : Fresh) = { gone := false, uidOk := true, deleting := i.view.deleting }
  rw [hs.deleting]

end Asts.WE
