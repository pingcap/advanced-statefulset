import Asts.Proofs.C02_BStep

/-! C02, general convergence: bounds on the two measures in terms of replicas and pods. -/
namespace Asts.C02p
open Asts Asts.L1c

theorem muPods_le_gen (x : SyncIn) (hnt : ∀ c ∈ x.pods, c.pod.terminating = false) :
    muPods x ≤ 4 * (replicasOf x.view).toNat + 2 * x.pods.length := by
  have hD : (desired (replicasOf x.view) x.view.slots).length = (replicasOf x.view).toNat := (desired_isDesired _ _).len
  have hw : ∀ o, wOf x.view (updName x) x.pods o ≤ 4 := by
    intro o
    unfold wOf
    cases hf : x.pods.find? (·.pod.ord == o) with
    | none => simp
    | some c => exact wPod_le_four (hnt c (List.mem_of_find?_eq_some hf))
  have hsum : ((desired (replicasOf x.view) x.view.slots).map (wOf x.view (updName x) x.pods)).sum
      ≤ 4 * (replicasOf x.view).toNat := by
    have := List.sum_le_card_nsmul ((desired (replicasOf x.view) x.view.slots).map (wOf x.view (updName x) x.pods)) 4
      (by intro y hy; rw [List.mem_map] at hy; obtain ⟨o, _, rfl⟩ := hy; exact hw o)
    rw [List.length_map, hD] at this
    simpa [Nat.mul_comm] using this
  have hfilt : (x.pods.filter (fun c => !(desired (replicasOf x.view) x.view.slots).contains c.pod.ord)).length ≤ x.pods.length :=
    List.length_filter_le _ _
  rw [muPods_eq]
  unfold muOf
  omega

theorem muL_le_gen (x : SyncIn) : muL x ≤ 4 * (replicasOf x.view).toNat + 3 * x.pods.length := by
  have hlen : (desired (replicasOf x.view) x.view.slots).length = (replicasOf x.view).toNat := (desired_isDesired _ _).len
  have hnd : (desired (replicasOf x.view) x.view.slots).Nodup := (desired_isDesired _ _).sorted.nodup
  unfold muL muLOf
  generalize desired (replicasOf x.view) x.view.slots = D at hlen hnd
  have hsum : (D.map (wLOf x.view (curNameOf x) (updName x) x.pods D)).sum ≤
      (D.map (fun o => 4 + (x.pods.filter (fun c => c.pod.ord == o)).length)).sum :=
    sum_map_le _ _ D (fun o _ => wLOf_le_count _ _ _ _ _ o)
  have hadd : ∀ D' : List Int, (D'.map (fun o => 4 + (x.pods.filter (fun c => c.pod.ord == o)).length)).sum =
      4 * D'.length + (D'.map (fun o => (x.pods.filter (fun c => c.pod.ord == o)).length)).sum := by
    intro D'
    induction D' with
    | nil => simp
    | cons a D' ih => simp only [List.map_cons, List.sum_cons, ih, List.length_cons]; omega
  rw [hadd] at hsum
  have h1 := sum_count_le D hnd x.pods
  have h2 : (x.pods.filter (fun c => !D.contains c.pod.ord)).length ≤ x.pods.length := List.length_filter_le _ _
  omega

end Asts.C02p
