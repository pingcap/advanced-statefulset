import Mathlib.Tactic
import Asts.Model.Sync
import Asts.Proofs.Sync_Claim
import Asts.Proofs.Sync_Revs

/-! # What each phase of `syncF` appends to the call log and does to the revision store -/

namespace Asts

theorem foldOk_stuck {α β} (xs : List α) (b : β) (f : β → α → β × Bool) :
    xs.foldl (fun (acc : β × Bool) x => if acc.2 then f acc.1 x else acc) (b, false) = (b, false) := by
  induction xs with
  | nil => rfl
  | cons x xs ih => simpa using ih

theorem foldOk_cons {α β} (x : α) (xs : List α) (b : β) (f : β → α → β × Bool) :
    foldOk (x :: xs) b f = if (f b x).2 then foldOk xs (f b x).1 f else ((f b x).1, false) := by
  unfold foldOk
  rw [List.foldl_cons]
  simp only [if_true]
  cases h : (f b x).2
  · have : f b x = ((f b x).1, false) := by rw [← h]
    rw [this, foldOk_stuck]; simp
  · have : f b x = ((f b x).1, true) := by rw [← h]
    rw [this]; simp

/-- an invariant of the state that every step preserves holds after the fold, wherever it stops -/
theorem foldOk_inv {α β} (P : β → Prop) (xs : List α) (init : β) (f : β → α → β × Bool)
    (h0 : P init) (hstep : ∀ b, ∀ x ∈ xs, P b → P (f b x).1) : P (foldOk xs init f).1 := by
  induction xs generalizing init with
  | nil => exact h0
  | cons x xs ih =>
    have hx := hstep init x List.mem_cons_self h0
    rw [foldOk_cons]
    by_cases h : (f init x).2 = true
    · rw [if_pos h]; exact ih _ hx (fun b y hy => hstep b y (List.mem_cons_of_mem _ hy))
    · rw [if_neg h]; exact hx

theorem listRevsF_store (plan : List Fault) (s : RevSt) : (listRevsF plan s).1.store = s.store := by
  unfold listRevsF
  simp only
  split
  · rfl
  · split <;> rfl

theorem listRevsF_some {plan : List Fault} {s : RevSt} {l : List Rev} (h : (listRevsF plan s).2 = some l) :
    l = listRevisions s.store := by
  unfold listRevsF at h
  simp only at h
  split at h
  · simp at h
  · split at h
    · simp at h
    · simpa using h.symm

/-- with an empty plan the listing never fails -/
theorem listRevsF_nil (s : RevSt) :
    listRevsF [] s = ({ s with tr := { log := s.tr.log ++ ["list:revs", "list:revs"] } }, some (listRevisions s.store)) := by
  unfold listRevsF
  simp [Tr.call]

end Asts

namespace Asts.SYa
open Asts

/-! ## log extensions -/

/-- `l'` is `l` plus entries that all satisfy `P` -/
def Ext (P : String → Prop) (l l' : List String) : Prop := ∃ ext, l' = l ++ ext ∧ ∀ e ∈ ext, P e

theorem Ext.refl {P : String → Prop} (l : List String) : Ext P l l := ⟨[], by simp, by simp⟩

theorem Ext.trans {P : String → Prop} {a b c : List String} (h1 : Ext P a b) (h2 : Ext P b c) : Ext P a c := by
  obtain ⟨e1, rfl, p1⟩ := h1
  obtain ⟨e2, rfl, p2⟩ := h2
  refine ⟨e1 ++ e2, by simp, ?_⟩
  intro e he
  rcases List.mem_append.1 he with he | he
  · exact p1 e he
  · exact p2 e he

theorem Ext.mono {P Q : String → Prop} {a b : List String} (h : ∀ e, P e → Q e) : Ext P a b → Ext Q a b := by
  rintro ⟨e, rfl, p⟩
  exact ⟨e, rfl, fun x hx => h x (p x hx)⟩

theorem Ext.one {P : String → Prop} (l : List String) {k : String} (hk : P k) : Ext P l (l ++ [k]) :=
  ⟨[k], rfl, by simpa using hk⟩

theorem Ext.append {P : String → Prop} (l : List String) {ks : List String} (hk : ∀ e ∈ ks, P e) : Ext P l (l ++ ks) :=
  ⟨ks, rfl, hk⟩

theorem Ext.all {P : String → Prop} {a b : List String} (h : Ext P a b) (ha : ∀ e ∈ a, P e) : ∀ e ∈ b, P e := by
  obtain ⟨e, rfl, p⟩ := h
  intro x hx
  rcases List.mem_append.1 hx with hx | hx
  · exact ha x hx
  · exact p x hx

theorem listRevsF_spec (plan : List Fault) (s : RevSt) :
    (listRevsF plan s).1.store = s.store ∧
    Ext (· = "list:revs") s.tr.log (listRevsF plan s).1.tr.log ∧
    ∀ l, (listRevsF plan s).2 = some l → l = listRevisions s.store := by
  have one : ∀ l : List String, Ext (· = "list:revs") l (l ++ ["list:revs"]) := fun l => Ext.one l rfl
  unfold listRevsF
  simp only [call_eq]
  cases look plan "list:revs" (occIn s.tr.log "list:revs") with
  | some k => exact ⟨rfl, one _, fun _ h => nomatch h⟩
  | none =>
    simp only
    cases look plan "list:revs" (occIn (s.tr.log ++ ["list:revs"]) "list:revs") with
    | some k => exact ⟨rfl, (one _).trans (one _), fun _ h => nomatch h⟩
    | none => exact ⟨rfl, (one _).trans (one _), fun _ h => (Option.some.inj h).symm⟩

theorem adoptF_deleting (plan : List Fault) (fresh : Fresh) (s : RevSt) :
    adoptOrphanRevisionsF plan true fresh s = (s, .ok) := by
  simp [adoptOrphanRevisionsF]

/-- what adoption may do to one stored revision: only its owner (nobody → this set, and only if an orphan of that name is
    listed) and its selector match (→ true, and only if a marker-carrying revision of that name is listed) can change -/
def AdoptG (L : List Rev) (x y : Rev) : Prop :=
  y.name = x.name ∧ y.number = x.number ∧ y.ctime = x.ctime ∧ y.data = x.data ∧ y.hashNum = x.hashNum ∧
  y.marker = x.marker ∧
  (y.owner = x.owner ∨ (y.owner = .self ∧ ∃ r ∈ L, r.owner = .none ∧ r.name = x.name)) ∧
  (y.selMatch = x.selMatch ∨ (y.selMatch = true ∧ ∃ r ∈ L, r.marker = true ∧ r.name = x.name))

theorem AdoptG.refl (L : List Rev) (x : Rev) : AdoptG L x x :=
  ⟨rfl, rfl, rfl, rfl, rfl, rfl, Or.inl rfl, Or.inl rfl⟩

def AdoptEntry (L : List Rev) (e : String) : Prop :=
  e = "list:revs" ∨ e = "get:set" ∨ (∃ r ∈ L, r.marker = true ∧ r.owner ≠ .other ∧ e = s!"update:rev:{r.name}") ∨
  (∃ r ∈ L, r.owner = .none ∧ e = s!"patch:rev:{r.name}")

/-- state invariant of the adoption phase -/
def AdoptSt (L st0 : List Rev) (log0 : List String) (s : RevSt) : Prop :=
  (∃ g : Rev → Rev, (∀ x, AdoptG L x (g x)) ∧ s.store = st0.map g) ∧ Ext (AdoptEntry L) log0 s.tr.log

theorem AdoptSt.log {L st0 log0} {s : RevSt} (h : AdoptSt L st0 log0 s) {t : Tr}
    (ht : Ext (AdoptEntry L) s.tr.log t.log) : AdoptSt L st0 log0 { s with tr := t } :=
  ⟨h.1, h.2.trans ht⟩

def setSel (name : String) (x : Rev) : Rev := if x.name == name then { x with selMatch := true } else x
def setOwn (name : String) (x : Rev) : Rev := if x.name == name then { x with owner := .self } else x

/-- label sync of one marker-carrying revision -/
def labelStep (plan : List Fault) (s : RevSt) (r : Rev) : RevSt × Bool :=
      if r.marker then
        let (t, e) := s.tr.call plan s!"update:rev:{r.name}"
        match e with
        | some _ => ({ s with tr := t }, false)
        | none => ({ store := s.store.map (setSel r.name), tr := t }, true)
      else (s, true)

/-- adoption of one orphan -/
def patchStep (plan : List Fault) (s : RevSt) (r : Rev) : RevSt × Bool :=
      if r.owner != .none then (s, true)          -- already controlled by this set
      else
        let (t, e) := s.tr.call plan s!"patch:rev:{r.name}"
        match e with
        | some _ => ({ s with tr := t }, false)
        | none => ({ store := s.store.map (setOwn r.name), tr := t }, true)

theorem adoptF_eq (plan : List Fault) (d : Bool) (fresh : Fresh) (s : RevSt) :
    adoptOrphanRevisionsF plan d fresh s =
      if d then (s, .ok) else
      match listRevsF plan s with
      | (s, none) => (s, .err)
      | (s, some revs) =>
        if !(revs.any (·.owner == .none)) then (s, .ok) else
        let r1 := foldOk revs s (labelStep plan)
        if !r1.2 then (r1.1, .err) else
        let s2 : RevSt := { r1.1 with tr := (r1.1.tr.call plan "get:set").1 }
        if (r1.1.tr.call plan "get:set").2.isSome || fresh.gone || !fresh.uidOk || fresh.deleting then (s2, .err) else
        let r2 := foldOk revs s2 (patchStep plan)
        (r2.1, if r2.2 then .ok else .err) := rfl

/-- an invariant of the state that the listing, the uncached read and every step of the adoption stage preserve holds
    after the stage; the adoption patches have to preserve it only when they can be issued: the cached set is not being
    deleted, and the read found the set present, with the cached uid and no deletion timestamp -/
theorem adoptF_inv (P : RevSt → Prop) (plan : List Fault) (d : Bool) (fresh : Fresh) (s : RevSt) (h0 : P s)
    (hlist : P (listRevsF plan s).1)
    (hlabel : ∀ b r, P b → P (labelStep plan b r).1)
    (hget : ∀ b : RevSt, P b → P { b with tr := (b.tr.call plan "get:set").1 })
    (hown : d = false → fresh.gone = false → fresh.uidOk = true → fresh.deleting = false →
      ∀ b r, P b → P (patchStep plan b r).1) :
    P (adoptOrphanRevisionsF plan d fresh s).1 := by
  rw [adoptF_eq]
  by_cases hd : d = true
  · rw [if_pos hd]; exact h0
  rw [if_neg hd]
  generalize listRevsF plan s = l at hlist
  obtain ⟨s1, _ | revs⟩ := l
  · exact hlist
  have h1 : P (foldOk revs s1 (labelStep plan)).1 := foldOk_inv P revs _ _ hlist (fun b r _ hb => hlabel b r hb)
  dsimp only
  by_cases ha : (!(revs.any (·.owner == .none))) = true
  · rw [if_pos ha]; exact hlist
  rw [if_neg ha]
  by_cases hb : (!(foldOk revs s1 (labelStep plan)).2) = true
  · rw [if_pos hb]; exact h1
  rw [if_neg hb]
  split
  · exact hget _ h1
  · rename_i hcond
    simp only [Bool.or_eq_true, not_or, Bool.not_eq_true, Bool.not_eq_true'] at hcond
    exact foldOk_inv P revs _ _ (hget _ h1)
      (fun b r _ hb => hown (Bool.eq_false_iff.2 hd) hcond.1.1.2 (by simpa using hcond.1.2) hcond.2 b r hb)

/-- the state after the label sync -/
def labelled (plan : List Fault) (s : RevSt) : RevSt :=
  (foldOk (listRevisions s.store) (listRevsF plan s).1 (labelStep plan)).1

/-- the state after the uncached read of the set -/
def confirmed (plan : List Fault) (s : RevSt) : RevSt :=
  { labelled plan s with tr := { log := (labelled plan s).tr.log ++ ["get:set"] } }

/-- the five exits of the adoption phase: a set that is being deleted does nothing; the listing failed or found no
    orphan; the label sync failed; the uncached read failed or did not confirm the set; the patches were issued, and then
    the read was not faulted and found the set present, with the cached uid and no deletion timestamp -/
theorem adoptF_exits (plan : List Fault) (d : Bool) (fresh : Fresh) (s : RevSt) (P : RevSt → Prop)
    (hdel : d = true → P s) (hlist : P (listRevsF plan s).1) (hlabel : P (labelled plan s))
    (hget : P (confirmed plan s))
    (hpatch : d = false → look plan "get:set" (occIn (labelled plan s).tr.log "get:set") = none →
      fresh.gone = false → fresh.uidOk = true → fresh.deleting = false →
      P (foldOk (listRevisions s.store) (confirmed plan s) (patchStep plan)).1) :
    P (adoptOrphanRevisionsF plan d fresh s).1 := by
  rw [adoptF_eq]
  cases d with
  | true => exact hdel rfl
  | false =>
    have hres := (listRevsF_spec plan s).2.2
    unfold confirmed labelled at hget hpatch
    unfold labelled at hlabel
    rcases hl : listRevsF plan s with ⟨s1, _ | revs⟩
    · rw [hl] at hlist; exact hlist
    rw [hl] at hres hlist hlabel hget hpatch
    obtain rfl : revs = listRevisions s.store := hres _ rfl
    simp only [Bool.false_eq_true, if_false]
    split
    · exact hlist
    split
    · exact hlabel
    split
    · exact hget
    · rename_i hcond
      simp only [call_eq, Bool.or_eq_true, Option.isSome_iff_ne_none, ne_eq, Bool.not_eq_true', not_or,
        Bool.not_eq_true, Decidable.not_not] at hcond
      exact hpatch rfl hcond.1.1.1 hcond.1.1.2 (by simpa using hcond.1.2) hcond.2

theorem labelStep_inv {plan : List Fault} {L st0 : List Rev} {log0 : List String} {b : RevSt} {r : Rev}
    (hr : r ∈ L) (hno : r.owner ≠ .other) (hb : AdoptSt L st0 log0 b) : AdoptSt L st0 log0 (labelStep plan b r).1 := by
  unfold labelStep
  by_cases hm : r.marker = true
  · have hent : AdoptEntry L s!"update:rev:{r.name}" := Or.inr (Or.inr (Or.inl ⟨r, hr, hm, hno, rfl⟩))
    simp only [hm, if_true, call_eq]
    split
    · exact hb.log (Ext.one _ hent)
    · obtain ⟨⟨g, hg, hgs⟩, hlg⟩ := hb
      refine ⟨⟨fun x => if (g x).name == r.name then { g x with selMatch := true } else g x, ?_, ?_⟩,
        hlg.trans (Ext.one _ hent)⟩
      · intro x
        obtain ⟨h1, h2, h3, h4, h5, h6, h7, h8⟩ := hg x
        by_cases hn : ((g x).name == r.name) = true
        · simp only [hn, if_true]
          refine ⟨h1, h2, h3, h4, h5, h6, h7, Or.inr ⟨rfl, r, hr, hm, ?_⟩⟩
          rw [← h1]; exact (by simpa using hn : (g x).name = r.name).symm
        · simp only [hn]; exact hg x
      · simp only [hgs, List.map_map]; rfl
  · simp only [hm]; exact hb

theorem patchStep_inv {plan : List Fault} {L st0 : List Rev} {log0 : List String} {b : RevSt} {r : Rev}
    (hr : r ∈ L) (hb : AdoptSt L st0 log0 b) : AdoptSt L st0 log0 (patchStep plan b r).1 := by
  unfold patchStep
  by_cases ho : (r.owner != .none) = true
  · rw [if_pos ho]; exact hb
  · have ho' : r.owner = .none := by simpa using ho
    have hent : AdoptEntry L s!"patch:rev:{r.name}" := Or.inr (Or.inr (Or.inr ⟨r, hr, ho', rfl⟩))
    rw [if_neg ho]
    simp only [call_eq]
    split
    · exact hb.log (Ext.one _ hent)
    · obtain ⟨⟨g, hg, hgs⟩, hlg⟩ := hb
      refine ⟨⟨fun x => if (g x).name == r.name then { g x with owner := .self } else g x, ?_, ?_⟩,
        hlg.trans (Ext.one _ hent)⟩
      · intro x
        obtain ⟨h1, h2, h3, h4, h5, h6, h7, h8⟩ := hg x
        by_cases hn : ((g x).name == r.name) = true
        · simp only [hn, if_true]
          refine ⟨h1, h2, h3, h4, h5, h6, Or.inr ⟨rfl, r, hr, ho', ?_⟩, h8⟩
          rw [← h1]; exact (by simpa using hn : (g x).name = r.name).symm
        · simp only [hn]; exact hg x
      · simp only [hgs, List.map_map]; rfl

theorem adoptF_spec (plan : List Fault) (d : Bool) (fresh : Fresh) (s : RevSt) :
    AdoptSt (listRevisions s.store) s.store s.tr.log (adoptOrphanRevisionsF plan d fresh s).1 := by
  have I0 : AdoptSt (listRevisions s.store) s.store s.tr.log s :=
    ⟨⟨id, fun x => AdoptG.refl _ x, (List.map_id _).symm⟩, Ext.refl _⟩
  obtain ⟨hst, hlog, _⟩ := listRevsF_spec plan s
  have I1 : AdoptSt (listRevisions s.store) s.store s.tr.log (listRevsF plan s).1 :=
    ⟨⟨id, fun x => AdoptG.refl _ x, by rw [hst, List.map_id]⟩, hlog.mono (fun e he => Or.inl he)⟩
  have I2 : AdoptSt (listRevisions s.store) s.store s.tr.log (labelled plan s) :=
    foldOk_inv _ _ _ _ I1 (fun b r hr hb => labelStep_inv hr (mem_listRevisions hr).2.2 hb)
  have I3 : AdoptSt (listRevisions s.store) s.store s.tr.log (confirmed plan s) :=
    I2.log (Ext.one _ (Or.inr (Or.inl rfl)))
  exact adoptF_exits plan d fresh s _ (fun _ => I0) I1 I2 I3
    (fun _ _ _ _ _ => foldOk_inv _ _ _ _ I3 (fun b r hr hb => patchStep_inv hr hb))

/-! ### adoption of revisions needs the same fresh confirmation -/

theorem labelStep_ext {plan : List Fault} {L : List Rev} {b : RevSt} {r : Rev} (hr : r ∈ L) :
    Ext (fun e => ∃ r ∈ L, r.marker = true ∧ e = s!"update:rev:{r.name}") b.tr.log (labelStep plan b r).1.tr.log := by
  unfold labelStep
  by_cases hm : r.marker = true
  · simp only [hm, if_true, call_eq]
    split
    · exact Ext.one _ ⟨r, hr, hm, rfl⟩
    · exact Ext.one _ ⟨r, hr, hm, rfl⟩
  · simp only [hm]; exact Ext.refl _

theorem patchStep_ext {plan : List Fault} {L : List Rev} {b : RevSt} {r : Rev} (hr : r ∈ L) :
    Ext (fun e => ∃ r ∈ L, r.owner = .none ∧ e = s!"patch:rev:{r.name}") b.tr.log (patchStep plan b r).1.tr.log := by
  unfold patchStep
  by_cases ho : (r.owner != .none) = true
  · rw [if_pos ho]; exact Ext.refl _
  · have ho' : r.owner = .none := by simpa using ho
    rw [if_neg ho]
    simp only [call_eq]
    split
    · exact Ext.one _ ⟨r, hr, ho', rfl⟩
    · exact Ext.one _ ⟨r, hr, ho', rfl⟩

/-- the calls of the adoption phase, by position: listing and label-sync updates, then — only if there is an orphan —
    the uncached read of the set, then adoption patches of listed orphans; a patch is issued only if that read was not
    faulted and found the set present, with the cached uid and no deletion timestamp, and the cached set is not being
    deleted -/
def AdoptLog (plan : List Fault) (d : Bool) (fresh : Fresh) (s : RevSt) (log : List String) : Prop :=
  ∃ L1 L2 : List String,
    log = s.tr.log ++ L1 ++ L2 ∧
    (∀ e ∈ L1, e = "list:revs" ∨ ∃ r ∈ listRevisions s.store, r.marker = true ∧ e = s!"update:rev:{r.name}") ∧
    (L2 = [] ∨ ∃ L2', L2 = "get:set" :: L2' ∧
      (∀ e ∈ L2', ∃ r ∈ listRevisions s.store, r.owner = .none ∧ e = s!"patch:rev:{r.name}") ∧
      (L2' ≠ [] → look plan "get:set" (occIn (s.tr.log ++ L1) "get:set") = none ∧
        fresh.gone = false ∧ fresh.uidOk = true ∧ fresh.deleting = false ∧ d = false))

theorem adoptF_confirmed (plan : List Fault) (d : Bool) (fresh : Fresh) (s : RevSt) :
    AdoptLog plan d fresh s (adoptOrphanRevisionsF plan d fresh s).1.tr.log := by
  -- up to the read: listing and label sync
  have E1 : Ext (fun e => e = "list:revs" ∨ ∃ r ∈ listRevisions s.store, r.marker = true ∧ e = s!"update:rev:{r.name}")
      s.tr.log (listRevsF plan s).1.tr.log := (listRevsF_spec plan s).2.1.mono (fun e h => Or.inl h)
  obtain ⟨L1, he, hall⟩ : Ext (fun e => e = "list:revs" ∨
      ∃ r ∈ listRevisions s.store, r.marker = true ∧ e = s!"update:rev:{r.name}") s.tr.log (labelled plan s).tr.log :=
    foldOk_inv (fun b : RevSt => Ext _ s.tr.log b.tr.log) _ _ _ E1
      (fun b r hr hb => hb.trans ((labelStep_ext (plan := plan) (b := b) hr).mono (fun e h => Or.inr h)))
  -- an exit before the read: nothing follows the first part
  have early : ∀ s' : RevSt, Ext (fun e => e = "list:revs" ∨
      ∃ r ∈ listRevisions s.store, r.marker = true ∧ e = s!"update:rev:{r.name}") s.tr.log s'.tr.log →
      AdoptLog plan d fresh s s'.tr.log :=
    fun s' ⟨ext, hext, hx⟩ => ⟨ext, [], by rw [List.append_nil]; exact hext, hx, Or.inl rfl⟩
  refine adoptF_exits plan d fresh s (fun s' => AdoptLog plan d fresh s s'.tr.log) (fun _ => early s (Ext.refl _))
    (early _ E1) (early _ ⟨L1, he, hall⟩) ?_ ?_
  · exact ⟨L1, ["get:set"], by rw [← he]; rfl, hall,
      Or.inr ⟨[], rfl, fun _ h => absurd h List.not_mem_nil, fun h => absurd rfl h⟩⟩
  · intro hd hlook hg hu hdl
    obtain ⟨L2', he2, hall2⟩ := foldOk_inv
      (fun b : RevSt => Ext (fun e => ∃ r ∈ listRevisions s.store, r.owner = .none ∧ e = s!"patch:rev:{r.name}")
        (s.tr.log ++ L1 ++ ["get:set"]) b.tr.log)
      (listRevisions s.store) (confirmed plan s) (patchStep plan) (by rw [← he]; exact Ext.refl _)
      (fun b r hr hb => hb.trans (patchStep_ext (plan := plan) (b := b) hr))
    refine ⟨L1, "get:set" :: L2', ?_, hall, Or.inr ⟨L2', rfl, hall2, fun _ => ⟨?_, hg, hu, hdl, hd⟩⟩⟩
    · rw [he2, List.append_assoc (s.tr.log ++ L1), List.singleton_append]
    · rw [← he]; exact hlook

/-- everything but the number -/
def SameButNumber (x y : Rev) : Prop :=
  y.name = x.name ∧ y.ctime = x.ctime ∧ y.data = x.data ∧ y.hashNum = x.hashNum ∧ y.marker = x.marker ∧
  y.owner = x.owner ∧ y.selMatch = x.selMatch

theorem SameButNumber.refl (x : Rev) : SameButNumber x x := ⟨rfl, rfl, rfl, rfl, rfl, rfl, rfl⟩

theorem renumberF_spec (plan : List Fault) (name : String) (n : Int) : ∀ (fuel : Nat) (s : RevSt),
    (∃ g : Rev → Rev, (∀ x, SameButNumber x (g x)) ∧ (renumberF plan name n fuel s).1.store = s.store.map g) ∧
    Ext (fun e => e = s!"update:rev:{name}" ∨ e = s!"get:rev:{name}") s.tr.log (renumberF plan name n fuel s).1.tr.log
  | 0, s => by
    simp only [renumberF]
    exact ⟨⟨id, SameButNumber.refl, (List.map_id _).symm⟩, Ext.refl _⟩
  | fuel + 1, s => by
    simp only [renumberF, call_eq]
    split
    · refine ⟨⟨fun r => if r.name == name then { r with number := n } else r, ?_, rfl⟩, Ext.one _ (Or.inl rfl)⟩
      intro x
      by_cases hn : (x.name == name) = true
      · simp only [hn, if_true]; exact ⟨rfl, rfl, rfl, rfl, rfl, rfl, rfl⟩
      · simp only [hn]; exact SameButNumber.refl x
    · rename_i k _
      have e2 : Ext (fun e => e = s!"update:rev:{name}" ∨ e = s!"get:rev:{name}") s.tr.log
          (s.tr.log ++ [s!"update:rev:{name}"] ++ [s!"get:rev:{name}"]) :=
        (Ext.one _ (Or.inl rfl)).trans (Ext.one _ (Or.inr rfl))
      split
      · obtain ⟨hg, hl⟩ := renumberF_spec plan name n fuel
          { store := s.store, tr := { log := s.tr.log ++ [s!"update:rev:{name}"] ++ [s!"get:rev:{name}"] } }
        exact ⟨hg, e2.trans hl⟩
      · exact ⟨⟨id, SameButNumber.refl, (List.map_id _).symm⟩, e2⟩

/-- the store after a create loop: unchanged, or one new revision, owned like the template revision, under a name that
    was free -/
def Created (o : Owner) (st st' : List Rev) : Prop :=
  st' = st ∨ ∃ r, st' = insertByName r st ∧ r.owner = o ∧ ∀ x ∈ st, x.name ≠ r.name

theorem createRevLoopF_spec (h : Hashing) (plan : List Fault) (fresh : Rev) :
    ∀ (fuel : Nat) (cc : Int) (s : RevSt),
    Created fresh.owner s.store (createRevLoopF h plan fresh fuel cc s).1.store ∧
    Ext (fun e => (∃ n : String, e = s!"create:rev:{n}") ∨ (∃ n : String, e = s!"get:rev:{n}")) s.tr.log
      (createRevLoopF h plan fresh fuel cc s).1.tr.log
  | 0, cc, s => by simp only [createRevLoopF]; exact ⟨Or.inl rfl, Ext.refl _⟩
  | fuel + 1, cc, s => by
    have e1 : Ext (fun e => (∃ n : String, e = s!"create:rev:{n}") ∨ (∃ n : String, e = s!"get:rev:{n}")) s.tr.log
        (s.tr.log ++ [s!"create:rev:{h.nameOf fresh.data cc}"]) := Ext.one _ (Or.inl ⟨h.nameOf fresh.data cc, rfl⟩)
    have e2 : Ext (fun e => (∃ n : String, e = s!"create:rev:{n}") ∨ (∃ n : String, e = s!"get:rev:{n}")) s.tr.log
        (s.tr.log ++ [s!"create:rev:{h.nameOf fresh.data cc}"] ++ [s!"get:rev:{h.nameOf fresh.data cc}"]) :=
      e1.trans (Ext.one _ (Or.inr ⟨h.nameOf fresh.data cc, rfl⟩))
    simp only [createRevLoopF, call_eq]
    split
    · -- created
      rename_i hk
      refine ⟨Or.inr ⟨_, rfl, rfl, ?_⟩, e1⟩
      intro x hx hxn
      -- the name was free, else the kind would have been AlreadyExists
      have hfind : (s.store.find? (fun x => x.name == h.nameOf fresh.data cc)).isSome = true := by
        rw [List.find?_isSome]; exact ⟨x, hx, by simpa using hxn⟩
      revert hk
      cases look plan s!"create:rev:{h.nameOf fresh.data cc}"
        (occIn s.tr.log s!"create:rev:{h.nameOf fresh.data cc}") <;> simp [hfind]
    · split
      · split
        · exact ⟨Or.inl rfl, e2⟩
        · obtain ⟨hc, hl⟩ := createRevLoopF_spec h plan fresh fuel (cc + 1)
            { store := s.store, tr := { log := s.tr.log ++ [s!"create:rev:{h.nameOf fresh.data cc}"] ++
                [s!"get:rev:{h.nameOf fresh.data cc}"] } }
          exact ⟨hc, e2.trans hl⟩
      · exact ⟨Or.inl rfl, e2⟩
    · exact ⟨Or.inl rfl, e1⟩

/-- entries of the revision-resolution phase: renumbering targets a revision of the list it was given -/
def GetRevEntry (revs : List Rev) (e : String) : Prop :=
  (∃ r ∈ revs, e = s!"update:rev:{r.name}") ∨ (∃ n : String, e = s!"get:rev:{n}") ∨ (∃ n : String, e = s!"create:rev:{n}")

/-- the store after revision resolution: numbers may have changed, or one fresh own revision was added -/
def Resolved (st st' : List Rev) : Prop :=
  (∃ g : Rev → Rev, (∀ x, SameButNumber x (g x)) ∧ st' = st.map g) ∨
  (∃ r, st' = insertByName r st ∧ r.owner = .self ∧ ∀ x ∈ st, x.name ≠ r.name)

theorem Resolved.refl (st : List Rev) : Resolved st st :=
  Or.inl ⟨id, SameButNumber.refl, (List.map_id _).symm⟩

/-- the revision a sync with this template would record -/
def freshRev (h : Hashing) (template : String) (cc0 : Int) (revs : List Rev) : Rev :=
  { name := h.nameOf template cc0, number := nextRevision revs, ctime := 0, data := template,
    hashNum := h.hashNumOf template cc0, owner := .self, selMatch := true, marker := false }

/-- the choice of the update revision inside `getRevisionsF` -/
def pickF (h : Hashing) (plan : List Fault) (fresh : Rev) (cc0 : Int) (revs : List Rev) (s : RevSt) :
    RevSt × Option (Rev × Int) :=
    match (revs.filter (fun r => equalRev r fresh)).getLast?, revs.getLast? with
    | some e, some l =>
      if equalRev l e then (s, some (l, cc0))
      else if e.number == fresh.number then (s, some (e, cc0))
      else
        let r := renumberF plan e.name fresh.number 4 s
        (r.1, if r.2 then some ({ e with number := fresh.number }, cc0) else none)
    | _, _ => createRevLoopF h plan fresh (s.store.length + 8) cc0 s

theorem getRevisionsF_eq (h : Hashing) (plan : List Fault) (template cur : String) (cc0 : Int) (revs : List Rev)
    (s : RevSt) :
    getRevisionsF h plan template cur cc0 revs s =
      match pickF h plan (freshRev h template cc0 revs) cc0 revs s with
      | (s, none) => (s, none)
      | (s, some (upd, cc)) => (s, some ((revs.find? (·.name == cur)).getD upd, upd, cc)) := rfl

theorem getRevisionsF_fst (h : Hashing) (plan : List Fault) (template cur : String) (cc0 : Int) (revs : List Rev)
    (s : RevSt) :
    (getRevisionsF h plan template cur cc0 revs s).1 = (pickF h plan (freshRev h template cc0 revs) cc0 revs s).1 := by
  rw [getRevisionsF_eq]
  rcases pickF h plan (freshRev h template cc0 revs) cc0 revs s with ⟨s', _ | ⟨upd, cc⟩⟩ <;> rfl

theorem pickF_spec (h : Hashing) (plan : List Fault) (fresh : Rev) (hf : fresh.owner = .self) (cc0 : Int)
    (revs : List Rev) (s : RevSt) :
    Resolved s.store (pickF h plan fresh cc0 revs s).1.store ∧
    Ext (GetRevEntry revs) s.tr.log (pickF h plan fresh cc0 revs s).1.tr.log := by
  unfold pickF
  split
  · rename_i e l he hl
    have hemem : e ∈ revs := (List.mem_filter.1 (List.mem_of_getLast? he)).1
    by_cases h1 : equalRev l e = true
    · rw [if_pos h1]; exact ⟨Resolved.refl _, Ext.refl _⟩
    rw [if_neg h1]
    by_cases h2 : (e.number == fresh.number) = true
    · rw [if_pos h2]; exact ⟨Resolved.refl _, Ext.refl _⟩
    rw [if_neg h2]
    obtain ⟨hg, hlg⟩ := renumberF_spec plan e.name fresh.number 4 s
    refine ⟨Or.inl hg, hlg.mono ?_⟩
    rintro x (hx | hx)
    · exact Or.inl ⟨e, hemem, hx⟩
    · exact Or.inr (Or.inl ⟨e.name, hx⟩)
  · obtain ⟨hc, hlg⟩ := createRevLoopF_spec h plan fresh (s.store.length + 8) cc0 s
    refine ⟨?_, hlg.mono ?_⟩
    · rcases hc with hc | hc
      · rw [hc]; exact Resolved.refl _
      · exact Or.inr (hf ▸ hc)
    · rintro x (hx | hx)
      · exact Or.inr (Or.inr hx)
      · exact Or.inr (Or.inl hx)

theorem getRevisionsF_spec (h : Hashing) (plan : List Fault) (template cur : String) (cc0 : Int) (revs : List Rev)
    (s : RevSt) :
    Resolved s.store (getRevisionsF h plan template cur cc0 revs s).1.store ∧
    Ext (GetRevEntry revs) s.tr.log (getRevisionsF h plan template cur cc0 revs s).1.tr.log := by
  rw [getRevisionsF_fst]
  exact pickF_spec h plan _ rfl cc0 revs s

theorem statusWriteF_spec (plan : List Fault) (gone : Bool) : ∀ (fuel : Nat) (t : Tr),
    Ext (· = "updatestatus") t.log (statusWriteF plan gone fuel t).1.log
  | 0, t => by simp only [statusWriteF]; exact Ext.refl _
  | fuel + 1, t => by
    have one : ∀ l : List String, Ext (· = "updatestatus") l (l ++ ["updatestatus"]) := fun l => Ext.one l rfl
    simp only [statusWriteF, call_eq]
    split
    · exact one _
    · split
      · exact one _
      · exact (one _).trans (statusWriteF_spec plan gone fuel _)
    · exact one _

def truncStep (plan : List Fault) (s : RevSt) (r : Rev) : RevSt × Bool :=
        let (t, e) := s.tr.call plan s!"delete:rev:{r.name}"
        let s := { s with tr := t }
        if e.isSome || !(s.store.any (·.name == r.name)) then (s, false)
        else ({ s with store := s.store.filter (·.name != r.name) }, true)

/-- the revisions `truncateF` regards as history -/
def historyOf (podRevs : List String) (revs : List Rev) (cur upd : Rev) : List Rev :=
  revs.filter (fun r => !(cur.name :: upd.name :: podRevs).contains r.name && r.owner == .self)

theorem truncateF_eq (plan : List Fault) (limit : Option Int) (podRevs : List String) (revs : List Rev)
    (cur upd : Rev) (s : RevSt) :
    truncateF plan limit podRevs revs cur upd s =
      match limit with
      | none => (s, .panic "nil *Spec.RevisionHistoryLimit (stateful_set_control.go)")
      | some lim =>
        if ((historyOf podRevs revs cur upd).length : Int) ≤ lim then (s, .ok)
        else
          let r := foldOk ((historyOf podRevs revs cur upd).take ((historyOf podRevs revs cur upd).length - lim.toNat)) s
            (truncStep plan)
          (r.1, if r.2 then .ok else .err) := rfl

/-- an invariant of the state that the deletion of every history revision preserves holds after the truncation -/
theorem truncateF_inv (P : RevSt → Prop) (plan : List Fault) (limit : Option Int) (podRevs : List String) (revs : List Rev)
    (cur upd : Rev) (s : RevSt) (h0 : P s)
    (hstep : ∀ b, ∀ r ∈ historyOf podRevs revs cur upd, P b → P (truncStep plan b r).1) :
    P (truncateF plan limit podRevs revs cur upd s).1 := by
  rw [truncateF_eq]
  cases limit with
  | none => exact h0
  | some lim =>
    dsimp only
    split
    · exact h0
    · exact foldOk_inv P _ s (truncStep plan) h0 (fun b r hr hb => hstep b r (List.mem_of_mem_take hr) hb)

theorem ite_fst_cases {α β : Type _} (c : Prop) [Decidable c] (a b : α × β) (P : α → Prop)
    (ha : P a.1) (hb : P b.1) : P (if c then a else b).1 := by
  split_ifs <;> assumption

theorem truncStep_cases (plan : List Fault) (b : RevSt) (r : Rev) :
    (truncStep plan b r).1.tr.log = b.tr.log ++ [s!"delete:rev:{r.name}"] ∧
    ((truncStep plan b r).1.store = b.store ∨ (truncStep plan b r).1.store = b.store.filter (·.name != r.name)) := by
  unfold truncStep
  simp only [call_eq]
  exact ite_fst_cases _ _ _
    (fun s' : RevSt => s'.tr.log = b.tr.log ++ [s!"delete:rev:{r.name}"] ∧
      (s'.store = b.store ∨ s'.store = b.store.filter (·.name != r.name)))
    ⟨rfl, Or.inl rfl⟩ ⟨rfl, Or.inr rfl⟩

/-- with the empty plan the deletion of revisions that are all stored, under pairwise different names, goes through:
    one call each, and they leave the store -/
theorem foldOk_truncStep_nil (victims : List Rev) (s : RevSt)
    (hin : ∀ r ∈ victims, s.store.any (·.name == r.name) = true) (hnd : (victims.map (·.name)).Nodup) :
    foldOk victims s (truncStep []) =
      ({ store := s.store.filter (fun x => !(victims.map (·.name)).contains x.name),
         tr := { log := s.tr.log ++ victims.map (fun r => s!"delete:rev:{r.name}") } }, true) := by
  induction victims generalizing s with
  | nil => simp [foldOk]
  | cons r rest ih =>
    rw [List.map_cons, List.nodup_cons] at hnd
    have hcall : s.tr.call [] s!"delete:rev:{r.name}" = ({ log := s.tr.log ++ [s!"delete:rev:{r.name}"] }, none) := rfl
    have hstep : truncStep [] s r =
        ({ store := s.store.filter (·.name != r.name), tr := { log := s.tr.log ++ [s!"delete:rev:{r.name}"] } }, true) := by
      unfold truncStep
      simp only [hcall, Option.isSome_none, Bool.false_or, hin r List.mem_cons_self, Bool.not_true, Bool.false_eq_true, if_false]
    rw [foldOk_cons, if_pos (by rw [hstep]), hstep]
    simp only
    rw [ih]
    · simp only [List.filter_filter, List.map_cons, List.append_assoc, List.singleton_append, Prod.mk.injEq, and_true]
      congr 1
      apply List.filter_congr
      intro x _
      simp only [List.contains_cons, Bool.not_or, bne, Bool.and_comm]
    · intro r' hr'
      have hne : r'.name ≠ r.name := by
        intro h
        apply hnd.1
        rw [← h]
        exact List.mem_map.2 ⟨r', hr', rfl⟩
      have := hin r' (List.mem_cons_of_mem _ hr')
      rw [List.any_eq_true] at this ⊢
      obtain ⟨x, hx, hxn⟩ := this
      refine ⟨x, List.mem_filter.2 ⟨hx, ?_⟩, hxn⟩
      have : x.name = r'.name := by simpa using hxn
      simp [this, hne]
    · exact hnd.2

theorem truncateF_spec (plan : List Fault) (limit : Option Int) (podRevs : List String) (revs : List Rev)
    (cur upd : Rev) (s : RevSt) :
    (∀ x ∈ (truncateF plan limit podRevs revs cur upd s).1.store, x ∈ s.store) ∧
    Ext (fun e => ∃ r ∈ revs, r.owner = .self ∧ e = s!"delete:rev:{r.name}") s.tr.log
      (truncateF plan limit podRevs revs cur upd s).1.tr.log := by
  refine truncateF_inv
    (fun (s' : RevSt) => (∀ x ∈ s'.store, x ∈ s.store) ∧
      Ext (fun e => ∃ r ∈ revs, r.owner = .self ∧ e = s!"delete:rev:{r.name}") s.tr.log s'.tr.log)
    plan limit podRevs revs cur upd s ⟨fun x hx => hx, Ext.refl _⟩ ?_
  intro b r hr ⟨hb1, hb2⟩
  have hr' := List.mem_filter.1 hr
  have hown : r.owner = .self := by
    have := hr'.2
    simp only [Bool.and_eq_true, beq_iff_eq] at this
    exact this.2
  have hent : ∃ r' ∈ revs, r'.owner = .self ∧ s!"delete:rev:{r.name}" = s!"delete:rev:{r'.name}" :=
    ⟨r, hr'.1, hown, rfl⟩
  obtain ⟨hl, hs⟩ := truncStep_cases plan b r
  refine ⟨?_, ?_⟩
  · intro x hx
    rcases hs with hs | hs
    · rw [hs] at hx; exact hb1 x hx
    · rw [hs] at hx; exact hb1 x (List.mem_filter.1 hx).1
  · rw [hl]; exact hb2.trans (Ext.one _ hent)

end Asts.SYa
