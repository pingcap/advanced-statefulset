import Asts.Proofs.C02_Par

/-! C02: the OrderedReady reconcile (no faults) on settled pods, call by call. -/
namespace Asts.C02p
open Asts Asts.L1c

/-- a settled pod the replica loop walks past -/
def Plain (q : Pod) : Prop := q.fs = false ∧ q.created = true ∧ q.runningAndReady = true ∧ q.terminating = false

/-- the identity update of one slot -/
def idUpd (i : Int) (q : Pod) : List Action := if q.idOk && q.stOk then [] else [.update i]

theorem mem_idUpd {i : Int} {q : Pod} {a : Action} (h : a ∈ idUpd i q) : a = .update i ∧ (q.idOk && q.stOk) = false := by
  unfold idUpd at h
  split_ifs at h with hc
  · cases h
  · simp only [List.mem_singleton] at h
    exact ⟨h, by simpa using hc⟩

theorem idUpd_of_bad {i : Int} {q : Pod} (h : (q.idOk && q.stOk) = false) : Action.update i ∈ idUpd i q := by
  unfold idUpd; simp [h]

theorem createsOf_idUpd (i : Int) (q : Pod) : createsOf (idUpd i q) = [] := by
  unfold idUpd; split_ifs <;> rfl

/-- the replica loop under OrderedReady: identity updates until the first slot that needs a pod, which it fills (after
    deleting a Failed/Succeeded occupant), and there it stops; the flag says whether it got through -/
def monoRep (v : SetView) (cur upd : String) : List (Int × Pod) → List Action × Bool
  | [] => ([], true)
  | (i, q) :: rest =>
    if q.fs then ([.delete i q.id .replaceFailed, .create i (newPod v cur upd i).rev], false)
    else if !q.created then ([.create i q.rev], false)
    else (idUpd i q ++ (monoRep v cur upd rest).1, (monoRep v cur upd rest).2)

theorem replicaStep_mono_plain (v : SetView) (cur upd : String) (s : St) (i : Int) (q : Pod) (hq : Plain q) :
    replicaStep v cur upd [] true s i q =
      (.next { s with acts := s.acts ++ idUpd i q }, q) := by
  obtain ⟨hfs, hcr, hrr, hnt⟩ := hq
  have hh : q.healthy = true := by rw [Pod.healthy, hrr, hnt]; rfl
  rw [replicaStep_keep _ _ _ _ _ _ _ hfs, ensurePod_created _ _ _ _ _ _ hcr, hh, idUpd]
  cases q.idOk && q.stOk
  · rfl
  · exact congrArg (fun l => (Ctl.next { s with acts := l }, q)) (List.append_nil _).symm

theorem replicaLoop_mono (v : SetView) (cur upd : String) (reps : List (Int × Pod))
    (hq : ∀ ip ∈ reps, Plain ip.2 ∨ ip.2.fs = true ∨ ip.2.created = false) (s : St) :
    ((monoRep v cur upd reps).2 = true →
      ∃ s', replicaLoop v cur upd [] true s reps = (.next s', reps) ∧ s'.acts = s.acts ++ (monoRep v cur upd reps).1) ∧
    ((monoRep v cur upd reps).2 = false →
      ∃ s' reps', replicaLoop v cur upd [] true s reps = (.done s' .ok, reps') ∧ s'.acts = s.acts ++ (monoRep v cur upd reps).1) := by
  induction reps generalizing s with
  | nil =>
    refine ⟨fun _ => ⟨s, rfl, by simp [monoRep]⟩, fun h => ?_⟩
    simp [monoRep] at h
  | cons ip rest ih =>
    obtain ⟨i, q⟩ := ip
    have hrest : ∀ ip ∈ rest, Plain ip.2 ∨ ip.2.fs = true ∨ ip.2.created = false := fun ip hip => hq ip (List.mem_cons_of_mem _ hip)
    cases hfs : q.fs
    · cases hcr : q.created
      · -- a vacancy: create, stop
        unfold monoRep replicaLoop
        simp only [hfs, Bool.false_eq_true, if_false, hcr, Bool.not_false, if_true]
        refine ⟨fun h => by simp at h, fun _ => ?_⟩
        rw [replicaStep_keep _ _ _ _ _ _ _ hfs, ensurePod_vacant _ _ _ _ _ _ hcr]
        exact ⟨_, _, rfl, rfl⟩
      · -- walked past
        have hp : Plain q := by
          rcases hq (i, q) List.mem_cons_self with hp | h | h
          · exact hp
          · exact absurd (hfs.symm.trans h) Bool.false_ne_true
          · exact absurd (h.symm.trans hcr) Bool.false_ne_true
        unfold monoRep replicaLoop
        simp only [hfs, Bool.false_eq_true, if_false, hcr, Bool.not_true]
        rw [replicaStep_mono_plain v cur upd s i q hp]
        simp only
        obtain ⟨ih1, ih2⟩ := ih hrest { s with acts := s.acts ++ idUpd i q }
        constructor
        · intro hfl
          obtain ⟨s', h1, h2⟩ := ih1 hfl
          refine ⟨s', by rw [h1], ?_⟩
          rw [h2]; simp
        · intro hfl
          obtain ⟨s', reps', h1, h2⟩ := ih2 hfl
          refine ⟨s', (i, q) :: reps', by rw [h1], ?_⟩
          rw [h2]; simp
    · -- a Failed/Succeeded occupant: delete, create, stop
      unfold monoRep replicaLoop
      simp only [hfs, if_true]
      refine ⟨fun h => by simp at h, fun _ => ?_⟩
      rw [replicaStep_replace _ _ _ _ _ _ _ hfs, ensurePod_vacant _ _ _ _ _ _ (newPod_created ..)]
      exact ⟨_, _, rfl, by simp [stepCreate, stepDelete]⟩

/-- the condemned loop under OrderedReady on Running/Ready, non-terminating pods: the first (highest) one is deleted -/
def monoCond : List Pod → List Action
  | [] => []
  | c :: _ => [.delete c.ord c.id .scaleDown]

theorem condemnedLoop_mono (cur upd : String) (fu : Option Pod) (cs : List Pod)
    (hcs : ∀ c ∈ cs, c.runningAndReady = true ∧ c.terminating = false) (s : St) :
    (cs = [] → condemnedLoop cur upd [] true fu s cs = .next s) ∧
    (cs ≠ [] → ∃ s', condemnedLoop cur upd [] true fu s cs = .done s' .ok ∧ s'.acts = s.acts ++ monoCond cs) := by
  cases cs with
  | nil => exact ⟨fun _ => rfl, fun h => absurd rfl h⟩
  | cons c rest =>
    refine ⟨(fun h => by cases h), fun _ => ?_⟩
    obtain ⟨hrr, hnt⟩ := hcs c List.mem_cons_self
    unfold condemnedLoop
    simp only [hnt, Bool.false_eq_true, if_false, hrr, Bool.not_true, Bool.false_and, hit_nil, if_true]
    exact ⟨_, rfl, rfl⟩

end Asts.C02p
