import Asts.Proofs.Rc_NoPanic
import Mathlib.Tactic

/-! # The fault list matters only at the calls that are issued

The fault list of a reconcile is consulted only at the moment a pod-control call is issued. Hence two fault lists that fail
the same calls among those a reconcile issues give the same reconcile (`runLoops_agree`). A call that is hit ends the
reconcile with `.err` on the spot (`SYc.runLoops_good`), so a reconcile that did NOT end `.err` ran exactly as the
fault-free one: `updateStatefulSet_frame`. This lifts the fault-free theorem C14 to every sync that ended `.ok`,
whatever its plan. -/
namespace Asts.GL
open Asts
open Asts.L1c (hit_nil)
open Asts.SYc (hitAct GoodCtl)

theorem acts_subset {f : Faults} {s : St} {c : Ctl} (h : GoodCtl f s c) : s.acts ⊆ c.st.acts := by
  intro a ha
  cases c with
  | next s' =>
    obtain ⟨l, e, -⟩ := h
    exact e ▸ List.mem_append_left l ha
  | done s' o =>
    rcases h with ⟨-, l, e, -⟩ | ⟨-, l, b, e, -⟩
    · exact e ▸ List.mem_append_left l ha
    · exact e ▸ List.mem_append_left [b] (List.mem_append_left l ha)

section
variable (v : SetView) (cur upd : String) (f g : Faults) (mono : Bool)

theorem ensurePod_agree (s : St) (i : Int) (p : Pod)
    (h : ∀ a ∈ (ensurePod cur upd f mono s i p).st.acts, hitAct f a = hitAct g a) :
    ensurePod cur upd f mono s i p = ensurePod cur upd g mono s i p := by
  cases hc : p.created
  · rw [L1c.ensurePod_vacant cur upd f mono s i hc] at h ⊢
    rw [L1c.ensurePod_vacant cur upd g mono s i hc]
    have hg : f.hit 0 i = g.hit 0 i := by
      refine h (.create i p.rev) ?_
      cases f.hit 0 i <;> cases mono <;> exact List.mem_append_right _ List.mem_cons_self
    rw [hg]
  · rw [L1c.ensurePod_created cur upd f mono s i hc] at h ⊢
    rw [L1c.ensurePod_created cur upd g mono s i hc]
    by_cases h1 : (!p.healthy && mono) = true
    · rw [if_pos h1, if_pos h1]
    rw [if_neg h1] at h ⊢
    rw [if_neg h1]
    by_cases h2 : (p.idOk && p.stOk) = true
    · rw [if_pos h2, if_pos h2]
    rw [if_neg h2] at h ⊢
    rw [if_neg h2]
    have hg : f.hit 2 i = g.hit 2 i := by
      refine h (.update i) ?_
      cases f.hit 2 i <;> exact List.mem_append_right _ List.mem_cons_self
    rw [hg]

theorem replicaStep_agree (s : St) (i : Int) (q : Pod)
    (h : ∀ a ∈ (replicaStep v cur upd f mono s i q).1.st.acts, hitAct f a = hitAct g a) :
    replicaStep v cur upd f mono s i q = replicaStep v cur upd g mono s i q := by
  cases hfs : q.fs
  · rw [L1c.replicaStep_keep v cur upd f mono s i hfs] at h ⊢
    rw [L1c.replicaStep_keep v cur upd g mono s i hfs, ensurePod_agree cur upd f g mono s i q h]
  · rw [L1c.replicaStep_replace v cur upd f mono s i hfs] at h ⊢
    rw [L1c.replicaStep_replace v cur upd g mono s i hfs]
    have hg : f.hit 1 i = g.hit 1 i := by
      refine h (.delete i q.id .replaceFailed) ?_
      by_cases hf : f.hit 1 i = true
      · rw [if_pos hf]
        exact List.mem_append_right s.acts List.mem_cons_self
      · rw [if_neg hf]
        exact acts_subset (SYc.ensurePod_good cur upd f mono (L1c.stepDelete cur upd s i q) i (newPod v cur upd i))
          (List.mem_append_right s.acts List.mem_cons_self)
    rw [← hg]
    by_cases hf : f.hit 1 i = true
    · rw [if_pos hf, if_pos hf]
    · rw [if_neg hf] at h ⊢
      rw [if_neg hf, ensurePod_agree cur upd f g mono (L1c.stepDelete cur upd s i q) i (newPod v cur upd i) h]

theorem replicaLoop_agree (R : List (Int × Pod)) (s : St)
    (h : ∀ a ∈ (replicaLoop v cur upd f mono s R).1.st.acts, hitAct f a = hitAct g a) :
    replicaLoop v cur upd f mono s R = replicaLoop v cur upd g mono s R := by
  induction R generalizing s with
  | nil => rfl
  | cons ip rest ih =>
    obtain ⟨i, q⟩ := ip
    rw [replicaLoop] at h ⊢
    rw [replicaLoop]
    rcases hs : replicaStep v cur upd f mono s i q with ⟨c, q'⟩
    rw [hs] at h
    cases c with
    | done s' o => rw [← replicaStep_agree v cur upd f g mono s i q (by rw [hs]; exact h), hs]
    | next s' =>
      have hsub := acts_subset (SYc.replicaLoop_good v cur upd f mono rest s')
      rw [← replicaStep_agree v cur upd f g mono s i q (by rw [hs]; exact fun a ha => h a (hsub ha)), hs]
      dsimp only
      rw [ih s' h]

theorem condemnedLoop_agree (fu : Option Pod) (cs : List Pod) (s : St)
    (h : ∀ a ∈ (condemnedLoop cur upd f mono fu s cs).st.acts, hitAct f a = hitAct g a) :
    condemnedLoop cur upd f mono fu s cs = condemnedLoop cur upd g mono fu s cs := by
  induction cs generalizing s with
  | nil => rfl
  | cons c rest ih =>
    rw [condemnedLoop] at h ⊢
    rw [condemnedLoop]
    by_cases ht : c.terminating = true
    · rw [if_pos ht] at h ⊢
      rw [if_pos ht]
      cases mono
      · exact ih s h
      · rfl
    rw [if_neg ht] at h ⊢
    rw [if_neg ht]
    by_cases hw : (!c.runningAndReady && mono && (fu.map (·.id) != some c.id)) = true
    · rw [if_pos hw, if_pos hw]
    rw [if_neg hw] at h ⊢
    rw [if_neg hw]
    have hmem : Action.delete c.ord c.id .scaleDown ∈ (L1c.stepScale cur upd s c).acts :=
      List.mem_append_right _ List.mem_cons_self
    have hg : f.hit 1 c.ord = g.hit 1 c.ord := by
      refine h (.delete c.ord c.id .scaleDown) ?_
      by_cases hf : f.hit 1 c.ord = true
      · rw [if_pos hf]
        exact hmem
      · rw [if_neg hf]
        cases mono
        · exact acts_subset (SYc.condemnedLoop_good cur upd f false fu rest (L1c.stepScale cur upd s c)) hmem
        · exact hmem
    rw [← hg]
    by_cases hf : f.hit 1 c.ord = true
    · rw [if_pos hf, if_pos hf]
    · rw [if_neg hf] at h ⊢
      rw [if_neg hf]
      cases mono
      · exact ih (L1c.stepScale cur upd s c) h
      · rfl

theorem updateWalk_agree (W : List (Int × Pod)) (s : St)
    (h : ∀ a ∈ (updateWalk cur upd f s W).1.acts, hitAct f a = hitAct g a) :
    updateWalk cur upd f s W = updateWalk cur upd g s W := by
  induction W with
  | nil => rfl
  | cons tp rest ih =>
    obtain ⟨t, p⟩ := tp
    rw [updateWalk] at h ⊢
    rw [updateWalk]
    by_cases h1 : (p.rev != upd && !p.terminating) = true
    · rw [if_pos h1] at h ⊢
      rw [if_pos h1]
      have hg : f.hit 1 t = g.hit 1 t := h (.delete t p.id .update) (List.mem_append_right _ List.mem_cons_self)
      rw [hg]
    rw [if_neg h1] at h ⊢
    rw [if_neg h1]
    by_cases h2 : (!p.healthy) = true
    · rw [if_pos h2, if_pos h2]
    rw [if_neg h2] at h ⊢
    rw [if_neg h2]
    exact ih h

theorem updateStage_agree (reps : List (Int × Pod)) (s : St)
    (h : ∀ a ∈ (updateStage v cur upd f reps s).1.acts, hitAct f a = hitAct g a) :
    updateStage v cur upd f reps s = updateStage v cur upd g reps s := by
  rw [updateStage] at h ⊢
  rw [updateStage]
  by_cases hod : (v.strat == .onDelete) = true
  · rw [if_pos hod, if_pos hod]
  · rw [if_neg hod] at h ⊢
    rw [if_neg hod]
    exact updateWalk_agree cur upd f g _ s h

theorem updateStage_subset (reps : List (Int × Pod)) (s : St) : s.acts ⊆ (updateStage v cur upd f reps s).1.acts := by
  rw [updateStage]
  by_cases hod : (v.strat == .onDelete) = true
  · rw [if_pos hod]
    exact List.Subset.refl _
  · rw [if_neg hod]
    exact acts_subset (c := .done _ _) (SYc.updateWalk_good cur upd f _ s)

/-- **Two fault lists that fail the same calls among those the loops issue give the same run.** -/
theorem runLoops_agree (p : Prepared)
    (h : ∀ a ∈ (runLoops v cur upd f p).1.acts, hitAct f a = hitAct g a) :
    runLoops v cur upd f p = runLoops v cur upd g p := by
  rw [runLoops] at h ⊢
  rw [runLoops]
  rcases hrl : replicaLoop v cur upd f (!v.parallel) { status := p.st0 } p.reps with ⟨c, reps'⟩
  rw [hrl] at h
  cases c with
  | done s o => rw [← replicaLoop_agree v cur upd f g (!v.parallel) p.reps { status := p.st0 } (by rw [hrl]; exact h), hrl]
  | next s =>
    dsimp only at h
    have hsub1 := acts_subset (SYc.condemnedLoop_good cur upd f (!v.parallel) p.fu p.condemned.reverse s)
    rcases hcl : condemnedLoop cur upd f (!v.parallel) p.fu s p.condemned.reverse with s2 | ⟨s2, o⟩
    · rw [hcl] at h hsub1
      dsimp only at h
      have hsub2 := updateStage_subset v cur upd f reps' s2
      rw [← replicaLoop_agree v cur upd f g (!v.parallel) p.reps { status := p.st0 } (by rw [hrl]; exact fun a ha => h a (hsub2 (hsub1 ha))), hrl]
      dsimp only
      rw [← condemnedLoop_agree cur upd f g (!v.parallel) p.fu p.condemned.reverse s (by rw [hcl]; exact fun a ha => h a (hsub2 ha)), hcl]
      exact updateStage_agree v cur upd f g reps' s2 h
    · rw [hcl] at h hsub1
      rw [← replicaLoop_agree v cur upd f g (!v.parallel) p.reps { status := p.st0 } (by rw [hrl]; exact fun a ha => h a (hsub1 ha)), hrl]
      dsimp only
      rw [← condemnedLoop_agree cur upd f g (!v.parallel) p.fu p.condemned.reverse s (by rw [hcl]; exact h), hcl]

theorem updateStatefulSet_agree (pods : List Pod)
    (h : ∀ a ∈ (updateStatefulSet v cur upd pods f).1.acts, hitAct f a = hitAct g a) :
    updateStatefulSet v cur upd pods f = updateStatefulSet v cur upd pods g := by
  cases hr : v.replicas with
  | none => rw [L1c.updateStatefulSet_none hr, L1c.updateStatefulSet_none hr]
  | some r =>
    rw [L1c.updateStatefulSet_some hr] at h ⊢
    rw [L1c.updateStatefulSet_some hr]
    by_cases hd : v.deleting = true
    · rw [if_pos hd, if_pos hd]
    · rw [if_neg hd] at h ⊢
      rw [if_neg hd]
      exact runLoops_agree v cur upd f g _ h

end

theorem hitAct_nil (a : Action) : hitAct [] a = false := by
  cases a <;> simp only [hitAct, hit_nil]

/-- a run of the loops that did not end `.err` hit no fault, so it is the fault-free run -/
theorem runLoops_frame (v : SetView) (cur upd : String) (f : Faults) (p : Prepared) :
    runLoops v cur upd f p = runLoops v cur upd [] p ∨ (runLoops v cur upd f p).2 = .err := by
  rcases SYc.runLoops_good v cur upd f p with ⟨-, l, e, c⟩ | ⟨ho, -⟩
  · have e' : (runLoops v cur upd f p).1.acts = l := e
    exact Or.inl (runLoops_agree v cur upd f [] p fun a ha => (c a (e' ▸ ha)).trans (hitAct_nil a).symm)
  · exact Or.inr ho

/-- **A reconcile that did not end `.err` ran exactly as the fault-free reconcile** — same actions, same status, same
    outcome — whatever its fault list. -/
theorem updateStatefulSet_frame (v : SetView) (cur upd : String) (pods : List Pod) (f : Faults) :
    updateStatefulSet v cur upd pods f = updateStatefulSet v cur upd pods [] ∨
    (updateStatefulSet v cur upd pods f).2 = .err := by
  cases hr : v.replicas with
  | none => exact Or.inl (by rw [L1c.updateStatefulSet_none hr, L1c.updateStatefulSet_none hr])
  | some r =>
    rw [L1c.updateStatefulSet_some hr, L1c.updateStatefulSet_some hr]
    by_cases hd : v.deleting = true
    · rw [if_pos hd, if_pos hd]
      exact Or.inl rfl
    · rw [if_neg hd, if_neg hd]
      exact runLoops_frame v cur upd f _

theorem updateStatefulSet_of_ok (v : SetView) (cur upd : String) (pods : List Pod) (f : Faults)
    (hok : (updateStatefulSet v cur upd pods f).2 = .ok) :
    updateStatefulSet v cur upd pods f = updateStatefulSet v cur upd pods [] := by
  rcases updateStatefulSet_frame v cur upd pods f with h | h
  · exact h
  · rw [hok] at h; cases h

end Asts.GL
