import Asts.Proofs.Sync_Phases

namespace Asts.SYb
open Asts SYa

theorem length_sortRevs (l : List Rev) : (sortRevs l).length = l.length := (sortRevs_perm l).length_eq

/-! ## the store after a label sync and an adoption that went through -/

def ownAll (N : List String) (x : Rev) : Rev := if N.contains x.name then { x with owner := .self } else x
def selAll (N : List String) (x : Rev) : Rev := if N.contains x.name then { x with selMatch := true } else x

theorem selAll_nil : selAll [] = id := by funext x; simp [selAll]
theorem ownAll_nil : ownAll [] = id := by funext x; simp [ownAll]

theorem selAll_fields (N : List String) (x : Rev) :
    (selAll N x).name = x.name ∧ (selAll N x).number = x.number ∧ (selAll N x).ctime = x.ctime ∧
    (selAll N x).data = x.data ∧ (selAll N x).hashNum = x.hashNum ∧ (selAll N x).marker = x.marker ∧
    (selAll N x).owner = x.owner := by
  unfold selAll; split <;> simp

theorem ownAll_fields (N : List String) (x : Rev) :
    (ownAll N x).name = x.name ∧ (ownAll N x).number = x.number ∧ (ownAll N x).ctime = x.ctime ∧
    (ownAll N x).data = x.data ∧ (ownAll N x).hashNum = x.hashNum ∧ (ownAll N x).marker = x.marker ∧
    (ownAll N x).selMatch = x.selMatch := by
  unfold ownAll; split <;> simp

theorem selAll_selMatch (N : List String) (x : Rev) : (selAll N x).selMatch = (x.selMatch || N.contains x.name) := by
  unfold selAll
  cases h1 : N.contains x.name
  · simp
  · simp

theorem ownAll_owner (N : List String) (x : Rev) : (ownAll N x).owner = if N.contains x.name then .self else x.owner := by
  unfold ownAll
  cases h1 : N.contains x.name
  · simp
  · simp

theorem selAll_cons (n : String) (N : List String) (x : Rev) : selAll N (setSel n x) = selAll (n :: N) x := by
  unfold selAll setSel
  by_cases h1 : x.name = n
  · simp [h1]
  · have h1' : (x.name == n) = false := by simpa using h1
    simp [h1, h1']

theorem ownAll_cons (n : String) (N : List String) (x : Rev) : ownAll N (setOwn n x) = ownAll (n :: N) x := by
  unfold ownAll setOwn
  by_cases h1 : x.name = n
  · simp [h1]
  · have h1' : (x.name == n) = false := by simpa using h1
    simp [h1, h1']

end Asts.SYb
