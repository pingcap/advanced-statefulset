import Asts.Proofs.C02_Store

/-! C02: structural facts about `syncF` under ANY fault plan: where its actions come from, what it can do to the revision
    store, and that a written status carries a collision count that did not go down. -/
namespace Asts.C02p
open Asts Asts.L1c

structure OutOk (i : SyncIn) (S : List Rev) (cc0 : Int) (o : SyncOut) : Prop where
  store : StoreLe S o.store
  cc : o.status.isSome = true → ∃ c, o.cc = some c ∧ cc0 ≤ c
  acts : ∀ a ∈ o.acts, ∃ cur upd pods f, a ∈ (updateStatefulSet i.view cur upd pods f).1.acts

theorem outOk_plain (i : SyncIn) (S : List Rev) (cc0 : Int) (log : List String) (st : List Rev) (cl : List CPod) (out : Outcome)
    (hs : StoreLe S st) : OutOk i S cc0 { log := log, store := st, claimed := cl, outcome := out } :=
  ⟨hs, (by intro h; cases h), (by intro a ha; cases ha)⟩

theorem finishCore_ok (i : SyncIn) (plan : List Fault) (claimed : List CPod) (revs : List Rev) (cur upd : Rev) (cc : Int)
    (s : RevSt) (st : St) (out : Outcome) (S : List Rev) (cc0 : Int) (hS : StoreLe S s.store) (hcc : cc0 ≤ cc)
    (hacts : ∀ a ∈ st.acts, ∃ cur upd pods f, a ∈ (updateStatefulSet i.view cur upd pods f).1.acts) :
    OutOk i S cc0 (SYa.finishCore i plan claimed revs cur upd cc s st out) := by
  rcases SYa.finishCore_cases i plan claimed revs cur upd cc s st out with
    ⟨_, e⟩ | ⟨_, _, _, e⟩ | ⟨_, _, _, t, rfl, e⟩ | ⟨_, _, t, rfl, e⟩
  · rw [e]; exact ⟨hS, fun (h : false = true) => (nomatch h), hacts⟩
  · rw [e]; exact ⟨hS, fun (h : false = true) => (nomatch h), hacts⟩
  · rw [e]
    exact ⟨hS.trans (truncateF_storeLe plan _ _ revs cur upd ⟨s.store, _⟩), fun _ => ⟨cc, rfl, hcc⟩, hacts⟩
  · rw [e]
    exact ⟨hS.trans (truncateF_storeLe plan _ _ revs cur upd s), fun (h : false = true) => (nomatch h), hacts⟩

theorem finishF_ok (i : SyncIn) (plan : List Fault) (claimed : List CPod) (revs : List Rev) (cur upd : Rev) (cc : Int)
    (s : RevSt) (S : List Rev) (cc0 : Int) (hS : StoreLe S s.store) (hcc : cc0 ≤ cc) :
    OutOk i S cc0 (SYa.finishF i plan claimed revs cur upd cc s) :=
  finishCore_ok i plan claimed revs cur upd cc _ _ _ S cc0 hS hcc (fun a ha => ⟨_, _, _, _, ha⟩)

theorem afterClaimF_ok (h : Hashing) (i : SyncIn) (plan : List Fault) (s : RevSt) (failed : Bool) (claimed : List CPod)
    (S : List Rev) (hS : StoreLe S s.store) :
    OutOk i S (i.collisionCount.getD 0) (SYa.afterClaimF h i plan s failed claimed) := by
  unfold SYa.afterClaimF
  by_cases hf : failed = true
  · rw [if_pos hf]; exact outOk_plain _ _ _ _ _ _ _ hS
  rw [if_neg hf]
  have hl := listRevsF_store plan s
  split
  · rename_i s1 heq
    rw [heq] at hl
    exact outOk_plain _ _ _ _ _ _ _ (by rw [show s1.store = s.store from hl]; exact hS)
  · rename_i s1 listed heq
    rw [heq] at hl
    have hS1 : StoreLe S s1.store := by rw [show s1.store = s.store from hl]; exact hS
    obtain ⟨g1, g2⟩ := getRevisionsF_spec h plan i.template i.stored.currentRev (i.collisionCount.getD 0) (sortRevs listed) s1
    split
    · rename_i s2 heq2
      rw [heq2] at g1
      exact outOk_plain _ _ _ _ _ _ _ (hS1.trans g1)
    · rename_i s2 cur upd cc heq2
      rw [heq2] at g1 g2
      exact finishF_ok _ _ _ _ _ _ _ _ _ _ (hS1.trans g1) (g2 _ _ _ rfl)

theorem syncF_ok (h : Hashing) (i : SyncIn) (plan : List Fault) :
    OutOk i i.store (i.collisionCount.getD 0) (syncF h i plan) := by
  rw [SYa.syncF_eq]
  split_ifs
  · exact ⟨StoreLe.refl _, (by intro h; cases h), (by intro a ha; cases ha)⟩
  · have ha := adopt_storeLe plan i.view.deleting i.fresh { store := i.store }
    split
    · rename_i s heq
      rw [heq] at ha
      exact afterClaimF_ok h i plan _ _ _ _ ha
    · rename_i s out heq
      rw [heq] at ha
      exact ⟨ha, (by intro h; cases h), (by intro a ha; cases ha)⟩

end Asts.C02p
