import Asts.Proofs.C02_Weights

/-! C02, policy-independent: the measure never goes up under a list of calls satisfying `ActFacts`, and goes down as soon as
    the list contains a create, a delete of a pod of the list, or an update of a live pod that lacks its identity. -/
namespace Asts.C02p
open Asts Asts.L1c

theorem settleOne_mkPod (s : String) (o : Int) (rev : String) :
    settleOne (mkPod s o rev) = { mkPod s o rev with pod := { (mkPod s o rev).pod with phase := .running, ready := true } } := by
  unfold settleOne
  simp [mkPod, Pod.failed, Pod.succeeded]

section
variable {v : SetView} {cur upd : String} {b : Int} {E : List Int} {setName : String} {P : List CPod} {acts : List Action}

theorem nextRawG_at_none (hc : PodsCtx setName P) (hf : ActFacts v cur upd b E P acts) {o : Int}
    (hnocre : ∀ rev, Action.create o rev ∉ acts)
    (hnosurv : ∀ c ∈ P, c.pod.ord = o → DelHits acts c.pod.id) :
    ∀ x ∈ nextRawG setName P acts, x.pod.ord ≠ o := by
  intro x hx hxo
  rcases nextRawG_mem hc hf hx with ⟨c, hcm, hnd, hsame, _⟩ | ⟨o', rev, hcr, rfl⟩
  · exact hnd (hnosurv c hcm (by rw [← hsame.ord]; exact hxo))
  · have : o' = o := by rw [← hxo, settleOne_ord]; rfl
    subst this
    exact hnocre rev hcr

theorem step_weightG (hc : PodsCtx setName P) (hf : ActFacts v cur upd b E P acts)
    (hpart : v.strat = .onDelete ∨ ∃ p, v.ru = some (some p) ∧ 0 ≤ p) {o : Int} (ho : inRange b E o = true) :
    wOf v upd (nextRawG setName P acts) o ≤ wOf v upd P o ∧
    ((∃ rev, Action.create o rev ∈ acts) → wOf v upd (nextRawG setName P acts) o < wOf v upd P o) ∧
    (∀ c ∈ P, c.pod.ord = o → DelHits acts c.pod.id → wOf v upd (nextRawG setName P acts) o < wOf v upd P o) ∧
    (∀ c ∈ P, c.pod.ord = o → c.pod.fs = false → c.pod.idOk = false → Action.update o ∈ acts →
      wOf v upd (nextRawG setName P acts) o < wOf v upd P o) := by
  have hndN := nextRawG_ords_nodup hc hf
  by_cases hcre : ∃ rev, Action.create o rev ∈ acts
  · -- a new pod at `o`: weight 0; before: a vacancy or a Failed/Succeeded pod
    obtain ⟨rev, hcr⟩ := hcre
    obtain ⟨_, hrev, hcase⟩ := hf.cre o rev hcr
    have hmem := nextRawG_new hc hf hcr
    have hord : (settleOne (mkPod setName o rev)).pod.ord = o := by rw [settleOne_ord]; rfl
    have hw := wOf_some (v := v) (upd := upd) hndN hmem
    rw [hord] at hw
    have hw0 : wOf v upd (nextRawG setName P acts) o = 0 := by
      rw [hw, settleOne_mkPod, wPod_live (by simp [Pod.fs, Pod.failed, Pod.succeeded]) rfl]
      simp only [mkPod]
      rw [hrev, outW_new v hpart]
      rfl
    have hold : 0 < wOf v upd P o := by
      rcases hcase with hnone | ⟨c, hcm, hco, hfs, _⟩
      · rw [wOf_none hnone]; omega
      · subst hco
        rw [wOf_some hc.ords hcm, wPod_fs hfs (hc.settled c hcm).1]; omega
    rw [hw0]
    exact ⟨by omega, fun _ => hold, fun _ _ _ _ => hold, fun _ _ _ _ _ _ => hold⟩
  · have hnocre : ∀ rev, Action.create o rev ∉ acts := fun rev h => hcre ⟨rev, h⟩
    -- a pod at `o` that is deleted and not replaced is a live pod RollingUpdate has to replace: it weighs at least 3, the
    -- vacancy it leaves 1
    have hdel : ∀ c ∈ P, c.pod.ord = o → DelHits acts c.pod.id →
        wOf v upd (nextRawG setName P acts) o < wOf v upd P o := by
      intro c hcm hco hd
      subst hco
      by_cases hfs : c.pod.fs = true
      · obtain ⟨rev, hcr⟩ := hf.delFs c hcm hd hfs ho
        exact absurd hcr (hnocre rev)
      · have hfs' : c.pod.fs = false := by simpa using hfs
        obtain ⟨hroll, hpt, hrev⟩ := hf.delLive c hcm hd hfs' ho
        have hnone := nextRawG_at_none hc hf hnocre (fun c' hc' hco' => by
          rw [hc.ord_inj hc' hcm hco']; exact hd)
        rw [wOf_none hnone, wOf_some hc.ords hcm, wPod_live hfs' (hc.settled c hcm).1, outW_out hroll hpt hrev]
        omega
    refine ⟨?_, fun h => absurd h hcre, hdel, ?_⟩
    · by_cases hex : ∃ c ∈ P, c.pod.ord = o
      · obtain ⟨c, hcm, rfl⟩ := hex
        by_cases hd : DelHits acts c.pod.id
        · exact (hdel c hcm rfl hd).le
        · have hnt := (hc.settled c hcm).1
          obtain ⟨x, hx, hsame, hntx, _⟩ := nextRawG_survivor (setName := setName) (acts := acts) hc hcm hd
          have hw := wOf_some (v := v) (upd := upd) hndN hx
          rw [hsame.ord] at hw
          rw [hw, wOf_some hc.ords hcm]
          by_cases hfs : c.pod.fs = true
          · have hfsx : x.pod.fs = true := hsame.fs.trans hfs
            rw [wPod_fs hfsx hntx, wPod_fs hfs hnt]
          · have hfs' : c.pod.fs = false := by simpa using hfs
            have hfsx : x.pod.fs = false := hsame.fs.trans hfs'
            rw [wPod_live hfsx hntx, wPod_live hfs' hnt, hsame.rev]
            by_cases hid : c.pod.idOk = true
            · rw [hsame.idOk hid, hid]
            · have : c.pod.idOk = false := by simpa using hid
              rw [this]
              simp only [Bool.false_eq_true, if_false]
              have : (if x.pod.idOk = true then 0 else 1) ≤ 1 := by split_ifs <;> omega
              omega
      · have hnone : ∀ c ∈ P, c.pod.ord ≠ o := fun c hcm hco => hex ⟨c, hcm, hco⟩
        have hnoneN := nextRawG_at_none hc hf hnocre (fun c hcm hco => absurd hco (hnone c hcm))
        rw [wOf_none hnone, wOf_none hnoneN]
    · intro c hcm hco hfs hid hu
      by_cases hd : DelHits acts c.pod.id
      · exact hdel c hcm hco hd
      · subst hco
        obtain ⟨x, hx, hsame, hntx, hupd⟩ := nextRawG_survivor (setName := setName) (acts := acts) hc hcm hd
        have hw := wOf_some (v := v) (upd := upd) hndN hx
        rw [hsame.ord] at hw
        have hfsx : x.pod.fs = false := hsame.fs.trans hfs
        have hidx : x.pod.idOk = true := hupd c.pod.ord hu (hc.own c hcm).2.2.2.1
        rw [hw, wOf_some hc.ords hcm, wPod_live hfsx hntx, wPod_live hfs (hc.settled c hcm).1, hsame.rev, hidx, hid]
        simp

/-- the pods outside the desired set: never more, fewer as soon as one of them is deleted -/
theorem step_condemnedG (hc : PodsCtx setName P) (hf : ActFacts v cur upd b E P acts) (D : List Int)
    (hD : ∀ o, o ∈ D ↔ inRange b E o = true) :
    ((nextRawG setName P acts).filter (fun c => !D.contains c.pod.ord)).length ≤
      (P.filter (fun c => !D.contains c.pod.ord)).length ∧
    ((∃ c ∈ P, c.pod.ord ∉ D ∧ DelHits acts c.pod.id) →
      ((nextRawG setName P acts).filter (fun c => !D.contains c.pod.ord)).length <
        (P.filter (fun c => !D.contains c.pod.ord)).length) := by
  set A := ((nextRawG setName P acts).filter (fun c => !D.contains c.pod.ord)).map (·.pod.ord) with hA
  set B := (P.filter (fun c => !D.contains c.pod.ord)).map (·.pod.ord) with hB
  have hAnd : A.Nodup := (List.Sublist.map _ List.filter_sublist).nodup (nextRawG_ords_nodup hc hf)
  have hBnd : B.Nodup := (List.Sublist.map _ List.filter_sublist).nodup hc.ords
  -- every pod of the next list outside `D` survives from a pod of the list that no delete hit
  have hsrc : ∀ o ∈ A, ∃ c ∈ P, c.pod.ord = o ∧ c.pod.ord ∉ D ∧ ¬ DelHits acts c.pod.id := by
    intro o ho
    rw [hA, List.mem_map] at ho
    obtain ⟨x, hx, rfl⟩ := ho
    rw [List.mem_filter] at hx
    have hq : x.pod.ord ∉ D := by simpa using hx.2
    rcases nextRawG_mem hc hf hx.1 with ⟨c, hcm, hnd, hsame, _⟩ | ⟨o', rev, hcr, rfl⟩
    · exact ⟨c, hcm, hsame.ord.symm, by rw [← hsame.ord]; exact hq, hnd⟩
    · exfalso
      apply hq
      rw [settleOne_ord]
      exact (hD _).2 (hf.cre o' rev hcr).1
  have hsub : A ⊆ B := by
    intro o ho
    obtain ⟨c, hcm, hco, hq, _⟩ := hsrc o ho
    rw [hB, List.mem_map]
    exact ⟨c, List.mem_filter.2 ⟨hcm, by simpa using hq⟩, hco⟩
  have hlenA : A.length = ((nextRawG setName P acts).filter (fun c => !D.contains c.pod.ord)).length := by simp [hA]
  have hlenB : B.length = (P.filter (fun c => !D.contains c.pod.ord)).length := by simp [hB]
  rw [← hlenA, ← hlenB]
  refine ⟨(List.subperm_of_subset hAnd hsub).length_le, ?_⟩
  rintro ⟨c0, hc0, hq0, hd0⟩
  have hc0B : c0.pod.ord ∈ B := by
    rw [hB, List.mem_map]
    exact ⟨c0, List.mem_filter.2 ⟨hc0, by simpa using hq0⟩, rfl⟩
  have hc0A : c0.pod.ord ∉ A := by
    intro h
    obtain ⟨c, hcm, hco, _, hnd⟩ := hsrc _ h
    rw [hc.ord_inj hcm hc0 hco] at hnd
    exact hnd hd0
  have hsub' : A ⊆ B.erase c0.pod.ord := by
    intro o ho
    rw [List.Nodup.mem_erase_iff hBnd]
    exact ⟨fun h => hc0A (h ▸ ho), hsub ho⟩
  have := (List.subperm_of_subset hAnd hsub').length_le
  rw [List.length_erase_of_mem hc0B] at this
  have hpos : 0 < B.length := List.length_pos_of_mem hc0B
  omega

/-- something the measure counts happens -/
def Event (b : Int) (E : List Int) (P : List CPod) (acts : List Action) : Prop :=
  (∃ o rev, Action.create o rev ∈ acts) ∨ (∃ c ∈ P, DelHits acts c.pod.id) ∨
  (∃ c ∈ P, inRange b E c.pod.ord = true ∧ c.pod.fs = false ∧ c.pod.idOk = false ∧ Action.update c.pod.ord ∈ acts)

/-- **the measure, generically**: never up; down whenever an `Event` happens -/
theorem mu_stepG (hc : PodsCtx setName P) (hf : ActFacts v cur upd b E P acts)
    (hpart : v.strat = .onDelete ∨ ∃ p, v.ru = some (some p) ∧ 0 ≤ p) (D : List Int)
    (hD : ∀ o, o ∈ D ↔ inRange b E o = true) :
    muOf v upd D (nextRawG setName P acts) ≤ muOf v upd D P ∧
    (Event b E P acts → muOf v upd D (nextRawG setName P acts) < muOf v upd D P) := by
  unfold muOf
  have hw := fun o (ho : o ∈ D) => step_weightG hc hf hpart ((hD o).1 ho)
  obtain ⟨hcle, hclt⟩ := step_condemnedG hc hf D hD
  obtain ⟨hle, hlt⟩ := sum_add_step (fun o ho => (hw o ho).1) hcle
  refine ⟨hle, fun hev => hlt ?_⟩
  rcases hev with ⟨o, rev, hcr⟩ | ⟨c, hcm, hd⟩ | ⟨c, hcm, hr, hfs, hid, hu⟩
  · have ho := (hD o).2 (hf.cre o rev hcr).1
    exact Or.inl ⟨o, ho, (hw o ho).2.1 ⟨rev, hcr⟩⟩
  · by_cases hr : inRange b E c.pod.ord = true
    · exact Or.inl ⟨_, (hD _).2 hr, (hw _ ((hD _).2 hr)).2.2.1 c hcm rfl hd⟩
    · exact Or.inr (hclt ⟨c, hcm, fun h => hr ((hD _).1 h), hd⟩)
  · exact Or.inl ⟨_, (hD _).2 hr, (hw _ ((hD _).2 hr)).2.2.2 c hcm rfl hfs hid hu⟩

end

end Asts.C02p
